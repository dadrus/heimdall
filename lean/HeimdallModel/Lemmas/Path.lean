import HeimdallModel.Base.Path
import HeimdallModel.Lemmas.Basic
/-! The two parsers of path expressions agree: `parseDel` (what `Delete` walks) finds the pattern `parsePat` registered. -/
namespace Heimdall

theorem parseDelToks_of_parseToks {toks : List Tok} {pat : List PTok} {keys : List String}
    (h : parseToks toks = .ok (pat, keys)) : parseDelToks toks = pat := by
  induction toks generalizing pat keys with
  | nil => cases h; rfl
  | cons tok rest ih =>
    cases tok with
    | sep =>
      obtain ⟨_, hr, he⟩ := bind_ok_iff.mp (show parseToks rest >>= _ = _ from h)
      cases he
      rw [parseDelToks, ih hr]
    | seg s =>
      unfold parseToks at h
      unfold parseDelToks
      cases hc : classifySeg s with
      | mk k name =>
        rw [hc] at h
        cases k
        case catchAll =>
          dsimp only at h
          split at h
          · cases h; rfl
          · cases h
        all_goals
          obtain ⟨_, hr, he⟩ := bind_ok_iff.mp (show parseToks rest >>= _ = _ from h)
          cases he
          rw [ih hr]

/-- the node `delNode` walks to is the node the expression was registered at -/
theorem parseDel_of_parsePat {e : String} {pat : List PTok} {keys : List String}
    (h : parsePat e = .ok (pat, keys)) : parseDel e = pat :=
  parseDelToks_of_parseToks h

end Heimdall
