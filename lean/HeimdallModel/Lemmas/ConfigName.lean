import HeimdallModel.Spec.Config
/-! Names of environment variables (property C20): the documented rule `envName` and the loader's reading `parseName` are
inverse on expressible paths (`parseName_envName`). Decimal numerals are read back (`parseNat_natDigits`), escaping a
property name is undone by the key normalisation (`normalizeKey_escapeKey`); a numeral is its own escaped form, so map keys
and list indices go through the same lemmas (`segOk_text`). Rests on the definitions only. Core Lean only. -/
namespace Heimdall.Config

/-! ## decimal numerals -/

theorem digitChar_charOk : ∀ d : Fin 10,
    charOk (digitChar d) = true ∧ (digitChar d).toUpper = digitChar d ∧ digitChar d ≠ '_' := by
  decide +kernel

theorem digitVal_digitChar (d : Nat) (h : d < 10) : digitVal (digitChar d) = some d :=
  (by decide +kernel : ∀ d : Fin 10, digitVal (digitChar d) = some d.val) ⟨d, h⟩

theorem natDigits_lt {n : Nat} (h : n < 10) : natDigits n = [digitChar n] := by
  rw [natDigits, dif_pos h]

theorem natDigits_ge {n : Nat} (h : ¬ n < 10) : natDigits n = natDigits (n / 10) ++ [digitChar (n % 10)] := by
  rw [natDigits, dif_neg h]

theorem div_ten_lt {n : Nat} (h : ¬ n < 10) : n / 10 < n :=
  Nat.div_lt_self (Nat.lt_of_lt_of_le (by decide) (Nat.le_of_not_lt h)) (by decide)

theorem natDigits_ne_nil (n : Nat) : natDigits n ≠ [] := by
  by_cases h : n < 10
  · rw [natDigits_lt h]; exact List.cons_ne_nil _ _
  · rw [natDigits_ge h]; exact List.append_ne_nil_of_right_ne_nil _ (List.cons_ne_nil _ _)

/-- what holds of the ten digit characters holds of every character of a numeral -/
theorem natDigits_forall {P : Char → Prop} (h : ∀ d, d < 10 → P (digitChar d)) (n : Nat) :
    ∀ c ∈ natDigits n, P c := by
  induction n using Nat.strongRecOn with
  | _ n ih =>
    intro c hc
    by_cases hn : n < 10
    · rw [natDigits_lt hn, List.mem_singleton] at hc; exact hc ▸ h n hn
    · rw [natDigits_ge hn] at hc
      rcases List.mem_append.mp hc with hc | hc
      · exact ih (n / 10) (div_ten_lt hn) c hc
      · exact List.mem_singleton.mp hc ▸ h _ (Nat.mod_lt n (by decide))

theorem fold_natDigits (n : Nat) :
    (natDigits n).foldl (fun acc c => acc.bind fun n => (digitVal c).map fun d => n * 10 + d) (some 0) = some n := by
  induction n using Nat.strongRecOn with
  | _ n ih =>
    by_cases h : n < 10
    · simp [natDigits_lt h, digitVal_digitChar n h]
    · rw [natDigits_ge h, List.foldl_append, ih (n / 10) (div_ten_lt h)]
      simp only [List.foldl_cons, List.foldl_nil, Option.bind_some,
        digitVal_digitChar _ (Nat.mod_lt n (by decide)), Option.map_some]
      exact congrArg some (Nat.div_add_mod' n 10)

theorem parseNat_natDigits (n : Nat) : parseNat? (natDigits n) = some n := by
  unfold parseNat?
  have : (natDigits n).isEmpty = false := by
    cases h : natDigits n with
    | nil => exact absurd h (natDigits_ne_nil n)
    | cons _ _ => rfl
  rw [this]
  exact fold_natDigits n

/-! ## names of variables: the documented rule and the loader's normalisation are inverse -/

theorem normalizeKey_uu (r : List Char) : normalizeKey ('_' :: '_' :: r) = '_' :: normalizeKey r := by simp [normalizeKey]

/- The equations of `normalizeKey` overlap; the one for a later pattern comes with the side conditions that the
   earlier patterns do not match, discharged here from `c ≠ '_'`. -/
theorem normalizeKey_u (c : Char) (r : List Char) (h : c ≠ '_') :
    normalizeKey ('_' :: c :: r) = '.' :: normalizeKey (c :: r) := by
  rw [normalizeKey]
  intro r' h'; simp at h'; exact absurd h'.1 h

theorem normalizeKey_char (c : Char) (r : List Char) (h : c ≠ '_') : normalizeKey (c :: r) = c.toLower :: normalizeKey r := by
  rw [normalizeKey]
  · intro r' h'; exact absurd h' h
  · intro h'; exact absurd h' h

theorem normalizeKey_escapeKey (k suffix : List Char) (hk : k.all charOk = true) :
    normalizeKey (escapeKey k ++ suffix) = k ++ normalizeKey suffix := by
  induction k with
  | nil => simp [escapeKey]
  | cons c r ih =>
    simp only [List.all_cons, Bool.and_eq_true] at hk
    by_cases hc : c = '_'
    · subst hc
      simp [escapeKey, normalizeKey_uu, ih hk.2]
    · have h1 := hk.1
      simp [charOk, hc] at h1
      simp only [escapeKey, hc, if_false, List.cons_append]
      rw [normalizeKey_char _ _ h1.2.1, h1.2.2, ih hk.2]

/-- the text of a segment inside a normalised key -/
def segText : Seg → List Char
  | .key k => k
  | .idx n => natDigits n

theorem keyOk_cons {k : Key} (h : keyOk k = true) :
    ∃ c r, k = c :: r ∧ c ≠ '_' ∧ k.all charOk = true ∧ parseNat? k = none := by
  cases k with
  | nil => cases h
  | cons c r =>
    simp only [keyOk, Bool.and_eq_true, bne_iff_ne, Option.isNone_iff_eq_none] at h
    exact ⟨c, r, rfl, h.1.1, h.1.2, h.2⟩

theorem segOf_segText {s : Seg} (h : segOk s = true) : segOf (segText s) = s := by
  cases s with
  | idx n => simp [segText, segOf, parseNat_natDigits]
  | key k =>
    obtain ⟨_, _, _, _, _, hn⟩ := keyOk_cons h
    simp only [segText, segOf, hn]

/-- a text without `_` and lower-case letters is its own escaped form -/
theorem escapeKey_self (l : List Char) (h : ∀ c ∈ l, c ≠ '_' ∧ c.toUpper = c) : escapeKey l = l := by
  induction l with
  | nil => rfl
  | cons c r ih =>
    have hc := h c (by simp)
    rw [escapeKey, if_neg hc.1, hc.2, ih fun x hx => h x (List.mem_cons_of_mem _ hx)]

/-- the text of an expressible segment: made of characters that survive the round trip, not starting with `_`, and
    the segment's name is its escaped form (a numeral is its own) -/
theorem segOk_text {s : Seg} (h : segOk s = true) :
    (segText s).all charOk = true ∧ segName s = escapeKey (segText s) ∧ ∃ c r, segText s = c :: r ∧ c ≠ '_' := by
  cases s with
  | key k =>
    obtain ⟨c, r, rfl, hc, hall, _⟩ := keyOk_cons h
    exact ⟨hall, rfl, c, r, rfl, hc⟩
  | idx n =>
    have hd := natDigits_forall (P := fun c => charOk c = true ∧ c.toUpper = c ∧ c ≠ '_')
      (fun d hd => digitChar_charOk ⟨d, hd⟩) n
    refine ⟨List.all_eq_true.mpr fun c hc => (hd c hc).1, (escapeKey_self _ fun c hc => ⟨(hd c hc).2.2, (hd c hc).2.1⟩).symm, ?_⟩
    cases e : natDigits n with
    | nil => exact absurd e (natDigits_ne_nil n)
    | cons c r => exact ⟨c, r, e, (hd c (e ▸ List.mem_cons_self ..)).2.2⟩

theorem segText_nodot {s : Seg} (h : segOk s = true) : (segText s).all (· != '.') = true := by
  refine List.all_eq_true.mpr fun x hx => ?_
  have := List.all_eq_true.mp (segOk_text h).1 x hx
  simp [charOk] at this; simp [this.1.1]

theorem normalizeKey_segName (s : Seg) (suffix : List Char) (h : segOk s = true) :
    normalizeKey (segName s ++ suffix) = segText s ++ normalizeKey suffix := by
  rw [(segOk_text h).2.1]; exact normalizeKey_escapeKey _ _ (segOk_text h).1

theorem segName_head (s : Seg) (h : segOk s = true) : ∃ c r, segName s = c :: r ∧ c ≠ '_' := by
  obtain ⟨hall, he, c, r, hcr, hc⟩ := segOk_text h
  rw [hcr] at hall he
  have h1 := List.all_eq_true.mp hall c (by simp)
  simp [charOk, hc] at h1
  exact ⟨c.toUpper, escapeKey r, by rw [he, escapeKey, if_neg hc], h1.2.1⟩
theorem envName_head (s : Seg) (r : Path) (h : segOk s = true) : ∃ c t, envName (s :: r) = c :: t ∧ c ≠ '_' := by
  obtain ⟨c, t, hc, hne⟩ := segName_head s h
  cases r with
  | nil => exact ⟨c, t, by simp [envName, hc], hne⟩
  | cons u r => exact ⟨c, t ++ '_' :: envName (u :: r), by simp [envName, hc], hne⟩

theorem splitDots_nodot (s : List Char) (h : s.all (· != '.') = true) : splitDots s = [s] := by
  induction s with
  | nil => rfl
  | cons c r ih =>
    simp only [List.all_cons, Bool.and_eq_true, bne_iff_ne] at h
    simp [splitDots, h.1, ih h.2]

theorem splitDots_append (s rest : List Char) (h : s.all (· != '.') = true) :
    splitDots (s ++ '.' :: rest) = s :: splitDots rest := by
  induction s with
  | nil => simp [splitDots]
  | cons c r ih =>
    simp only [List.all_cons, Bool.and_eq_true, bne_iff_ne] at h
    simp [splitDots, h.1, ih h.2]

/-- the loader's reading of a variable name inverts the documented naming rule: segment by segment, the `_` before
    the next segment becomes the `.` the key is split at (that segment's name does not start with `_`) -/
theorem parseName_envName (p : Path) (h : pathOk p = true) : parseName (envName p) = p := by
  simp only [pathOk, Bool.and_eq_true, Bool.not_eq_true', List.isEmpty_eq_false_iff] at h
  obtain ⟨hne, hok⟩ := h
  induction p with
  | nil => exact absurd rfl hne
  | cons s r ih =>
    simp only [List.all_cons, Bool.and_eq_true] at hok
    cases r with
    | nil =>
      have := normalizeKey_segName s [] hok.1
      rw [List.append_nil] at this
      simp [parseName, envName, this, normalizeKey, splitDots_nodot _ (segText_nodot hok.1), segOf_segText hok.1]
    | cons t r =>
      have ih := ih (by simp) hok.2
      simp only [List.all_cons, Bool.and_eq_true] at hok
      obtain ⟨c, u, hc, hc'⟩ := envName_head t r hok.2.1
      rw [parseName] at ih ⊢
      rw [envName, normalizeKey_segName s _ hok.1, hc, normalizeKey_u c u hc', ← hc, splitDots_append _ _ (segText_nodot hok.1),
        List.map_cons, ih, segOf_segText hok.1]

end Heimdall.Config
