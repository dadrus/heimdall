import HeimdallModel.Spec.Crash
import HeimdallModel.Lemmas.Basic
/-!
# Lemmas about the loaders model (property C19)

Every loader is measured by one bound, `Out.within`, with two tolerances: it panics only if that is tolerated
(a check is missing, something recovers), and it ends fatally only if that is tolerated (which only the certificate
walk without its visited check needs); the lemmas follow `Model/Loaders.lean` definition by definition. Every reload
is `commit` of a load. Core Lean only.
-/
namespace Heimdall.Loaders

@[simp] theorem bind_eq {α β : Type} (o : Out α) (f : α → Out β) : (o >>= f) = o.bind f := rfl
@[simp] theorem pure_eq {α : Type} (a : α) : (pure a : Out α) = .ok a := rfl

@[simp] theorem Out.bind_ok {α β : Type} (a : α) (f : α → Out β) : (Out.ok a).bind f = f a := rfl
@[simp] theorem Out.bind_err {α β : Type} (r : Reason) (f : α → Out β) : (Out.err r : Out α).bind f = .err r := rfl
@[simp] theorem Out.bind_panic {α β : Type} (f : α → Out β) : (Out.panic : Out α).bind f = .panic := rfl
@[simp] theorem Out.bind_fatal {α β : Type} (f : α → Out β) : (Out.fatal : Out α).bind f = .fatal := rfl

@[simp] theorem Out.returns_ok {α : Type} (a : α) : (Out.ok a).returns = true := rfl
@[simp] theorem Out.returns_err {α : Type} (r : Reason) : (Out.err r : Out α).returns = true := rfl
@[simp] theorem Out.returns_panic {α : Type} : (Out.panic : Out α).returns = false := rfl
@[simp] theorem Out.returns_fatal {α : Type} : (Out.fatal : Out α).returns = false := rfl

theorem Out.returns_iff {α : Type} (o : Out α) : o.returns = true ↔ o ≠ .panic ∧ o ≠ .fatal := by
  cases o <;> simp [Out.returns]

theorem Out.recovered_ok {α : Type} (o : Out α) (a : α) : o.recovered = .ok a ↔ o = .ok a := by
  cases o <;> simp [Out.recovered]

theorem Out.bind_eq_ok {α β : Type} {o : Out α} {f : α → Out β} {b : β} (h : o.bind f = .ok b) :
    ∃ a, o = .ok a ∧ f a = .ok b := by
  cases o with
  | ok a => exact ⟨a, rfl, h⟩
  | _ => cases h

/-- the call ended in a way that is tolerated: with a panic only if `panicOk` (something recovers), fatally only if
`fatalOk` (nothing recovers from that: only a bound on what a call may do, never a tolerance of a goroutine) -/
def Out.within {α : Type} (panicOk : Bool) (fatalOk : Bool := false) : Out α → Bool
  | .ok _ => true
  | .err _ => true
  | .panic => panicOk
  | .fatal => fatalOk

theorem Out.within_false {α : Type} (o : Out α) : o.within false = o.returns := by cases o <;> rfl

theorem Out.ne_panic_of_within {α : Type} {o : Out α} {f : Bool} (h : o.within false f = true) : o ≠ .panic := by
  rintro rfl
  cases h

theorem Out.ne_fatal_of_within {α : Type} {o : Out α} {p : Bool} (h : o.within p = true) : o ≠ .fatal := by
  rintro rfl
  cases h

theorem Out.within_weaken {α : Type} {o : Out α} {a b f : Bool} (h : o.within a f = true) (hab : a = true → b = true) :
    o.within b f = true := by
  cases o with
  | panic => exact hab h
  | _ => exact h

/-- defence in depth: what panics only for want of a check is survived where the check is there or something recovers -/
theorem Out.within_or {α : Type} {o : Out α} {check guard f : Bool} (h : o.within (!check) f = true)
    (hs : (check || guard) = true) : o.within guard f = true :=
  Out.within_weaken h fun hc => by rwa [(Bool.not_eq_true' _).mp hc] at hs

theorem Out.within_bind {α β : Type} {b f : Bool} {o : Out α} {k : α → Out β}
    (ho : o.within b f = true) (hk : ∀ a, o = .ok a → (k a).within b f = true) : (o.bind k).within b f = true := by
  cases o with
  | ok a => exact hk a rfl
  | _ => exact ho

/-- a check in front of a panic: with it an error, without it the panic -/
theorem Out.within_guard {α : Type} (check : Bool) (r : Reason) {f : Bool} :
    (if check = true then .err r else .panic : Out α).within (!check) f = true := by
  cases check <;> rfl

theorem Out.recovered_within {α : Type} {o : Out α} {f : Bool} (h : o.within true f = true) :
    o.recovered.within false f = true := by
  cases o <;> first | rfl | exact h

/-- the shape of every reload of the model (`OnChanged` of the key stores and of the redis credentials, a changed
rule file): what a successful load yields is stored at the very end, every other outcome is passed on and leaves the
state alone -/
def commit {α σ : Type} (o : Out α) (store : α → σ) (st : σ) : Out Unit × σ :=
  match o with
  | .ok a => (.ok (), store a)
  | .err r => (.err r, st)
  | .panic => (.panic, st)
  | .fatal => (.fatal, st)

theorem commit_state {α σ : Type} (o : Out α) (store : α → σ) (st : σ) :
    (commit o store st).2 = orKeep ((accepted o).map store) st := by
  cases o <;> rfl

theorem commit_outcome {α σ : Type} (o : Out α) (store : α → σ) (st : σ) (b : Bool) (f : Bool := false) :
    (commit o store st).1.within b f = o.within b f := by
  cases o <;> rfl

theorem commit_accepted {α σ : Type} {o : Out α} {a : α} (h : o = .ok a) (store : α → σ) (st : σ) :
    commit o store st = (.ok (), store a) := h ▸ rfl

theorem commit_rejected {α σ : Type} {o : Out α} (h : o.isOk = false) (store : α → σ) (st : σ) :
    (commit o store st).2 = st := by
  cases o <;> first | rfl | cases h

theorem commit_isOk {α σ : Type} (o : Out α) (store : α → σ) (st : σ) : (commit o store st).1.isOk = o.isOk := by
  cases o <;> rfl

/-- the judgement of the specification on a reload of this shape: admissible exactly if the load returns (`view`
is how the judged state is read off the stored one) -/
theorem commit_admissible {α σ τ : Type} [DecidableEq τ] (view : σ → Option τ) (o : Out α) (store : α → σ) (st : σ) :
    reloadAdmissible (view st) (commit o store st).1 (view (commit o store st).2) = o.returns := by
  cases o <;> simp [commit, reloadAdmissible]

theorem ite_both {α : Sort _} {P : α → Prop} {c : Prop} [Decidable c] {a b : α} (ha : P a) (hb : P b) :
    P (if c then a else b) := by
  split <;> assumption

/-- the shape of the "… if and only if the check is there" results: the check secures the guarantee, and without it
some input refutes it -/
theorem iff_check {P : Prop} {check : Bool} (suff : check = true → P) (nec : check = false → ¬P) :
    P ↔ check = true :=
  ⟨fun h => Bool.of_not_eq_false fun hc => nec hc h, suff⟩

/-- the certificates of the pool the walk has not used yet -/
def unvisited (vis pool : List Cert) : List Cert := pool.filter fun c => !visited vis c

theorem visited_append (a b : List Cert) (c : Cert) : visited (a ++ b) c = (visited a c || visited b c) := by
  simp [visited]

theorem unvisited_snoc_lt {v pool : List Cert} {cand : Cert} (hm : cand ∈ pool) (hv : visited v cand = false) :
    (unvisited (v ++ [cand]) pool).length < (unvisited v pool).length := by
  have hEq : unvisited (v ++ [cand]) pool = (unvisited v pool).filter fun c => !(cand.cid == c.cid) := by
    simp only [unvisited, List.filter_filter]
    congr 1
    funext c
    simp [visited, Bool.and_comm]
  rw [hEq]
  exact List.length_filter_lt_length_iff_exists.mpr ⟨cand, by simp [unvisited, hm, hv], by simp⟩

theorem nextIssuer_some {g : Guards} {done : List Cert} {child cand : Cert} {pool : List Cert}
    (h : nextIssuer g done child pool = some cand) :
    cand ∈ pool ∧ cand.cid ≠ child.cid ∧ (g.chainVisited = true → visited done cand = false) ∧
      isIssuerOf child cand = true := by
  have hp := List.find?_some h
  simp only [Bool.and_eq_true, Bool.not_eq_true', beq_eq_false_iff_ne, ne_eq] at hp
  exact ⟨List.mem_of_find?_eq_some h, hp.1.1, fun hg => by simpa [hg] using hp.1.2, hp.2⟩

/-- With the visited check the recursion of `buildChain` ends as soon as the fuel exceeds the number
of certificates not yet in the chain; the chain it returns starts with what was there and stays inside the pool. -/
theorem buildChain_ends (g : Guards) (hg : g.chainVisited = true) (pool : List Cert) :
    ∀ (fuel : Nat) (done : List Cert) (child : Cert), (unvisited (done ++ [child]) pool).length < fuel →
      ∃ chain, buildChain g fuel done child pool = some chain ∧ (done ++ [child]) <+: chain ∧
        ∀ c ∈ chain, c ∈ done ++ [child] ∨ c ∈ pool := by
  intro fuel
  induction fuel with
  | zero => intro _ _ h; omega
  | succ n ih =>
    intro done child h
    unfold buildChain
    split
    · exact ⟨_, rfl, List.prefix_refl _, fun c hc => Or.inl hc⟩
    · rename_i cand hn
      obtain ⟨hm, hne, hv, _⟩ := nextIssuer_some hn
      have hvis : visited (done ++ [child]) cand = false := by
        rw [visited_append, hv hg]
        simp [visited, Ne.symm hne]
      have := unvisited_snoc_lt hm hvis
      obtain ⟨chain, hb, hpre, hin⟩ := ih (done ++ [child]) cand (by omega)
      refine ⟨chain, hb, List.IsPrefix.trans (List.prefix_append _ _) hpre, fun c hc => ?_⟩
      rcases hin c hc with h1 | h1
      · rcases List.mem_append.mp h1 with h2 | h2
        · exact Or.inl h2
        · cases List.mem_singleton.mp h2
          exact Or.inr hm
      · exact Or.inr h1

/-- `FindChain` gives the walk one call more than there are certificates, which is enough -/
theorem buildChain_start (g : Guards) (hg : g.chainVisited = true) (certs : List Cert) (c : Cert) :
    ∃ chain, buildChain g (certs.length + 1) [] c certs = some chain ∧ [c] <+: chain ∧
      ∀ x ∈ chain, x ∈ [c] ∨ x ∈ certs :=
  buildChain_ends g hg certs _ [] c (Nat.lt_succ_of_le (List.length_filter_le _ _))

/-- the walk is all that can go wrong in `FindChain`, and only without the visited check -/
theorem findChain_within (g : Guards) (certs : List Cert) (k : Key) (b : Bool) :
    (findChain g certs k).within b (!g.chainVisited) = true := by
  unfold findChain
  split
  · rfl
  · rename_i c _
    cases hg : g.chainVisited
    · split <;> rfl
    · obtain ⟨chain, hb, _⟩ := buildChain_start g hg certs c
      rw [hb]
      rfl

theorem build_within (g : Guards) (certs : List Cert) (b : Bool) :
    ∀ (ks : List (Key × String)) (known : List String), (build g certs ks known).within b (!g.chainVisited) = true := by
  intro ks
  induction ks with
  | nil => intro _; rfl
  | cons x rest ih =>
    intro known
    simp only [build, bind_eq]
    refine Out.within_bind (findChain_within g certs x.1 b) fun chain _ => ?_
    split
    · rfl
    · split
      · rfl
      · exact Out.within_bind (ih _) fun _ _ => rfl

/-- building a key store never panics, and ends fatally only for want of the visited check -/
theorem createKeyStore_within (g : Guards) (blocks : List Block) (b : Bool) :
    (createKeyStore g blocks).within b (!g.chainVisited) = true := by
  unfold createKeyStore
  split
  · rfl
  · exact build_within g _ b _ _

theorem createKeyStore_ne_panic (g : Guards) (blocks : List Block) : createKeyStore g blocks ≠ .panic :=
  Out.ne_panic_of_within (createKeyStore_within g blocks false)

theorem selectKey_mem {g : Guards} {keyId : String} {ks : List Entry} {e : Entry}
    (h : selectKey g keyId ks = .ok e) : e ∈ ks := by
  unfold selectKey at h
  split at h
  · split at h
    · cases h
      exact List.mem_of_find?_eq_some ‹_›
    · cases h
  · split at h
    · cases h
      exact List.mem_cons_self
    · split at h <;> cases h

theorem selectKey_within (g : Guards) (keyId : String) (ks : List Entry) {f : Bool} :
    (selectKey g keyId ks).within (!g.selectKey) f = true := by
  unfold selectKey
  split
  · split <;> rfl
  · split
    · rfl
    · exact Out.within_guard ..

theorem joseAlg_httpSigKnows (g : Guards) (hp : g.p521 = true) (k : Key) (h : (joseAlg k).isNone = false) :
    httpSigKnows g k = true := by
  unfold joseAlg at h
  unfold httpSigKnows
  split at h
  case h_7 => cases h      -- the catch-all arm: no JOSE algorithm
  all_goals simp only [*]

/-- the part `jwtSigner.load` and `HTTPMessageSignatures.init` share: where the JOSE check is made it pre-empts the
panic of the JWK conversion -/
theorem Out.within_joseLadder {α : Type} (check noAlg : Bool) {unusable : Prop} [Decidable unusable] (r1 r2 : Reason)
    {rest : Out α} {b f : Bool} (hb : check = false → b = true) (hrest : noAlg = false → rest.within b f = true) :
    (if (check && noAlg) = true then .err r1 else if unusable then .err r2
      else if noAlg = true then .panic else rest).within b f = true := by
  cases noAlg
  · simp only [Bool.and_false, Bool.false_eq_true, if_false]
    split
    · rfl
    · exact hrest rfl
  · cases check
    · simp only [Bool.false_and, Bool.false_eq_true, if_false, if_true]
      split
      · rfl
      · exact hb rfl
    · rfl

/-- A load ends fatally only for want of the visited check, and it panics only for want of one of the three checks on
the key material. -/
theorem load_within (g : Guards) (c : Consumer) (keyId : String) (blocks : List Block) :
    (load g c keyId blocks).within (!g.materialSafe) (!g.chainVisited) = true := by
  have hs : (!g.selectKey) = true → (!g.materialSafe) = true := fun h => by simp [Guards.materialSafe, h]
  have hj : g.joseCheck = false → (!g.materialSafe) = true := fun h => by simp [Guards.materialSafe, h]
  simp only [load, bind_eq]
  refine Out.within_bind (createKeyStore_within g blocks _) fun ks _ => ?_
  refine Out.within_bind (Out.within_weaken (selectKey_within g keyId ks) hs) fun e he => ?_
  cases c with
  | tls => simp only; split <;> rfl
  | jwt => exact Out.within_joseLadder _ _ _ _ hj fun _ => rfl
  | httpsig =>
    refine Out.within_joseLadder _ _ _ _ hj fun hany => ?_
    cases hp : g.p521
    · have hm : g.materialSafe = false := by simp [Guards.materialSafe, hp]
      rw [hm]
      split <;> rfl
    · have hk := (Bool.not_eq_true _).mp (List.any_eq_false.mp hany e (selectKey_mem he))
      simp [joseAlg_httpSigKnows g hp e.key hk, Out.within]

theorem load_within_visited (g : Guards) (hv : g.chainVisited = true) (c : Consumer) (keyId : String)
    (blocks : List Block) : (load g c keyId blocks).within (!g.materialSafe) = true := by
  simpa only [hv, Bool.not_true] using load_within g c keyId blocks

theorem load_returns (g : Guards) (hv : g.chainVisited = true) (hm : g.materialSafe = true)
    (c : Consumer) (keyId : String) (blocks : List Block) : (load g c keyId blocks).returns = true := by
  have := load_within_visited g hv c keyId blocks
  rwa [hm, Bool.not_true, Out.within_false] at this

theorem load_ne_fatal (g : Guards) (hv : g.chainVisited = true) (c : Consumer) (keyId : String)
    (blocks : List Block) : load g c keyId blocks ≠ .fatal :=
  Out.ne_fatal_of_within (load_within_visited g hv c keyId blocks)

theorem scan_no_keys : ∀ (blocks : List Block) (ks : List (Key × String)) (cs : List Cert),
    (∀ b ∈ blocks, ∀ k, b.content ≠ .key k) → scan blocks = .ok (ks, cs) → ks = [] := by
  intro blocks
  induction blocks with
  | nil => intro ks cs _ h; cases h; rfl
  | cons b bs ih =>
    intro ks cs hno h
    have hb := hno b List.mem_cons_self
    have hbs : ∀ x ∈ bs, ∀ k, x.content ≠ .key k := fun x hx => hno x (List.mem_cons_of_mem _ hx)
    unfold scan at h
    split at h
    · cases h
    · obtain ⟨p, hs, h⟩ := bind_ok_iff.mp h
      cases h
      exact ih _ _ hbs hs
    · cases h
    · rename_i k hk _ _
      exact absurd hk (hb k)
    · cases h

/-- a file without any complete key block is never taken over: the key store is empty, so no key is selected -/
theorem load_no_keys (g : Guards) (c : Consumer) (keyId : String) (blocks : List Block)
    (hno : ∀ b ∈ blocks, ∀ k, b.content ≠ .key k) : (load g c keyId blocks).isOk = false := by
  cases h : load g c keyId blocks with
  | ok s =>
    simp only [load, bind_eq] at h
    obtain ⟨ks, hks, h⟩ := Out.bind_eq_ok h
    obtain ⟨e, he, _⟩ := Out.bind_eq_ok h
    unfold createKeyStore at hks
    split at hks
    · cases hks
    · rename_i ks' cs hs
      cases scan_no_keys blocks ks' cs hno hs
      cases hks
      cases selectKey_mem he
  | _ => rfl

/-- with the check `ReadPEM` does not care how the data ends: entries or an error, and no entries is an error -/
theorem loadTrust_checked (g : Guards) (hg : g.pemEnd = true) (strict : Bool) (f : PemFile) :
    loadTrust g strict f =
      match trustEntries strict f.blocks with
      | .error r => .err r
      | .ok cs => if cs.isEmpty then .err .emptyTrustStore else .ok cs := by
  unfold loadTrust
  cases trustEntries strict f.blocks with
  | error r => rfl
  | ok cs => simp only [hg, Bool.not_true, Bool.false_eq_true, if_false, Bool.true_and, ite_self]

theorem loadTrust_returns (g : Guards) (hg : g.pemEnd = true) (strict : Bool) (f : PemFile) :
    (loadTrust g strict f).returns = true := by
  rw [loadTrust_checked g hg]
  split
  · rfl
  · split <;> rfl

theorem scopeValues_within (g : Guards) (v : Val) : (scopeValues g v).within (!g.scopeTypes) = true := by
  unfold scopeValues
  split
  · split
    · rfl
    · exact Out.within_guard ..
  · exact Out.within_guard ..

theorem decodeScopes_within (g : Guards) (v : Val) : (decodeScopes g v).within (!g.scopeTypes) = true := by
  cases v with
  | list l => exact scopeValues_within g (.list l)
  | map m =>
    simp only [decodeScopes]
    refine Out.within_bind ?_ fun _ _ => ?_
    · split
      · rfl
      · split <;> rfl
      · exact Out.within_guard ..
    · split
      · exact scopeValues_within g _
      · rfl
  | other => exact Out.within_guard ..
  | _ => rfl

theorem reference_within (g : Guards) (id : Val) (cfg : Option Val) :
    (reference g id cfg).within (!g.refTypes) = true := by
  unfold reference
  split
  · split
    · rfl
    · rfl
    · rfl
    · exact Out.within_guard ..
  · exact Out.within_guard ..

theorem Guards.not_factorySafe_of_ref {g : Guards} (h : (!g.refTypes) = true) : (!g.factorySafe) = true := by
  simp [Guards.factorySafe, h]

theorem instantiate_within (g : Guards) (env : Env) (k : Kind) (ref : String) (conf : Option Fields) :
    (instantiate g env k ref conf).within (!g.factorySafe) = true := by
  unfold instantiate
  split
  · rfl
  · refine Out.within_bind ?_ fun _ _ => rfl
    -- `WithConfig`: only the scopes hook can panic
    unfold withConfig
    split
    · rfl
    · rfl
    · split
      · exact Out.within_weaken (decodeScopes_within g _) fun h => by simp [Guards.factorySafe, h]
      · split <;> rfl

theorem create_within (g : Guards) (env : Env) (k : Kind) (id : Val) (cfg : Option Val) :
    (create g env k id cfg).within (!g.factorySafe) = true :=
  Out.within_bind (Out.within_weaken (reference_within g id cfg) Guards.not_factorySafe_of_ref)
    fun a _ => instantiate_within g env k a.1 a.2

theorem condition_within (env : Env) (v : Option Val) (b : Bool) : (condition env v).within b = true := by
  unfold condition
  split
  · rfl
  · rfl
  · split
    · rfl
    · split <;> rfl
  · rfl

theorem handler_within (g : Guards) (env : Env) (k : Kind) (id : Val) (m : Fields) :
    (handler g env k id m).within (!g.factorySafe) = true :=
  Out.within_bind (condition_within env _ _) fun _ _ => create_within g env k id _

theorem execStep_within (g : Guards) (env : Env) (acc : Pipes) (m : Fields) :
    (execStep g env acc m).within (!g.factorySafe) = true := by
  unfold execStep
  split
  · split
    · rfl
    · exact Out.within_bind (create_within g env _ _ _) fun _ _ => rfl
  · split
    · split
      · rfl
      · exact Out.within_bind (handler_within g env _ _ _) fun _ _ => rfl
    · split
      · split
        · rfl
        · exact Out.within_bind (handler_within g env _ _ _) fun _ _ => rfl
      · split
        · exact Out.within_bind (handler_within g env _ _ _) fun _ _ => rfl
        · rfl

theorem execPipeline_within (g : Guards) (env : Env) :
    ∀ (ms : List Fields) (acc : Pipes), (execPipeline g env acc ms).within (!g.factorySafe) = true
  | [], _ => rfl
  | m :: ms, acc => Out.within_bind (execStep_within g env acc m) fun a _ => execPipeline_within g env ms a

theorem errStep_within (g : Guards) (env : Env) (m : Fields) :
    (errStep g env m).within (!g.factorySafe) = true := by
  unfold errStep
  split
  · split
    · exact Out.within_bind (Out.within_weaken (reference_within g _ _) Guards.not_factorySafe_of_ref) fun a _ =>
        Out.within_bind (condition_within env _ _) fun _ _ =>
          instantiate_within g env .eh a.1 a.2
    · rename_i hr
      -- without the type checks every panic is tolerated; what is left to show is that nothing ends fatally
      have hf : (!g.factorySafe) = true := Guards.not_factorySafe_of_ref (by simpa using hr)
      split
      case h_6 =>      -- `config` absent, null or a map: the code goes on to the condition
        exact Out.within_bind (condition_within env _ _) fun _ _ => create_within g env _ _ _
      all_goals exact hf
  · rfl

theorem errPipeline_within (g : Guards) (env : Env) :
    ∀ (ms : List Fields), (errPipeline g env ms).within (!g.factorySafe) = true
  | [] => rfl
  | m :: ms => Out.within_bind (errStep_within g env m) fun _ _ =>
      Out.within_bind (errPipeline_within g env ms) fun _ _ => rfl

theorem createRule_within (g : Guards) (env : Env) (r : RuleCfg) :
    (createRule g env r).within (!g.factorySafe) = true := by
  simp only [createRule, bind_eq, pure_eq]
  refine Out.within_bind (execPipeline_within g env _ _) fun p _ =>
    Out.within_bind (errPipeline_within g env _) fun _ _ => ?_
  split
  · rfl
  · split <;> rfl

theorem createRules_within (g : Guards) (env : Env) :
    ∀ (rs : List RuleCfg), (createRules g env rs).within (!g.factorySafe) = true
  | [] => rfl
  | r :: rs => Out.within_bind (createRule_within g env r) fun _ _ =>
      Out.within_bind (createRules_within g env rs) fun _ _ => rfl

/-- Loading a rule set never ends fatally; it panics only if neither the type checks of the factory
and the scopes hook nor the `recover` of the processor are there. -/
theorem loadRules_within (g : Guards) (env : Env) (rs : List RuleCfg) :
    (loadRules g env rs).within (!(g.factorySafe || g.processorRecover)) = true := by
  have h := createRules_within g env rs
  unfold loadRules
  cases g.processorRecover
  · rwa [Bool.or_false]
  · rw [Bool.or_true]
    exact Out.recovered_within (Out.within_weaken h fun _ => rfl)

theorem loadRuleSet_within (g : Guards) (env : Env) (d : RuleSetDoc) :
    (loadRuleSet g env d).within (!(g.factorySafe || g.processorRecover)) = true := by
  unfold loadRuleSet
  split
  · rfl
  · split
    · rfl
    · split
      · rfl
      · exact loadRules_within g env _

/-- what a changed rule file loads to: the rules in force for the file afterwards. `fileChanged` is `commit` of it. -/
def ruleFileLoad (g : Guards) (env : Env) : FileContent → Out (Option (List String))
  | .empty => .ok none
  | .unparsable => .err .unparsable
  | .vanished d =>
    match d.rules.mapM decodeRule with
    | .error r => .err r
    | .ok _ => if d.rules.isEmpty then .err .validationError else if g.statChecked then .ok none else .panic
  | .doc d => (loadRuleSet g env d).bind fun ids => .ok (some ids)

theorem fileChanged_eq_commit (g : Guards) (env : Env) (st : Option (List String)) (content : FileContent) :
    fileChanged g env st content = commit (ruleFileLoad g env content) id st := by
  cases content with
  | empty => rfl
  | unparsable => rfl
  | vanished d =>
    simp only [fileChanged, ruleFileLoad]
    cases d.rules.mapM decodeRule with
    | error r => rfl
    | ok rs => cases d.rules.isEmpty <;> cases g.statChecked <;> rfl
  | doc d =>
    simp only [fileChanged, ruleFileLoad]
    cases loadRuleSet g env d <;> rfl

theorem accepted_ruleFileLoad (g : Guards) (env : Env) (content : FileContent) :
    accepted (ruleFileLoad g env content) = ruleLoads g env content := by
  cases content with
  | empty => rfl
  | unparsable => rfl
  | vanished d =>
    simp only [ruleFileLoad, ruleLoads]
    cases d.rules.mapM decodeRule with
    | error r => rfl
    | ok rs => cases d.rules.isEmpty <;> cases g.statChecked <;> rfl
  | doc d =>
    simp only [ruleFileLoad, ruleLoads]
    cases loadRuleSet g env d <;> rfl

/-- a change of a rule file: the outcome is within what the provider's own `recover` has to catch -/
theorem ruleFileLoad_within (g : Guards) (env : Env) (content : FileContent) :
    (ruleFileLoad g env content).within (!((g.factorySafe || g.processorRecover) && g.statChecked)) = true := by
  cases content with
  | empty => rfl
  | unparsable => rfl
  | vanished d =>
    simp only [ruleFileLoad]
    split
    · rfl
    · split
      · rfl
      · cases g.statChecked
        · rw [Bool.and_false]; rfl
        · rfl
  | doc d =>
    refine Out.within_bind (Out.within_weaken (loadRuleSet_within g env d) fun h => ?_) fun _ _ => rfl
    rw [Bool.not_eq_true'] at h
    rw [h]
    rfl

theorem fileChanged_state (g : Guards) (env : Env) (st : Option (List String)) (content : FileContent) :
    (fileChanged g env st content).2 = orKeep (ruleLoads g env content) st := by
  rw [fileChanged_eq_commit, commit_state, Option.map_id_fun, accepted_ruleFileLoad]
  rfl

theorem reload_eq_commit (g : Guards) (c : Consumer) (keyId : String) (st : Option Loaded) (blocks : List Block) :
    reload g c keyId st blocks = commit (load g c keyId blocks) some st := by
  unfold reload commit
  cases load g c keyId blocks <;> rfl

theorem createRule_id {g : Guards} {env : Env} {r : RuleCfg} {id : String} (h : createRule g env r = .ok id) :
    id = r.id := by
  simp only [createRule, bind_eq, pure_eq] at h
  obtain ⟨p, _, h⟩ := Out.bind_eq_ok h
  obtain ⟨_, _, h⟩ := Out.bind_eq_ok h
  split at h
  · cases h
  · split at h <;> cases h
    rfl

theorem createRules_ids (g : Guards) (env : Env) :
    ∀ (rs : List RuleCfg) (ids : List String), createRules g env rs = .ok ids → ids = rs.map (·.id)
  | [], _, h => by cases h; rfl
  | r :: rs, ids, h => by
    obtain ⟨id, h1, h⟩ := Out.bind_eq_ok h
    obtain ⟨rest, h2, h⟩ := Out.bind_eq_ok h
    cases h
    rw [createRule_id h1, createRules_ids g env rs rest h2]
    rfl

theorem decodeRule_id {r : RuleDoc} {c : RuleCfg} (h : decodeRule r = .ok c) : c.id = r.id := by
  unfold decodeRule at h
  obtain ⟨ex, _, h⟩ := bind_ok_iff.mp h
  obtain ⟨oe, _, h⟩ := bind_ok_iff.mp h
  cases h
  rfl

theorem mapM_decodeRule_ids : ∀ (ds : List RuleDoc) (cs : List RuleCfg),
    ds.mapM decodeRule = .ok cs → cs.map (·.id) = ds.map (·.id)
  | [], _, h => by cases h; rfl
  | d :: ds, cs, h => by
    rw [List.mapM_cons] at h
    obtain ⟨c, hd, h⟩ := bind_ok_iff.mp h
    obtain ⟨rest, hm, h⟩ := bind_ok_iff.mp h
    cases h
    rw [List.map_cons, List.map_cons, decodeRule_id hd, mapM_decodeRule_ids ds rest hm]

theorem loadRuleSet_ids (g : Guards) (env : Env) (d : RuleSetDoc) (ids : List String)
    (h : loadRuleSet g env d = .ok ids) : ids = d.rules.map (·.id) := by
  unfold loadRuleSet at h
  split at h
  · cases h
  · split at h
    · cases h
    · rename_i cs hm
      split at h
      · cases h
      · have hc : createRules g env cs = .ok ids := by
          unfold loadRules at h
          split at h
          · exact (Out.recovered_ok _ _).mp h
          · exact h
        rw [createRules_ids g env cs ids hc, mapM_decodeRule_ids d.rules cs hm]

theorem survives_eq_within (guard : Bool) (o : Out Unit) : survives guard o = o.within guard := by
  cases o <;> rfl

/-- a notification on a live process: it goes on exactly if the outcome is within what the loop recovers from -/
theorem deliver_alive {σ : Type} (guard : Bool) (h : σ → Out Unit × σ) (p : Proc σ) (hp : p.alive = true) :
    deliver guard h p =
      if (h p.state).1.within guard = true then ⟨true, (h p.state).2, p.handled + 1⟩
      else ⟨false, (h p.state).2, p.handled⟩ := by
  unfold deliver
  simp only [hp, Bool.not_true, Bool.false_eq_true, if_false]
  generalize h p.state = r
  obtain ⟨o, s⟩ := r
  cases o with
  | panic => cases guard <;> rfl
  | _ => rfl

theorem deliver_dead {σ : Type} (guard : Bool) (h : σ → Out Unit × σ) (p : Proc σ) (hp : p.alive = false) :
    deliver guard h p = p := by
  simp only [deliver, hp, Bool.not_false, if_true]

theorem run_of_within {σ : Type} (guard : Bool) :
    ∀ (hs : List (σ → Out Unit × σ)) (p : Proc σ), p.alive = true →
      (∀ h ∈ hs, ∀ s, (h s).1.within guard = true) →
        run guard hs p = ⟨true, hs.foldl (fun s h => (h s).2) p.state, p.handled + hs.length⟩ := by
  intro hs
  induction hs with
  | nil => intro p hp _; cases p; cases hp; rfl
  | cons h hs ih =>
    intro p hp hall
    rw [run, List.foldl_cons, ← run, deliver_alive guard h p hp, if_pos (hall h List.mem_cons_self p.state),
      ih _ rfl fun h' hh' => hall h' (List.mem_cons_of_mem _ hh')]
    congr 1
    exact Nat.add_right_comm ..

theorem run_dead {σ : Type} (guard : Bool) (hs : List (σ → Out Unit × σ)) (p : Proc σ) (hp : p.alive = false) :
    run guard hs p = p :=
  List.foldlRecOn (motive := (· = p)) hs _ rfl fun _ hq h _ => hq ▸ deliver_dead guard h p hp

theorem material_setMaterial (s : System) (c c' : Consumer) (v : Option Loaded) :
    (s.setMaterial c' v).material c = if c' = c then v else s.material c := by
  cases c <;> cases c' <;> simp [System.setMaterial, System.material]

theorem System.material_alive (s : System) (b : Bool) (c : Consumer) :
    ({ s with alive := b } : System).material c = s.material c := by
  cases c <;> rfl

theorem step_dead (g : Guards) (env : Env) (keyId : Consumer → String) (s : System) (e : Event)
    (h : s.alive = false) : step g env keyId s e = s := by
  simp [step, h]

theorem step_keyFile (g : Guards) (env : Env) (keyId : Consumer → String) (s : System) (ha : s.alive = true)
    (c : Consumer) (blocks : List Block) :
    step g env keyId s (.keyFile c blocks) =
      { s.setMaterial c (reload g c (keyId c) (s.material c) blocks).2 with
        alive := survives g.listenerRecover (reload g c (keyId c) (s.material c) blocks).1 } := by
  simp only [step, ha]
  rfl

theorem step_ruleFile (g : Guards) (env : Env) (keyId : Consumer → String) (s : System) (ha : s.alive = true)
    (content : FileContent) :
    step g env keyId s (.ruleFile content) =
      { s with rules := (fileChanged g env s.rules content).2,
               alive := survives g.providerRecover (fileChanged g env s.rules content).1 } := by
  simp only [step, ha]
  rfl

theorem step_request (g : Guards) (env : Env) (keyId : Consumer → String) (s : System) (ha : s.alive = true)
    (srv : Server) (h : Out Nat) :
    step g env keyId s (.request srv h) = { s with alive := (serve g srv h).1 } := by
  simp only [step, ha]
  rfl

theorem serve_alive (g : Guards) (hg : g.grpcRecovery = true) (srv : Server) (h : Out Nat) (hf : h ≠ .fatal) :
    (serve g srv h).1 = true := by
  cases h with
  | ok s => rfl
  | err r => rfl
  | fatal => exact absurd rfl hf
  | panic => cases srv <;> simp [serve, hg] <;> split <;> rfl

theorem Sound_iff (g : Guards) :
    Sound g = true ↔ g.chainVisited = true ∧ (g.materialSafe || g.listenerRecover) = true ∧
      (g.factorySafe || g.processorRecover || g.providerRecover) = true ∧
      (g.statChecked || g.providerRecover) = true ∧ g.grpcRecovery = true := by
  simp only [Sound, Bool.and_eq_true, and_assoc]

/-- does the goroutine that handles the event survive it; the state of the process plays no part in that -/
def Event.survived (g : Guards) (env : Env) (keyId : Consumer → String) : Event → Bool
  | .keyFile c blocks => (load g c (keyId c) blocks).within g.listenerRecover
  | .ruleFile content => (ruleFileLoad g env content).within g.providerRecover
  | .request srv h => (serve g srv h).1

/-- one event on a live process, for every combination of checks: it lives on exactly if the event is survived, and
only the state the event is about can change, and only to what the content loads to -/
theorem step_live (g : Guards) (env : Env) (keyId : Consumer → String) (s : System) (ha : s.alive = true)
    (e : Event) :
    (step g env keyId s e).alive = e.survived g env keyId ∧
    (∀ c, (step g env keyId s e).material c =
        lastGood (materialLoads g c (keyId c)) (s.material c) (keyFilesOf c [e])) ∧
    (step g env keyId s e).rules = lastGood (ruleLoads g env) s.rules (ruleFilesOf [e]) := by
  cases e with
  | request srv h =>
    rw [step_request g env keyId s ha]
    exact ⟨rfl, fun c => System.material_alive .., rfl⟩
  | keyFile c' blocks =>
    rw [step_keyFile g env keyId s ha, reload_eq_commit]
    refine ⟨(survives_eq_within ..).trans (commit_outcome ..), fun c => ?_, by cases c' <;> rfl⟩
    rw [System.material_alive, material_setMaterial, commit_state]
    by_cases hc : c' = c
    · subst hc
      simp only [keyFilesOf, if_true]
      rfl
    · simp only [keyFilesOf, hc, if_false]
      rfl
  | ruleFile content =>
    rw [step_ruleFile g env keyId s ha]
    refine ⟨?_, fun c => by cases c <;> rfl, fileChanged_state g env s.rules content⟩
    rw [fileChanged_eq_commit]
    exact (survives_eq_within ..).trans (commit_outcome ..)

/-- under a sound combination of checks every event is survived (a request unless its handler ends fatally) -/
theorem survived_of_sound (g : Guards) (hs : Sound g = true) (env : Env) (keyId : Consumer → String) (e : Event)
    (hreq : noFatalRequest [e] = true) : e.survived g env keyId = true := by
  obtain ⟨hv, hmat, hfac, hstat, hgrpc⟩ := (Sound_iff g).mp hs
  cases e with
  | request srv h => exact serve_alive g hgrpc srv h (by rintro rfl; cases hreq)
  | keyFile c blocks => exact Out.within_or (load_within_visited g hv c (keyId c) blocks) hmat
  | ruleFile content =>
    refine Out.within_or (ruleFileLoad_within g env content) ?_
    rw [Bool.or_and_distrib_right, hfac, hstat]
    rfl

theorem keyFilesOf_cons (c : Consumer) (e : Event) (es : List Event) :
    keyFilesOf c (e :: es) = keyFilesOf c [e] ++ keyFilesOf c es := by
  cases e with
  | keyFile c' b => simp only [keyFilesOf]; split <;> rfl
  | _ => rfl

theorem ruleFilesOf_cons (e : Event) (es : List Event) :
    ruleFilesOf (e :: es) = ruleFilesOf [e] ++ ruleFilesOf es := by
  cases e <;> rfl

theorem noFatalRequest_cons (e : Event) (es : List Event) :
    noFatalRequest (e :: es) = (noFatalRequest [e] && noFatalRequest es) := by
  cases e with
  | request srv h => cases h <;> rfl
  | _ => rfl

theorem lastGood_append {α σ : Type} (loads : α → Option σ) (init : σ) (a b : List α) :
    lastGood loads init (a ++ b) = lastGood loads (lastGood loads init a) b :=
  List.foldl_append

namespace Witness

def rsa2048 : Key := ⟨1, .rsa, 2048, "3f5128b1"⟩
def rsa1024 : Key := ⟨2, .rsa, 1024, "688b2e9b"⟩
def ec521 : Key := ⟨3, .ecdsa, 521, "b4c1fa76"⟩
def ec256 : Key := ⟨4, .ecdsa, 256, "6950fa8d"⟩

def keyBlock (k : Key) (t : BlockType := .pkcs8Key) (kid : String := "") : Block := ⟨t, kid, .key k⟩

/-- a self-signed end-entity certificate: valid, digital signature, no key identifiers -/
def selfSigned (cid key : Nat) (name : String) : Cert :=
  ⟨cid, key, name, name, "", "", toString cid, true, false, true⟩

def certBlock (c : Cert) : Block := ⟨.certificate, "", .cert c⟩

def good : List Block := [keyBlock rsa2048 .rsaKey, certBlock (selfSigned 12 1 "rsa")]

def renewed : List Block := [keyBlock ec256 .ecKey, certBlock (selfSigned 10 4 "me"), certBlock (selfSigned 11 4 "me")]

/-- a catalogue with an anonymous authenticator and a JWT authenticator whose override carries scopes -/
def env : Env where
  cat := fun k id =>
    match k, id with
    | .authn, "anon" => some ⟨false, fun _ => false⟩
    | .authn, "jwt" => some ⟨true, fun _ => false⟩
    | .authz, "allow" => some ⟨false, fun _ => false⟩
    | _, _ => none
  compiles := fun s => s == "true"

def ruleSet (execute : List Val) : RuleSetDoc := ⟨true, [⟨"r1", .list execute, .null⟩]⟩

/-- `authenticator: 42` -/
def confusedReference : RuleSetDoc := ruleSet [.map [("authenticator", .num 42)]]

/-- `authenticator: anon`, `config: x` -/
def confusedConfig : RuleSetDoc := ruleSet [.map [("authenticator", .str "anon"), ("config", .str "x")]]

/-- `authenticator: jwt`, `config: {assertions: {scopes: [1]}}` -/
def confusedScopes : RuleSetDoc :=
  ruleSet [.map [("authenticator", .str "jwt"), ("config", .map [("assertions", .map [("scopes", .list [.num 1])])])]]

def wellFormed : RuleSetDoc :=
  ruleSet [.map [("authenticator", .str "anon")], .map [("authorizer", .str "allow"), ("if", .str "true")]]

end Witness

/-! Each of the following is an evaluation: with the flag in question put in, the outcome on the input does not
depend on the remaining ones. -/

open Witness in
theorem empty_store_panics (g : Guards) (h : g.selectKey = false) (c : Consumer) : load g c "" [] = .panic := by
  cases g; cases h; rfl

open Witness in
theorem small_key_panics (g : Guards) (h : g.joseCheck = false) : load g .jwt "" [keyBlock rsa1024] = .panic := by
  cases g; cases h; rfl

open Witness in
theorem p521_panics (g : Guards) (h : g.p521 = false) : load g .httpsig "" [keyBlock ec521] = .panic := by
  cases hj : g.joseCheck <;> (cases g; cases h; cases hj; rfl)

open Witness in
theorem renewed_fatal (g : Guards) (h : g.chainVisited = false) (c : Consumer) : load g c "" renewed = .fatal := by
  cases g; cases h; rfl

theorem empty_trust_panics (g : Guards) (h : g.pemEnd = false) (strict : Bool) :
    loadTrust g strict ⟨[], false⟩ = .panic := by
  cases g; cases h; rfl

open Witness in
theorem confused_reference_panics (g : Guards) (h1 : g.refTypes = false) (h2 : g.processorRecover = false) :
    loadRuleSet g env confusedReference = .panic := by
  cases g; cases h1; cases h2; rfl

open Witness in
theorem confused_scopes_panics (g : Guards) (h1 : g.scopeTypes = false)
    (h2 : g.processorRecover = false) : loadRuleSet g env confusedScopes = .panic := by
  cases g; cases h1; cases h2; rfl

/-! The bounds of `load_within` and `loadRuleSet_within` are attained: a missing check has an input that shows it. -/

open Witness in
theorem load_panics (g : Guards) (h : g.materialSafe = false) : ∃ c blocks, load g c "" blocks = .panic := by
  simp only [Guards.materialSafe, Bool.and_eq_false_iff] at h
  rcases h with (h | h) | h
  · exact ⟨.jwt, [], empty_store_panics g h .jwt⟩
  · exact ⟨.jwt, _, small_key_panics g h⟩
  · exact ⟨.httpsig, _, p521_panics g h⟩

open Witness in
theorem loadRuleSet_panics (g : Guards) (h : (g.factorySafe || g.processorRecover) = false) :
    ∃ d, loadRuleSet g env d = .panic := by
  simp only [Bool.or_eq_false_iff, Guards.factorySafe, Bool.and_eq_false_iff] at h
  rcases h.1 with hr | hs
  · exact ⟨_, confused_reference_panics g hr h.2⟩
  · exact ⟨_, confused_scopes_panics g hs h.2⟩

theorem loadCreds_returns (byValue : Bool) (d : CredDoc) : (loadCreds byValue d).returns = true := by
  cases d with
  | map fs =>
    simp only [loadCreds]
    cases credFields fs [] ⟨"", ""⟩ <;> rfl
  | _ => rfl

/-- the two ways of decoding differ on the null document only -/
theorem loadCreds_pointer (d : CredDoc) (hd : d ≠ .null) : loadCreds false d = loadCreds true d := by
  cases d <;> first | rfl | exact absurd rfl hd

theorem reloadCreds_eq_commit (byValue : Bool) (st : Option Creds) (d : CredDoc) :
    reloadCreds byValue st d = commit (loadCreds byValue d) id st := by
  unfold reloadCreds commit
  cases loadCreds byValue d <;> rfl

theorem reloadCreds_state (byValue : Bool) (st : Option Creds) (d : CredDoc) :
    (reloadCreds byValue st d).2 = orKeep (credsLoads byValue d) st := by
  rw [reloadCreds_eq_commit, commit_state, Option.map_id_fun]
  rfl

theorem credsAfter_eq_lastGood (byValue : Bool) (st : Option Creds) (ds : List CredDoc) :
    credsAfter byValue st ds = lastGood (credsLoads byValue) st ds :=
  congrArg (fun f => ds.foldl f st) (funext fun s => funext fun d => reloadCreds_state byValue s d)

theorem fieldTextD_absent (fs : List (String × CredVal)) (k d : String) (h : k ∉ fs.map (·.1)) :
    fieldTextD fs k d = d := by
  have : fs.find? (·.1 == k) = none :=
    List.find?_eq_none.mpr fun f hf hk => h (List.mem_map.mpr ⟨f, hf, by simpa using hk⟩)
  simp only [fieldTextD, this]

/-- an entry whose key does not occur again: what it says about a field, then what the rest says -/
theorem fieldTextD_cons (k : String) (v : CredVal) (rest : List (String × CredVal)) (key d : String)
    (h : k ∉ rest.map (·.1)) :
    fieldTextD ((k, v) :: rest) key d = fieldTextD rest key (fieldTextD [(k, v)] key d) := by
  cases hk : k == key
  · simp only [fieldTextD, List.find?, hk]
  · cases eq_of_beq hk
    rw [fieldTextD_absent rest k _ h]
    simp only [fieldTextD, List.find?, hk]

/-- one entry: accepted iff key and value are admissible, and then it says what the one-entry mapping says -/
theorem credField_spec (c : Creds) (k : String) (v : CredVal) :
    credField c k v =
      if credKeyOk k = true ∧ credValOk v = true then
        .ok ⟨fieldTextD [(k, v)] "username" c.user, fieldTextD [(k, v)] "password" c.pass⟩
      else .error .decodeError := by
  unfold credField credKeyOk
  cases h1 : k == "username"
  · cases h2 : k == "password"
    · simp
    · cases v <;> simp [credValOk, fieldTextD, List.find?, h1, h2]
  · have h2 : (k == "password") = false := by cases eq_of_beq h1; rfl
    cases v <;> simp [credValOk, fieldTextD, List.find?, h1, h2]

/-- the decoder's condition on what is left of the mapping, given the (distinct) keys seen so far -/
abbrev credsOk (fs : List (String × CredVal)) (seen : List String) : Prop :=
  (∀ f ∈ fs, credKeyOk f.1 = true ∧ credValOk f.2 = true) ∧ (fs.map (·.1) ++ seen).Nodup

theorem credsOk_cons {k : String} {v : CredVal} {rest : List (String × CredVal)} {seen : List String} :
    credsOk ((k, v) :: rest) seen ↔ (credKeyOk k = true ∧ credValOk v = true) ∧ credsOk rest (k :: seen) := by
  simp only [credsOk, List.forall_mem_cons, List.map_cons, List.cons_append, List.perm_middle.nodup_iff, and_assoc]

theorem credsOk.not_mem {k : String} {rest : List (String × CredVal)} {seen : List String}
    (h : credsOk rest (k :: seen)) : k ∉ rest.map (·.1) ++ seen :=
  (List.nodup_cons.mp (List.perm_middle.nodup_iff.mp h.2)).1

theorem credFields_spec : ∀ (fs : List (String × CredVal)) (seen : List String) (c : Creds), seen.Nodup →
    credFields fs seen c =
      if credsOk fs seen then .ok ⟨fieldTextD fs "username" c.user, fieldTextD fs "password" c.pass⟩
      else .error .decodeError := by
  intro fs
  induction fs with
  | nil => intro seen c hseen; simp [credFields, fieldTextD, hseen]
  | cons f rest ih =>
    intro seen c hseen
    obtain ⟨k, v⟩ := f
    rw [credFields, credField_spec]
    by_cases hs : k ∈ seen
    · rw [if_pos (by simpa using hs),
        if_neg fun h => (credsOk_cons.mp h).2.not_mem (List.mem_append_right _ hs)]
    · rw [if_neg (by simpa using hs)]
      by_cases hok : credKeyOk k = true ∧ credValOk v = true
      · rw [if_pos hok]
        simp only
        rw [ih _ _ (List.nodup_cons.mpr ⟨hs, hseen⟩)]
        by_cases hr : credsOk rest (k :: seen)
        · have hk : k ∉ rest.map (·.1) := fun hm => hr.not_mem (List.mem_append_left _ hm)
          rw [if_pos hr, if_pos (credsOk_cons.mpr ⟨hok, hr⟩), fieldTextD_cons k v rest _ _ hk,
            fieldTextD_cons k v rest _ _ hk]
        · rw [if_neg hr, if_neg fun h => hr (credsOk_cons.mp h).2]
      · rw [if_neg hok, if_neg fun h => hok (credsOk_cons.mp h).1]

theorem credsLoads_value_some {d : CredDoc} {s : Option Creds} (h : credsLoads true d = some s) :
    s.isSome = true := by
  cases d with
  | map fs =>
    simp only [credsLoads, loadCreds] at h
    cases hf : credFields fs [] ⟨"", ""⟩ <;> rw [hf] at h <;> cases h
    rfl
  | null => cases h; rfl
  | _ => cases h

theorem lastGood_creds_isSome (st : Option Creds) (hst : st.isSome = true) (ds : List CredDoc) :
    (lastGood (credsLoads true) st ds).isSome = true :=
  List.foldlRecOn (motive := fun (s : Option Creds) => s.isSome = true) ds _ hst fun s hs d _ => by
    show (orKeep (credsLoads true d) s).isSome = true
    cases h : credsLoads true d with
    | none => exact hs
    | some s' => exact credsLoads_value_some h

theorem credFilesOf_cons (e : CredsEvent) (es : List CredsEvent) :
    credFilesOf (e :: es) = credFilesOf [e] ++ credFilesOf es := by
  cases e <;> rfl

theorem credsStep_value (watcherRecovers : Bool) (p : CredsProc) (e : CredsEvent) (ha : p.alive = true)
    (hc : p.creds.isSome = true) :
    credsStep true watcherRecovers p e = ⟨true, lastGood (credsLoads true) p.creds (credFilesOf [e])⟩ := by
  obtain ⟨_, creds⟩ := p
  cases ha
  cases e with
  | connect =>
    obtain ⟨c, rfl⟩ := Option.isSome_iff_exists.mp hc
    rfl
  | file d =>
    have hr : survives watcherRecovers (reloadCreds true creds d).1 = true := by
      rw [survives_eq_within, reloadCreds_eq_commit, commit_outcome]
      exact Out.within_weaken ((Out.within_false _).trans (loadCreds_returns true d)) nofun
    simp only [credsStep, Bool.not_true, Bool.false_eq_true, if_false]
    rw [hr, reloadCreds_state]
    rfl

theorem credsSteps_value (watcherRecovers : Bool) :
    ∀ (es : List CredsEvent) (p : CredsProc), p.alive = true → p.creds.isSome = true →
      credsSteps true watcherRecovers p es = ⟨true, lastGood (credsLoads true) p.creds (credFilesOf es)⟩ := by
  intro es
  induction es with
  | nil => intro p ha hc; cases p; cases ha; rfl
  | cons e es ih =>
    intro p ha hc
    rw [credsSteps, List.foldl_cons, ← credsSteps, credsStep_value watcherRecovers p e ha hc,
      ih _ rfl (lastGood_creds_isSome _ hc _), credFilesOf_cons e es, lastGood_append]

theorem mem_dropPath {p y : Nat} {l : List Nat} : y ∈ dropPath p l ↔ y ∈ l ∧ y ≠ p := by
  simp [dropPath]

theorem mem_addPath {p y : Nat} {l : List Nat} : y ∈ addPath p l ↔ y = p ∨ y ∈ l := by
  unfold addPath
  split
  · rename_i h
    exact ⟨Or.inr, fun h' => h'.elim (fun e => e ▸ List.contains_iff_mem.mp h) id⟩
  · exact List.mem_cons

/-- a loop that does not leave on a failed renewal stays alive over one operation: no branch of `watchStep` but
that one touches `alive` -/
theorem watchStep_alive (l : WatchLoop) (hl : (l.renew && l.returnOnFailedRenewal) = false) (w : Watcher)
    (op : FileOp) : (watchStep l w op).alive = w.alive := by
  cases op <;> simp only [watchStep, hl, apply_ite Watcher.alive, ite_self, Bool.false_eq_true, if_false]

theorem watchRun_alive (l : WatchLoop) (hl : (l.renew && l.returnOnFailedRenewal) = false) (ops : List FileOp)
    (w : Watcher) : (watchRun l w ops).alive = w.alive :=
  List.foldlRecOn (motive := fun v => v.alive = w.alive) ops _ rfl
    fun v hv op _ => (watchStep_alive l hl v op).trans hv

/-- a file is at `y` and fsnotify holds a watch on it -/
def tracked (y : Nat) (w : Watcher) : Prop := y ∈ w.watched ∧ y ∈ w.present

theorem watchStep_keeps (l : WatchLoop) (w : Watcher) (op : FileOp) (y : Nat) (hd : op.displaces y = false)
    (h : tracked y w) : tracked y (watchStep l w op) := by
  have hne : ∀ p, op.displaces y = (p == y) → y ≠ p := fun p h e => by
    rw [hd, e, beq_self_eq_true] at h; cases h
  cases op with
  | written p => exact ite_both h h
  | attrib p => exact h
  | fileBack p => exact ⟨h.1, mem_addPath.mpr (Or.inr h.2)⟩
  | register p => exact ite_both ⟨List.mem_cons_of_mem _ h.1, h.2⟩ h
  | fileRemoved p =>
    have hw := mem_dropPath.mpr ⟨h.1, hne p rfl⟩
    have hp := mem_dropPath.mpr ⟨h.2, hne p rfl⟩
    exact ite_both ⟨h.1, hp⟩ (ite_both ⟨hw, hp⟩ (ite_both ⟨hw, hp⟩ ⟨hw, hp⟩))
  | fileReplaced p =>
    have hw := mem_dropPath.mpr ⟨h.1, hne p rfl⟩
    have hp := (mem_addPath (p := p)).mpr (Or.inr h.2)
    exact ite_both ⟨h.1, hp⟩ (ite_both ⟨hw, hp⟩ (ite_both ⟨List.mem_cons_of_mem _ hw, hp⟩ ⟨hw, hp⟩))

theorem watchRun_keeps (l : WatchLoop) (ops : List FileOp) (w : Watcher) (y : Nat)
    (hd : ∀ op ∈ ops, op.displaces y = false) (h : tracked y w) : tracked y (watchRun l w ops) :=
  List.foldlRecOn (motive := tracked y) ops _ h fun v hv op hop => watchStep_keeps l v op y (hd op hop) hv

theorem watchStep_written (l : WatchLoop) (w : Watcher) (y : Nat) (ha : w.alive = true) (h : tracked y w) :
    (watchStep l w (.written y)).delivered = w.delivered ++ [y] := by
  simp [watchStep, ha, h.1, h.2]

theorem watchStep_dead (l : WatchLoop) (w : Watcher) (hw : w.alive = false) (op : FileOp) :
    (watchStep l w op).alive = false ∧ (watchStep l w op).delivered = w.delivered := by
  cases op <;> simp only [watchStep, hw, Bool.false_and, Bool.not_false, if_true, Bool.false_eq_true, if_false,
    apply_ite Watcher.alive, apply_ite Watcher.delivered, ite_self, and_self]

theorem watchRun_dead (l : WatchLoop) (ops : List FileOp) (w : Watcher) (hw : w.alive = false) :
    (watchRun l w ops).alive = false ∧ (watchRun l w ops).delivered = w.delivered :=
  List.foldlRecOn (motive := fun v => v.alive = false ∧ v.delivered = w.delivered) ops _ ⟨hw, rfl⟩
    fun v hv op _ => ⟨(watchStep_dead l v hv.1 op).1, (watchStep_dead l v hv.1 op).2.trans hv.2⟩

/-- the code's loop starts listeners on writes only -/
theorem watchStep_head_delivered (w : Watcher) (op : FileOp) (h : op.isWrite = false) :
    (watchStep .head w op).delivered = w.delivered := by
  cases op with
  | written p => cases h
  | _ => simp only [watchStep, WatchLoop.head, Bool.and_self, Bool.false_eq_true, if_false,
      apply_ite Watcher.delivered, ite_self]

/-- one poll, for the code's reading of a broken transfer, does what the specification says -/
theorem pollEndpoint_state (st : Option (List String)) (r : Polled) :
    (pollEndpoint .internal st r).2 = orKeep (endpointLoads r) st := by
  cases r with
  | unreachable => cases st <;> rfl
  | status c => cases st <;> rfl
  | body t c =>
    cases t with
    | brokenOff => rfl
    | complete =>
      cases c with
      | empty => cases st <;> rfl
      | unparsable => rfl
      | ruleSet ids acc =>
        cases st with
        | none => cases acc <;> rfl
        | some old =>
          simp only [pollEndpoint, fetchRuleSet]
          split
          · rename_i h
            cases eq_of_beq h
            cases acc <;> rfl
          · cases acc <;> rfl

theorem updateStatus_returns (g : StatusGuards) (hs : g.splitChecked = true) (ha : g.asChecked = true)
    (parts : Nat) (answers : List PatchAnswer) : (updateStatus g parts answers).returns = true := by
  induction answers with
  | nil => simp only [updateStatus, hs, Bool.not_true, Bool.and_false, Bool.false_eq_true, if_false]; rfl
  | cons a rest ih =>
    simp only [updateStatus, hs, Bool.not_true, Bool.and_false, Bool.false_eq_true, if_false]
    cases a with
    | ok => rfl
    | noAnswer => simp only [ha, if_true]; rfl
    | status c =>
      simp only
      split
      · exact ih
      · rfl

mutual
  theorem copyVal_id : ∀ v : Val, copyVal true v = .ok v
    | .null | .bool _ | .num _ | .str _ | .other => by unfold copyVal; rfl
    | .list l => by rw [copyVal, copyList_id l]; rfl
    | .map m => by rw [copyVal, copyFields_id m]; rfl
  theorem copyList_id : ∀ l : List Val, copyList true l = .ok l
    | [] => by rw [copyList]
    | v :: vs => by rw [copyList, copyVal_id v, copyList_id vs, Bool.not_true, Bool.and_false]; rfl
  theorem copyFields_id : ∀ m : List (String × Val), copyFields true m = .ok m
    | [] => by rw [copyFields]
    | (k, v) :: rest => by rw [copyFields, copyVal_id v, copyFields_id rest]; rfl
end

theorem copyConfigs_ok (cs : List Val) : copyConfigs true cs = .ok () := by
  induction cs with
  | nil => rfl
  | cons c cs ih => rw [copyConfigs, copyVal_id, Out.bind_ok, ih]

end Heimdall.Loaders
