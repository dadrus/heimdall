import HeimdallModel.Lemmas.Mech
import HeimdallModel.Model.MechClient
/-!
# Histories of creations on one mechanism factory (C17): every answer is the answer of the request alone

A creation extends the store (`Extends`); what the factory decides for a catalogue entry, and the view a variant is
built from, depend on the entry only; so the answer to a request on any extension of the catalogue is its answer on the
catalogue.
-/
namespace Heimdall.Mech

/-- `σ` is `σ₀` with more objects: every object of `σ₀` is there under its handle, unchanged -/
structure Extends (σ₀ σ : Store Entries Override) : Prop where
  closed : Closed σ
  insts : ∀ (k : Nat) (i : Inst), σ₀.insts[k]? = some i → σ.insts[k]? = some i
  views : ∀ (k : Nat) (i : Inst), σ₀.insts[k]? = some i → σ.view k = σ₀.view k

theorem Extends.refl {σ : Store Entries Override} (h : Closed σ) : Extends σ σ :=
  ⟨h, fun _ _ hi => hi, fun _ _ _ => rfl⟩

/-- a closed store that has grown from a closed one extends it -/
theorem Grows.extends {σ σ' : Store Entries Override} (hg : Grows σ σ') (hc : Closed σ) (hc' : Closed σ') :
    Extends σ σ' :=
  ⟨hc', fun _ _ hk => hg.insts hk, fun _ _ hk => hg.view hc hk⟩

theorem Extends.trans {σ₀ σ σ' : Store Entries Override} (h₁ : Extends σ₀ σ) (h₂ : Extends σ σ') : Extends σ₀ σ' :=
  ⟨h₂.closed, fun k i hk => h₂.insts k i (h₁.insts k i hk),
   fun k i hk => (h₂.views k i (h₁.insts k i hk)).trans (h₁.views k i hk)⟩

/-- a prototype the factory hands out is the catalogue entry asked for -/
theorem decision_proto {σ : Store Entries Override} {p : Option Nat} {ov : Option Override} {h : Nat}
    (hd : decision σ p ov = .proto h) : p = some h := by
  revert hd
  fun_cases decision σ p ov <;> intro hd <;> cases hd <;> rfl

/-- `WithConfig` copies the catalogue entry asked for, under the rule's own `config`, and only if the decoder and the
validator accept its values -/
theorem decision_build {σ : Store Entries Override} {p : Option Nat} {ov : Option Override} {p' : Nat} {o : Override}
    (hd : decision σ p ov = .build p' o) : p = some p' ∧ ov = some o ∧ o.valuesOk = true := by
  have hv : ∀ t, ¬ (!o.valid t) = true → o.valuesOk = true := fun t h => by
    simp only [Override.valid, Bool.not_eq_true', Bool.not_eq_false, Bool.and_eq_true] at h; exact h.1.1
  revert hd
  fun_cases decision σ p ov <;> intro hd <;> cases hd <;> exact ⟨rfl, rfl, hv _ ‹_›⟩

theorem create_variant_withConfig {σ σ' : Store Entries Override} {p : Option Nat} {ov : Option Override} {h : Nat}
    (hc : create σ p ov = .variant σ' h) :
    ∃ p' o, decision σ p ov = .build p' o ∧ withConfig heimdall σ p' o = some (σ', h) := by
  revert hc
  fun_cases create σ p ov <;> intro hc <;> cases hc
  exact ⟨_, _, ‹_›, ‹_›⟩

theorem create_proto {σ : Store Entries Override} {p : Option Nat} {ov : Option Override} {h : Nat}
    (hc : create σ p ov = .proto h) : p = some h := by
  revert hc
  fun_cases create σ p ov <;> intro hc <;> cases hc
  exact decision_proto ‹_›

def Created.handed : Created → Handed
  | .notFound => .notFound
  | .configError => .configError
  | .proto h => .proto h
  | .variant _ h => .variant h

def Created.store (σ : Store Entries Override) : Created → Store Entries Override
  | .variant σ' _ => σ'
  | _ => σ

theorem createSeq_cons (σ : Store Entries Override) (r : CreateReq) (rest : List CreateReq) :
    createSeq σ (r :: rest) = ((createSeq ((create σ r.1 r.2).store σ) rest).1,
      (create σ r.1 r.2).handed :: (createSeq ((create σ r.1 r.2).store σ) rest).2) := by
  rw [createSeq]; cases create σ r.1 r.2 <;> rfl

theorem createAlone_eq (σ : Store Entries Override) (r : CreateReq) :
    createAlone σ r = (create σ r.1 r.2).handed.observed ((create σ r.1 r.2).store σ) := by
  rw [createAlone]; cases create σ r.1 r.2 <;> rfl

/-- a creation leaves every object that exists where it is and as it is -/
theorem create_extends {σ : Store Entries Override} (hcl : Closed σ) (p : Option Nat) (ov : Option Override) :
    Extends σ ((create σ p ov).store σ) := by
  cases hc : create σ p ov with
  | variant σ' h =>
    obtain ⟨p', o, _, hw⟩ := create_variant_withConfig hc
    obtain ⟨_, _, _, _, hcl', hg⟩ := withConfig_view heimdall hcl hw
    exact hg.extends hcl hcl'
  | _ => exact Extends.refl hcl

/-- the object handed out exists afterwards, if the request names a catalogue entry that exists -/
theorem create_live {σ : Store Entries Override} {p : Option Nat} (ov : Option Override)
    (hp : ∀ q, p = some q → ∃ i : Inst, σ.insts[q]? = some i) (x : Nat)
    (hx : (create σ p ov).handed.inst = some x) : ∃ i : Inst, ((create σ p ov).store σ).insts[x]? = some i := by
  cases hc : create σ p ov with
  | notFound => rw [hc] at hx; cases hx
  | configError => rw [hc] at hx; cases hx
  | proto h => rw [hc] at hx; cases hx; exact hp x (create_proto hc)
  | variant σ' h =>
    rw [hc] at hx; cases hx
    obtain ⟨p', o, _, hw⟩ := create_variant_withConfig hc
    obtain ⟨_, _, rfl, rfl⟩ := withConfig_eq_some hw
    exact ⟨_, List.getElem?_concat_length⟩

theorem effective_extends {σ σ' : Store Entries Override} (he : Extends σ σ') {k : Nat} {i : Inst}
    (hk : σ.insts[k]? = some i) : effective σ' k = effective σ k := by
  unfold effective; rw [he.views k i hk]

/-- what is observed of an object that exists is observed in every extension of the store -/
theorem observed_extends {σ σ' : Store Entries Override} (he : Extends σ σ') {h : Handed}
    (hl : ∀ x, h.inst = some x → ∃ i : Inst, σ.insts[x]? = some i) : h.observed σ' = h.observed σ := by
  cases h with
  | proto y => obtain ⟨i, hi⟩ := hl y rfl; simp only [Handed.observed, effective_extends he hi]
  | variant y => obtain ⟨i, hi⟩ := hl y rfl; simp only [Handed.observed, effective_extends he hi]
  | _ => rfl

theorem createSeq_extends (rest : List CreateReq) :
    ∀ {σ : Store Entries Override}, Closed σ → Extends σ (createSeq σ rest).1 := by
  induction rest with
  | nil => exact Extends.refl
  | cons r rest ih =>
    intro σ hcl
    rw [createSeq_cons]
    exact (create_extends hcl r.1 r.2).trans (ih (create_extends hcl r.1 r.2).closed)

/-- the request names no catalogue entry, or one that exists -/
def Known (σ₀ : Store Entries Override) (r : CreateReq) : Prop := ∀ q, r.1 = some q → ∃ i : Inst, σ₀.insts[q]? = some i

theorem Known.extends {σ₀ σ : Store Entries Override} {r : CreateReq} (hr : Known σ₀ r) (he : Extends σ₀ σ) :
    Known σ r := fun q hq => (hr q hq).imp fun i hi => he.insts q i hi

/-- **the answer to a request for a catalogue entry is the same on every extension of the catalogue**: the decision
depends on the entry only, and the view a variant is built from is the entry's -/
theorem createAlone_extends {σ₀ σ : Store Entries Override} (he : Extends σ₀ σ) (hcl₀ : Closed σ₀) {r : CreateReq}
    (hr : Known σ₀ r) : createAlone σ r = createAlone σ₀ r := by
  obtain ⟨p, ov⟩ := r
  cases p with
  | none => rfl
  | some q =>
    obtain ⟨i, hq⟩ := hr q rfl
    unfold createAlone create
    simp only
    -- what the factory decides depends on the entry only, not on what else the store holds
    rw [show decision σ (some q) ov = decision σ₀ (some q) ov by simp only [decision, hq, he.insts q i hq]]
    cases hd : decision σ₀ (some q) ov with
    | notFound => rfl
    | configError => rfl
    | proto h =>
      cases decision_proto hd
      simp only [effective_extends he hq]
    | build p' o =>
      cases (decision_build hd).1
      simp only
      cases hw₀ : withConfig heimdall σ₀ q o with
      | none => simp [withConfig, hq] at hw₀
      | some r₀ =>
        cases hw : withConfig heimdall σ q o with
        | none => simp [withConfig, he.insts q i hq] at hw
        | some r =>
          obtain ⟨inst₀, hi₀, _, hv₀, _⟩ := withConfig_view heimdall hcl₀ hw₀
          obtain ⟨inst, hi, _, hv, _⟩ := withConfig_view heimdall he.closed hw
          rw [hq] at hi₀
          rw [he.insts q i hq] at hi
          cases hi₀
          cases hi
          have hvw := he.views q i hq
          simp only [Store.view, hq, he.insts q i hq, Option.map_some, Option.some.injEq] at hvw
          simp [effective, hv, hv₀, hvw]

/-- **every answer of a history is the answer of the request alone** -/
theorem createSeq_kth (pre : List CreateReq) : ∀ (σ₀ σ : Store Entries Override), Extends σ₀ σ → Closed σ₀ →
    ∀ (post : List CreateReq) (r : CreateReq), Known σ₀ r →
    ((createSeq σ (pre ++ r :: post)).2[pre.length]?).map (Handed.observed (createSeq σ (pre ++ r :: post)).1) =
      some (createAlone σ₀ r) := by
  induction pre with
  | nil =>
    intro σ₀ σ he hcl₀ post r hr
    have hpost := createSeq_extends post (create_extends he.closed r.1 r.2).closed
    simp only [List.nil_append, List.length_nil, createSeq_cons, List.getElem?_cons_zero, Option.map_some]
    rw [observed_extends hpost (create_live r.2 (hr.extends he)), ← createAlone_eq, createAlone_extends he hcl₀ hr]
  | cons r' pre ih =>
    intro σ₀ σ he hcl₀ post r hr
    simp only [List.cons_append, List.length_cons, createSeq_cons, List.getElem?_cons_succ]
    exact ih σ₀ _ (he.trans (create_extends he.closed r'.1 r'.2)) hcl₀ post r hr

end Heimdall.Mech
