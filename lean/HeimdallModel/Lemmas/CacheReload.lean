import HeimdallModel.Lemmas.CacheExec
import HeimdallModel.Model.CacheReload
/-!
# Lemmas about histories with reloads

A history of requests and reloads is the plain history of its requests, each paired with the state in force
(`runEv_eq_run`), so everything proved about `run` carries over.
-/
namespace Heimdall.CacheExec
open Heimdall.CacheKey

variable {St Req Resp : Type}

theorem runEv_eq_run (m : Mech (St × Req) Resp) (h : List (Event St Req)) (s : St) (st : Store Resp) :
    runEv m s st h = run m st (inForce s h) := by
  induction h generalizing s st with
  | nil => rfl
  | cons ev h ih => cases ev <;> simp only [runEv, inForce, run, ih]

theorem inForce_no_reload (s : St) (h : List (Nat × Req)) :
    inForce s (h.map fun tr => Event.req tr.1 tr.2) = h.map fun tr => (tr.1, (s, tr.2)) := by
  induction h with
  | nil => rfl
  | cons tr h ih => simp only [List.map_cons, inForce, ih]

theorem direct_stateful (m : Mech KReq Resp) (x : Overlay × KReq) :
    direct (stateful m) x = direct m (x.2.withState x.1) := rfl

theorem stateful_sound (m : Mech KReq Resp) (xs : List (Overlay × KReq))
    (hs : KeySoundOn m (xs.map fun x => x.2.withState x.1)) : KeySoundOn (stateful m) xs := by
  intro x hx x' hx' hk
  exact hs _ (List.mem_map.mpr ⟨x, hx, rfl⟩) _ (List.mem_map.mpr ⟨x', hx', rfl⟩) hk

theorem stateful_lossless (m : Mech KReq Resp) (hl : Lossless m) : Lossless (stateful m) := hl

end Heimdall.CacheExec
