import HeimdallModel.Lemmas.RepoAdd
/-!
Removal of a rule set from the index: if `removeRules` succeeds, exactly the routes of that rule set are gone.
During the removal the index is not the index of any list of routes (a node that lost some values keeps the flag of
the last route added); it is described relative to the index the removal started from (`LoopInv`).
-/
namespace Heimdall

/-- `removeRules`, with the two nested loops flattened into one list of (rule id, path expression) targets -/
def removeFlat (src : String) (t : Table RVal) (seen : List (String × String)) :
    List (String × String) → Option (Table RVal × List (String × String))
  | [] => some (t, seen)
  | (rid, p) :: rest =>
    if seen.contains (rid, p) then removeFlat src t seen rest
    else
      match del t p (fun v => v.rid == rid && v.src == src) with
      | some t' => removeFlat src t' ((rid, p) :: seen) rest
      | none => none

def ruleTargets (r : Rule) : List (String × String) := r.cfg.routes.map (fun rt => (r.cfg.id, rt.1))

def targets (rs : List Rule) : List (String × String) := rs.flatMap ruleTargets

/-- the routes of one rule, followed by further targets -/
theorem removeFlat_routes (src : String) (t : Table RVal) (r : Rule) (hr : r.src = src)
    (seen : List (String × String)) (routes : List (String × RouteM)) (rest : List (String × String)) :
    removeFlat src t seen (routes.map (fun rt => (r.cfg.id, rt.1)) ++ rest) =
      (removeRoutes t r seen routes).bind fun ts => removeFlat src ts.1 ts.2 rest := by
  induction routes generalizing t seen with
  | nil => rfl
  | cons rt rts ih =>
    rw [List.map_cons, List.cons_append, removeRoutes, removeFlat, hr, ih]
    by_cases hs : seen.contains (r.cfg.id, rt.1) = true
    · rw [if_pos hs, if_pos hs]
    · rw [if_neg hs, if_neg hs]
      cases del t rt.1 (fun v => v.rid == r.cfg.id && v.src == src) with
      | none => rfl
      | some t' => exact ih t' _

theorem removeRules_eq (src : String) (t : Table RVal) (seen : List (String × String)) (rs : List Rule)
    (hrs : ∀ r ∈ rs, r.src = src) :
    removeRules t seen rs = (removeFlat src t seen (targets rs)).map (·.1) := by
  induction rs generalizing t seen with
  | nil => rfl
  | cons r rest ih =>
    rw [removeRules, targets, List.flatMap_cons, ruleTargets,
      removeFlat_routes src t r (hrs r (List.mem_cons_self ..))]
    cases removeRoutes t r seen r.cfg.routes with
    | none => rfl
    | some ts => exact ih ts.1 ts.2 fun r' hr' => hrs r' (List.mem_cons_of_mem _ hr')

section
variable {V : Type} {g : V → Bool} {n : Node V}

theorem pruneNode_bind (g h : V → Bool) (n : Node V) :
    (pruneNode g n).bind (pruneNode h) = pruneNode (fun v => g v || h v) n := by
  have hf : n.values.filter (fun v => !(g v || h v)) = (n.values.filter (fun v => !g v)).filter (fun v => !h v) := by
    rw [List.filter_filter]
    exact List.filter_congr fun v _ => by cases g v <;> cases h v <;> rfl
  unfold pruneNode
  rw [hf]
  cases n.values.filter (fun v => !g v) <;> rfl

theorem pruneNode_eq_none (h : ∀ v ∈ n.values, g v = true) :
    pruneNode g n = none := by
  unfold pruneNode
  rw [List.filter_eq_nil_iff.mpr fun v hv => by rw [h v hv]; exact Bool.false_ne_true]
  rfl

theorem pruneNode_eq_self (hne : n.values ≠ [])
    (h : ∀ v ∈ n.values, g v = false) : pruneNode g n = some n := by
  unfold pruneNode
  rw [List.filter_eq_self.mpr fun v hv => by rw [h v hv]; rfl]
  obtain ⟨pat, keys, values, bt⟩ := n
  cases values with
  | nil => exact absurd rfl hne
  | cons a l => rfl

/-- a value that is not deleted keeps its node alive -/
theorem pruneNode_of_mem {v : V} (hv : v ∈ n.values) (hg : g v = false) :
    pruneNode g n = some { n with values := n.values.filter (fun v => !g v) } := by
  have hm : v ∈ n.values.filter (fun v => !g v) := List.mem_filter.mpr ⟨hv, by rw [hg]; rfl⟩
  unfold pruneNode
  cases hf : n.values.filter (fun v => !g v) with
  | nil => rw [hf] at hm; cases hm
  | cons a l => rfl

end

/-- the value has been deleted: it belongs to the rule set, and its rule id stands in `seen` with an expression that
denotes the node `pat` -/
def gone (src : String) (seen : List (String × String)) (pat : List PTok) (v : RVal) : Bool :=
  v.src == src && seen.any (fun x => v.rid == x.1 && decide (parseDel x.2 = pat))

theorem gone_cons_same (src : String) (seen : List (String × String)) (rid e : String) :
    gone src ((rid, e) :: seen) (parseDel e) =
      fun v => gone src seen (parseDel e) v || (v.rid == rid && v.src == src) := by
  funext v
  simp only [gone, List.any_cons, decide_true, Bool.and_true]
  cases (v.src == src) <;> cases (v.rid == rid) <;> cases seen.any _ <;> rfl

theorem gone_cons_other (src : String) (seen : List (String × String)) (rid e : String) {q : List PTok}
    (h : q ≠ parseDel e) : gone src ((rid, e) :: seen) q = gone src seen q := by
  funext v
  simp only [gone, List.any_cons, decide_eq_false (Ne.symm h), Bool.and_false, Bool.false_or]

/-- the index during the removal of the rule set `src` from `t₀`: node by node, what the deletions done so far leave
of `t₀` (a node keeps its wildcard names and its flag as long as one of its values is left) -/
structure LoopInv (src : String) (t₀ t : Table RVal) (seen : List (String × String)) : Prop where
  nodup : NodupPats t
  nodes : ∀ p, getNode t p = (getNode t₀ p).bind (pruneNode (gone src seen p))

theorem loopInv_init (src : String) {t₀ : Table RVal} {items : List Item} (h : Indexes t₀ items) :
    LoopInv src t₀ t₀ [] := by
  refine ⟨h.nodup, fun p => ?_⟩
  cases hg : getNode t₀ p with
  | none => rfl
  | some n => exact (pruneNode_eq_self (expected_values ((h.holds p).symm.trans hg)).1 fun v _ => Bool.and_false _).symm

section
variable {src : String} {t₀ t t' : Table RVal} {seen seen' tg all : List (String × String)} {rid e : String}

theorem loopInv_step (h : LoopInv src t₀ t seen) (hd : del t e (fun v => v.rid == rid && v.src == src) = some t') :
    LoopInv src t₀ t' ((rid, e) :: seen) := by
  refine ⟨nodup_delPat _ _ _ _ h.nodup hd, fun q => ?_⟩
  rw [delPat_getNode t t' _ _ h.nodup hd q]
  by_cases hq : q = parseDel e
  · rw [if_pos hq, hq, h.nodes, gone_cons_same]
    cases getNode t₀ (parseDel e) with
    | none => rfl
    | some n₀ => exact pruneNode_bind _ _ n₀
  · rw [if_neg hq, h.nodes, gone_cons_other _ _ _ _ hq]

/-- a deletion succeeds while a value of the rule with the given id is left at the node -/
theorem del_ok_of_loopInv (h : LoopInv src t₀ t seen) {n₀ : Node RVal} {v : RVal} (hg : getNode t₀ (parseDel e) = some n₀)
    (hv : v ∈ n₀.values) (hr : v.rid = rid) (hs : v.src = src) (hng : gone src seen (parseDel e) v = false) :
    ∃ t', del t e (fun v => v.rid == rid && v.src == src) = some t' := by
  unfold del
  rw [delPat_some_iff, h.nodes, hg]
  refine ⟨_, pruneNode_of_mem hv hng, List.any_eq_true.mpr ⟨v, List.mem_filter.mpr ⟨hv, by rw [hng]; rfl⟩, ?_⟩⟩
  rw [hr, hs, beq_self_eq_true, beq_self_eq_true]; rfl

/-- the loop as a whole: the invariant is kept, and every target ends up in `seen` -/
theorem loopInv_removeFlat (h : LoopInv src t₀ t seen) (hr : removeFlat src t seen tg = some (t', seen')) :
    LoopInv src t₀ t' seen' ∧ (∀ x ∈ seen, x ∈ seen') ∧ (∀ x ∈ tg, x ∈ seen') := by
  induction tg generalizing t seen with
  | nil =>
    cases hr
    exact ⟨h, fun _ hx => hx, fun _ hx => nomatch hx⟩
  | cons x rest ih =>
    obtain ⟨rid, p⟩ := x
    rw [removeFlat] at hr
    by_cases hs : seen.contains (rid, p)
    · rw [if_pos hs] at hr
      obtain ⟨h1, h2, h3⟩ := ih h hr
      exact ⟨h1, h2, List.forall_mem_cons.mpr ⟨h2 _ (List.contains_iff_mem.mp hs), h3⟩⟩
    · rw [if_neg hs] at hr
      cases hd : del t p (fun v => v.rid == rid && v.src == src) with
      | none => rw [hd] at hr; cases hr
      | some t₁ =>
        rw [hd] at hr
        obtain ⟨h1, h2, h3⟩ := ih (loopInv_step h hd) hr
        exact ⟨h1, fun y hy => h2 y (List.mem_cons_of_mem _ hy),
          List.forall_mem_cons.mpr ⟨h2 _ (List.mem_cons_self ..), h3⟩⟩

/-- route expressions of one rule id that denote the same tree node are written identically -/
def NoAlias (tg : List (String × String)) : Prop :=
  ∀ a ∈ tg, ∀ b ∈ tg, a.1 = b.1 → parseDel a.2 = parseDel b.2 → a.2 = b.2

theorem removeFlat_succeeds (hinv : LoopInv src t₀ t seen) (hseen : ∀ x ∈ seen, x ∈ all) (htg : ∀ x ∈ tg, x ∈ all)
    (hna : NoAlias all)
    (hsrc : ∀ x ∈ all, ∃ v n₀, getNode t₀ (parseDel x.2) = some n₀ ∧ v ∈ n₀.values ∧ v.rid = x.1 ∧ v.src = src) :
    ∃ r, removeFlat src t seen tg = some r := by
  induction tg generalizing t seen with
  | nil => exact ⟨_, rfl⟩
  | cons x rest ih =>
    obtain ⟨rid, e⟩ := x
    have hx : (rid, e) ∈ all := htg _ (List.mem_cons_self ..)
    have hrest : ∀ y ∈ rest, y ∈ all := fun y hy => htg y (List.mem_cons_of_mem _ hy)
    simp only [removeFlat]
    by_cases hs : seen.contains (rid, e)
    · rw [if_pos hs]
      exact ih hinv hseen hrest
    · rw [if_neg hs]
      obtain ⟨v, n₀, hg₀, hv, hvr, hvs⟩ := hsrc _ hx
      -- the value is still there: a pair in `seen` with this rule id and an expression for this node would be
      -- `(rid, e)` itself
      have hng : gone src seen (parseDel e) v = false := by
        refine Bool.eq_false_iff.mpr fun hc => hs ?_
        simp only [gone, Bool.and_eq_true, List.any_eq_true, beq_iff_eq, decide_eq_true_eq] at hc
        obtain ⟨_, y, hy, hy1, hy2⟩ := hc
        have hy1 : y.1 = rid := hy1.symm.trans hvr
        have : y = (rid, e) := Prod.ext hy1 (hna y (hseen y hy) (rid, e) hx hy1 hy2)
        exact List.contains_iff_mem.mpr (this ▸ hy)
      obtain ⟨t', ht'⟩ := del_ok_of_loopInv hinv hg₀ hv hvr hvs hng
      rw [ht']
      exact ih (loopInv_step hinv ht') (List.forall_mem_cons.mpr ⟨hx, hseen⟩) hrest

end

/-- once every entry of the rule set `src` is deleted, a node is left with the routes of the other rule sets: the
routes of one node come from one rule set, so the node either loses every value and disappears or is left as it was -/
theorem expected_bind_pruneNode {items : List Item} (hc : Compatible items) {src : String}
    {seen : List (String × String)} (hall : ∀ j ∈ items, j.val.src = src → gone src seen j.pat j.val = true)
    (p : List PTok) :
    (expected items p).bind (pruneNode (gone src seen p)) =
      expected (items.filter (fun i => i.val.src != src)) p := by
  by_cases hs : ∃ k ∈ items, k.pat = p ∧ k.val.src = src
  · obtain ⟨k, hk1, hk2, hk3⟩ := hs
    have hsrc : ∀ j ∈ items, j.pat = p → j.val.src = src :=
      fun j hj hp => (hc j hj k hk1 (hp.trans hk2.symm)).2.trans hk3
    rw [expected_filter_of_none _ fun j hj hp => by rw [hsrc j hj hp, bne_self_eq_false]]
    cases he : expected items p with
    | none => rfl
    | some n =>
      refine pruneNode_eq_none fun v hv => ?_
      obtain ⟨j, hj, hjp, rfl⟩ := (expected_values he).2 v hv
      exact hjp ▸ hall j hj (hsrc j hj hjp)
  · have hsrc : ∀ j ∈ items, j.pat = p → j.val.src ≠ src := fun j hj hp e => hs ⟨j, hj, hp, e⟩
    rw [expected_filter_of_all _ fun j hj hp => bne_iff_ne.mpr (hsrc j hj hp)]
    cases he : expected items p with
    | none => rfl
    | some n =>
      refine pruneNode_eq_self (expected_values he).1 fun v hv => ?_
      obtain ⟨j, hj, hjp, rfl⟩ := (expected_values he).2 v hv
      unfold gone
      rw [beq_eq_false_iff_ne.mpr (hsrc j hj hjp)]; rfl

/-- **Removal.** If `removeRules` for the known rules of `src` succeeds, the resulting index holds exactly the routes
of the other rule sets. -/
theorem indexes_removeRules (src : String) {t₀ t' : Table RVal} {known : List Rule} {items : List Item}
    (hk : allItems known = items.map some) (h : Indexes t₀ items)
    (hr : removeRules t₀ [] (known.filter (·.src == src)) = some t') :
    Indexes t' (items.filter (fun i => i.val.src != src)) := by
  rw [removeRules_eq src t₀ [] _ fun r hr' => eq_of_beq (List.mem_filter.mp hr').2] at hr
  obtain ⟨⟨t₁, seen'⟩, hf, rfl⟩ := Option.map_eq_some_iff.mp hr
  obtain ⟨hinv, _, hall⟩ := loopInv_removeFlat (loopInv_init src h) hf
  refine ⟨fun p => ?_, hinv.nodup, h.compat.sublist fun x hx => (List.mem_filter.mp hx).1⟩
  rw [hinv.nodes p, h.holds p]
  refine expected_bind_pruneNode h.compat (fun j hj hjs => ?_) p
  -- the route `j` stems from a rule of `src`, whose targets have all been visited
  obtain ⟨r, hr, rt, hrt, hmk⟩ := item_origin hk hj
  obtain ⟨hp, hv, _⟩ := mkItem_eq_some.mp hmk
  rw [hv] at hjs ⊢
  have hrf : r ∈ known.filter (·.src == src) := List.mem_filter.mpr ⟨hr, beq_iff_eq.mpr hjs⟩
  refine Bool.and_eq_true_iff.mpr ⟨beq_iff_eq.mpr hjs, List.any_eq_true.mpr ⟨_, hall _ (List.mem_flatMap.mpr ⟨r, hrf, List.mem_map.mpr ⟨rt, hrt, rfl⟩⟩), ?_⟩⟩
  exact Bool.and_eq_true_iff.mpr ⟨beq_self_eq_true _, decide_eq_true (parseDel_of_parsePat hp)⟩

end Heimdall
