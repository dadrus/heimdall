import HeimdallModel.Spec.Lookup
import HeimdallModel.Lemmas.Basic
/-! Lemmas about the routing-tree model: `find = scan ∘ cands`; `matchCaps` and `specLt` read by the head of the
expression; the table as a function of the expression (`getNode`, `below`); `cands` lists exactly the matching nodes,
most specific first; a `scan` is decided by the first candidate that stops it, so the lookup is decided by the most
specific matching node that stops the search (`find_decided`); `lookup` in terms of `find`; request tokens and rendered
remainders are never empty (`Base/Path`). -/
namespace Heimdall

variable {V : Type} (m : V → List String → List String → Bool)

theorem scan_append (a b : List (Cand V)) :
    scan m (a ++ b) = (let r := scan m a; if done r then r else scan m b) := by
  induction a with
  | nil => rfl
  | cons c cs ih =>
    simp only [List.cons_append, scan]
    by_cases h : done (tryCand m c)
    · simp [h]
    · simp [h, ih]

theorem res_not_done (r : Res V) (h : ¬ done r) : r = (none, true) := by
  obtain ⟨a, b⟩ := r
  cases a <;> cases b <;> simp_all [done]

theorem scan_single (c : Cand V) : scan m [c] = tryCand m c := by
  simp only [scan]
  by_cases h : done (tryCand m c)
  · rw [if_pos h]
  · rw [if_neg h, res_not_done _ h]

@[simp] theorem tryCand_push (p : PTok) (c : Cand V) : tryCand m (c.push p) = tryCand m c := rfl

theorem scan_map_push (p : PTok) (cs : List (Cand V)) : scan m (cs.map (Cand.push p)) = scan m cs := by
  induction cs with
  | nil => rfl
  | cons c cs ih => simp only [List.map_cons, scan, tryCand_push, ih]

theorem leaf_eq (t : Table V) (caps : List String) :
    leafRes m t caps = scan m ((here t).toList.map (fun n => ⟨n, caps⟩)) := by
  unfold leafRes
  cases here t with
  | none => rfl
  | some n => exact (scan_single m ⟨n, caps⟩).symm

theorem catch_eq (t : Table V) (toks : List Tok) (caps : List String) :
    catchRes m t toks caps = scan m ((here (below t .catchAll)).toList.map
        (fun n => ⟨{ n with pat := [.catchAll] }, caps ++ [render toks]⟩)) := by
  unfold catchRes
  cases here (below t .catchAll) with
  | none => rfl
  | some cn => exact (scan_single m ⟨{ cn with pat := [.catchAll] }, _⟩).symm

theorem find_nil (t : Table V) (caps : List String) : find m t [] caps = leafRes m t caps := by
  unfold find; rfl

theorem find_cons (t : Table V) (tok : Tok) (rest : List Tok) (caps : List String) :
    find m t (tok :: rest) caps =
      (let r1 := find m (below t (.lit (tokStr tok))) rest caps
       if done r1 then r1 else
       let r2 : Res V := match tok with
         | .sep => (none, true)
         | .seg sg => find m (below t .wild) rest (caps ++ [sg])
       if done r2 then r2 else catchRes m t (tok :: rest) caps) := by
  conv => lhs; unfold find
  rfl

theorem find_nil_table (toks : List Tok) (caps : List String) :
    find m ([] : Table V) toks caps = (none, true) := by
  induction toks generalizing caps with
  | nil => rfl
  | cons tok rest ih =>
    rw [find_cons]
    have hb : ∀ q, below ([] : Table V) q = [] := fun _ => rfl
    simp only [hb, ih, done]
    cases tok <;> simp [catchRes, here, hb]

/-- the depth-first search of the tree is a scan over the candidate list -/
theorem find_eq_scan (t : Table V) (toks : List Tok) (caps : List String) :
    find m t toks caps = scan m (cands t toks caps) := by
  induction toks generalizing t caps with
  | nil => rw [find_nil, leaf_eq]; rfl
  | cons tok rest ih =>
    rw [find_cons]
    simp only [cands, scan_append, List.append_assoc, scan_map_push, ← ih, ← catch_eq]
    cases tok with
    | sep => rfl
    | seg sg => simp only [scan_map_push, ← ih]

section
variable {s : String} {ps : List PTok} {tok : Tok} {toks rest : List Tok} {caps : List String}

theorem matchCaps_nil : matchCaps [] toks = some caps ↔ toks = [] ∧ caps = [] := by
  cases toks <;> simp [matchCaps, eq_comm]

theorem matchCaps_cons_nil (p : PTok) (ps : List PTok) : matchCaps (p :: ps) [] = none := by
  cases p <;> rfl

theorem matchCaps_lit_cons :
    matchCaps (.lit s :: ps) (tok :: rest) = some caps ↔ s = tokStr tok ∧ matchCaps ps rest = some caps := by
  by_cases h : s = tokStr tok <;> simp [matchCaps, h]

theorem matchCaps_wild_cons :
    matchCaps (.wild :: ps) (tok :: rest) = some caps ↔
      ∃ sg c, tok = .seg sg ∧ matchCaps ps rest = some c ∧ caps = sg :: c := by
  cases tok <;> simp [matchCaps, eq_comm]

theorem matchCaps_catchAll_cons :
    matchCaps (.catchAll :: ps) (tok :: rest) = some caps ↔ ps = [] ∧ caps = [render (tok :: rest)] := by
  by_cases h : ps = [] <;> simp [matchCaps, h, eq_comm]

end

theorem specLt_cons_same (p : PTok) (a b : List PTok) : specLt (p :: a) (p :: b) = specLt a b := by
  rw [specLt, if_pos rfl]

theorem specLt_irrefl (a : List PTok) : specLt a a = false := by
  induction a with
  | nil => rfl
  | cons p ps ih => rw [specLt_cons_same, ih]

theorem specLt_asymm (a b : List PTok) (h : specLt a b = true) : specLt b a = false := by
  induction a generalizing b with
  | nil => cases h
  | cons p ps ih =>
    cases b with
    | nil => cases h
    | cons q qs =>
      by_cases hpq : p = q
      · subst hpq; rw [specLt_cons_same] at h ⊢; exact ih _ h
      · have hqp : ¬ q = p := fun e => hpq e.symm
        simp only [specLt, hpq, hqp, if_false, decide_eq_true_eq, decide_eq_false_iff_not] at h ⊢
        omega

/-- no two nodes of the table carry the same expression -/
def NodupPats (t : Table V) : Prop := t.Pairwise (fun a b => a.pat ≠ b.pat)

theorem getNode_some_pat {t : Table V} {p : List PTok} {n : Node V} (h : getNode t p = some n) : n.pat = p := by
  simpa using List.find?_some h

theorem getNode_mem {t : Table V} {p : List PTok} {n : Node V} (h : getNode t p = some n) : n ∈ t :=
  List.mem_of_find?_eq_some h

theorem getNode_of_mem {t : Table V} (hnd : NodupPats t) {n : Node V} (hn : n ∈ t) :
    getNode t n.pat = some n :=
  find_of_nodup Node.pat (List.pairwise_map.mpr hnd) hn

theorem here_eq_getNode (t : Table V) : here t = getNode t [] := rfl

theorem getNode_below (t : Table V) (q : PTok) (p : List PTok) :
    getNode (below t q) p = (getNode t (q :: p)).map (fun n => { n with pat := p }) := by
  induction t with
  | nil => rfl
  | cons a t ih =>
    obtain ⟨pat, k, v, b⟩ := a
    rcases pat with _ | ⟨q', rest⟩
    · exact ih
    · by_cases hq : q' = q
      · by_cases hr : rest = p
        · simp [below, getNode, hq, hr]
        · simpa [below, getNode, hq, hr] using ih
      · simpa [below, getNode, hq] using ih

/-- a node stands behind the edge `p` iff the table holds it with `p` in front of its expression -/
theorem getNode_below_some {t : Table V} {p : PTok} {n : Node V} :
    getNode (below t p) n.pat = some n ↔ getNode t (p :: n.pat) = some { n with pat := p :: n.pat } := by
  rw [getNode_below]
  cases h : getNode t (p :: n.pat) with
  | none => simp
  | some a =>
    obtain ⟨pat, k, v, b⟩ := a
    obtain ⟨pat', k', v', b'⟩ := n
    have := getNode_some_pat h
    simp only at this
    simp [this]

/-- `c` is a node of the table whose expression matches the request tokens, with the captured values -/
def Matching (t : Table V) (toks : List Tok) (c : Cand V) : Prop :=
  getNode t c.node.pat = some c.node ∧ matchCaps c.node.pat toks = some c.caps

/-- every candidate is a node of the table whose expression matches the request tokens -/
theorem cands_sound (t : Table V) (toks : List Tok) (caps : List String) (c : Cand V)
    (hc : c ∈ cands t toks caps) :
    getNode t c.node.pat = some c.node ∧ ∃ extra, matchCaps c.node.pat toks = some extra ∧ c.caps = caps ++ extra := by
  induction toks generalizing t caps c with
  | nil =>
    simp only [cands, List.mem_map, Option.mem_toList] at hc
    obtain ⟨n, hn, rfl⟩ := hc
    have hp := getNode_some_pat hn
    exact ⟨hp ▸ hn, [], by rw [hp]; rfl, (List.append_nil _).symm⟩
  | cons tok rest ih =>
    simp only [cands, List.mem_append, List.mem_map, Option.mem_toList] at hc
    rcases hc with (⟨c', hc', rfl⟩ | hc) | ⟨n, hn, rfl⟩
    · obtain ⟨hm, extra, he, hcaps⟩ := ih _ _ _ hc'
      exact ⟨getNode_below_some.mp hm, extra, matchCaps_lit_cons.mpr ⟨rfl, he⟩, hcaps⟩
    · cases tok with
      | sep => cases hc
      | seg sg =>
        obtain ⟨c', hc', rfl⟩ := List.mem_map.mp hc
        obtain ⟨hm, extra, he, hcaps⟩ := ih _ _ _ hc'
        exact ⟨getNode_below_some.mp hm, sg :: extra, matchCaps_wild_cons.mpr ⟨sg, extra, rfl, he, rfl⟩,
          hcaps.trans (List.append_assoc ..)⟩
    · have hp := getNode_some_pat hn
      exact ⟨hp ▸ getNode_below_some.mp (hp ▸ hn), _, matchCaps_catchAll_cons.mpr ⟨rfl, rfl⟩, rfl⟩

/-- every node of the table whose expression matches is a candidate, with exactly the matched values -/
theorem cands_complete (t : Table V) (toks : List Tok) (caps : List String) (n : Node V)
    (hn : getNode t n.pat = some n) (extra : List String) (hm : matchCaps n.pat toks = some extra) :
    ⟨n, caps ++ extra⟩ ∈ cands t toks caps := by
  obtain ⟨pat, keys, values, bt⟩ := n
  replace hm : matchCaps pat toks = some extra := hm
  induction toks generalizing t caps pat extra with
  | nil =>
    cases pat with
    | nil =>
      obtain ⟨-, rfl⟩ := matchCaps_nil.mp hm
      simp only [cands, List.mem_map, Option.mem_toList]
      exact ⟨_, hn, by rw [List.append_nil]⟩
    | cons p ps => rw [matchCaps_cons_nil] at hm; cases hm
  | cons tok rest ih =>
    simp only [cands, List.mem_append, List.mem_map, Option.mem_toList]
    cases pat with
    | nil => cases hm
    | cons p ps =>
      have hmem : getNode (below t p) ps = some ⟨ps, keys, values, bt⟩ :=
        getNode_below_some (n := ⟨ps, keys, values, bt⟩).mpr hn
      cases p with
      | lit s =>
        obtain ⟨rfl, hm'⟩ := matchCaps_lit_cons.mp hm
        exact .inl (.inl ⟨_, ih (hn := hmem) (hm := hm') .., rfl⟩)
      | wild =>
        obtain ⟨sg, e, rfl, hm', rfl⟩ := matchCaps_wild_cons.mp hm
        refine .inl (.inr (List.mem_map.mpr ⟨_, ih (caps := caps ++ [sg]) (hn := hmem) (hm := hm'), ?_⟩))
        rw [List.append_assoc]; rfl
      | catchAll =>
        obtain ⟨rfl, rfl⟩ := matchCaps_catchAll_cons.mp hm
        exact .inr ⟨_, hmem, rfl⟩

/-- the candidates are exactly the matching nodes -/
theorem mem_cands {t : Table V} {toks : List Tok} {c : Cand V} : c ∈ cands t toks [] ↔ Matching t toks c := by
  constructor
  · intro hc
    obtain ⟨hn, extra, hm, he⟩ := cands_sound t toks [] c hc
    exact ⟨hn, by rw [hm, he, List.nil_append]⟩
  · rintro ⟨hn, hm⟩
    exact cands_complete t toks [] c.node hn c.caps hm

/-- in a table without duplicate expressions every node is the node of its expression -/
theorem matching_of_mem {t : Table V} (hnd : NodupPats t) {n : Node V} (hn : n ∈ t) {path : List Tok}
    {caps : List String} (hm : matchCaps n.pat path = some caps) : Matching t path ⟨n, caps⟩ :=
  ⟨getNode_of_mem hnd hn, hm⟩

theorem push_pat (p : PTok) (c : Cand V) : (c.push p).node.pat = p :: c.node.pat := rfl

/-- the tree visits matching nodes from the most specific to the least specific -/
theorem cands_sorted (t : Table V) (toks : List Tok) (caps : List String) :
    (cands t toks caps).Pairwise (fun a b => specLt a.node.pat b.node.pat = true) := by
  induction toks generalizing t caps with
  | nil =>
    simp only [cands]
    cases here t <;> simp
  | cons tok rest ih =>
    -- three blocks: behind a literal, behind a single wildcard, the free wildcard; each sorted, and by the definition
    -- of `specLt` a literal head precedes a single wildcard, which precedes a free one
    have hpush : ∀ (p : PTok) t caps, ((cands t rest caps).map (Cand.push p)).Pairwise
        (fun a b => specLt a.node.pat b.node.pat = true) := fun p t caps =>
      List.pairwise_map.mpr ((ih t caps).imp fun h => (specLt_cons_same p _ _).trans h)
    cases tok with
    | sep =>
      simp only [cands, List.append_nil]
      refine List.pairwise_append.mpr ⟨hpush _ _ _, by cases here (below t .catchAll) <;> simp, ?_⟩
      simp only [List.forall_mem_map]
      exact fun _ _ _ _ => rfl
    | seg sg =>
      simp only [cands]
      refine List.pairwise_append.mpr ⟨List.pairwise_append.mpr ⟨hpush _ _ _, hpush _ _ _, ?_⟩,
        by cases here (below t .catchAll) <;> simp, ?_⟩
      · simp only [List.forall_mem_map]
        exact fun _ _ _ _ => rfl
      · simp only [List.forall_mem_append, List.forall_mem_map]
        exact ⟨fun _ _ _ _ => rfl, fun _ _ _ _ => rfl⟩

/-- two different members of a list ordered by `R` are related one way or the other -/
theorem pairwise_rel_or_rel {α : Type} {R : α → α → Prop} {l : List α} (h : l.Pairwise R) {a b : α}
    (ha : a ∈ l) (hb : b ∈ l) (hne : a ≠ b) : R a b ∨ R b a := by
  induction l with
  | nil => cases ha
  | cons x l ih =>
    obtain ⟨hx, hl⟩ := List.pairwise_cons.mp h
    rcases List.mem_cons.mp ha with rfl | ha'
    · rcases List.mem_cons.mp hb with rfl | hb'
      · exact absurd rfl hne
      · exact .inl (hx _ hb')
    · rcases List.mem_cons.mp hb with rfl | hb'
      · exact .inr (hx _ ha')
      · exact ih hl ha' hb'

theorem accepts_eq_isSome (n : Node V) (caps : List String) :
    accepts m n caps = (n.values.find? (fun v => m v n.keys caps)).isSome :=
  List.isSome_find?.symm

theorem accepts_of_find {n : Node V} {caps : List String} {v : V}
    (h : n.values.find? (fun v => m v n.keys caps) = some v) : accepts m n caps = true := by
  rw [accepts_eq_isSome, h]; rfl

/-- the candidate ends the search: it has an accepted value, or it forbids backtracking -/
def stops (c : Cand V) : Bool := accepts m c.node c.caps || !c.node.bt

theorem done_tryCand (c : Cand V) : done (tryCand m c) = stops m c := by
  rw [stops, accepts_eq_isSome]
  unfold tryCand tryNode done
  cases c.node.values.find? (fun v => m v c.node.keys c.caps) <;> rfl

/-- a scan is decided by the first candidate that stops the search -/
theorem scan_eq_find? (cs : List (Cand V)) :
    scan m cs = match cs.find? (stops m) with
      | some c => tryCand m c
      | none => (none, true) := by
  induction cs with
  | nil => rfl
  | cons c cs ih =>
    rw [scan, List.find?_cons, done_tryCand]
    cases stops m c
    · exact ih
    · rfl

/-- what a deciding candidate answers -/
theorem tryCand_fst_eq_some {c : Cand V} {f : Found V} :
    (tryCand m c).1 = some f ↔
      c.node.values.find? (fun v => m v c.node.keys c.caps) = some f.value ∧ f.keys = c.node.keys ∧ f.caps = c.caps := by
  unfold tryCand tryNode
  obtain ⟨v, k, cs⟩ := f
  cases c.node.values.find? (fun v => m v c.node.keys c.caps) <;> simp [eq_comm]

theorem tryCand_fst_eq_none {c : Cand V} : (tryCand m c).1 = none ↔ accepts m c.node c.caps = false := by
  rw [accepts_eq_isSome]
  unfold tryCand tryNode
  cases c.node.values.find? (fun v => m v c.node.keys c.caps) <;> simp

theorem stops_eq_false {c : Cand V} : stops m c = false ↔ accepts m c.node c.caps = false ∧ c.node.bt = true := by
  simp [stops]

/-- **The lookup is decided by the most specific matching node that stops the search** (it has an accepted value or
forbids backtracking): that node answers, every other such node is less specific; when no matching node stops the
search, nothing is found. -/
theorem find_decided (t : Table V) (toks : List Tok) :
    (∃ c, Matching t toks c ∧ stops m c = true ∧ find m t toks [] = tryCand m c ∧
        ∀ c', Matching t toks c' → stops m c' = true → c' = c ∨ specLt c.node.pat c'.node.pat = true) ∨
    ((∀ c, Matching t toks c → stops m c = false) ∧ find m t toks [] = (none, true)) := by
  rw [find_eq_scan, scan_eq_find?]
  cases hf : (cands t toks []).find? (stops m) with
  | none =>
    exact .inr ⟨fun c hc => Bool.eq_false_iff.mpr (List.find?_eq_none.mp hf c (mem_cands.mpr hc)), rfl⟩
  | some c =>
    obtain ⟨hs, pre, post, hcs, hpre⟩ := List.find?_eq_some_iff_append.mp hf
    have hsorted := cands_sorted t toks []
    rw [hcs] at hsorted
    refine .inl ⟨c, mem_cands.mp (List.mem_of_find?_eq_some hf), hs, rfl, fun c' hc' hs' => ?_⟩
    -- the candidates are sorted, and those in front of `c` do not stop the search
    have hmem := mem_cands.mpr hc'
    rw [hcs] at hmem
    rcases List.mem_append.mp hmem with hp | hp
    · exact absurd hs' (by simpa using hpre c' hp)
    · rcases List.mem_cons.mp hp with he | hp
      · exact .inl he
      · exact .inr ((List.pairwise_cons.mp (List.pairwise_append.mp hsorted).2.1).1 _ hp)

/-- a lookup answers with what the search found: its value, and the named wildcards with their captures -/
theorem lookup_eq_some {t : Table V} {path : String} {v : V} {ps : List (String × String)} :
    lookup m t path = some (v, ps) ↔
      ∃ f, (find m t (tokenize path) []).1 = some f ∧ v = f.value ∧ ps = paramsOf f.keys f.caps := by
  unfold lookup
  cases (find m t (tokenize path) []).1 <;> simp [eq_comm]

variable {m} in
/-- a looked-up value stands in a node of the table -/
theorem lookup_value_mem {t : Table V} {path : String} {vp : V × List (String × String)}
    (hl : lookup m t path = some vp) : ∃ n ∈ t, vp.1 ∈ n.values := by
  obtain ⟨f, hf, hv, -⟩ := (lookup_eq_some m (v := vp.1) (ps := vp.2)).mp hl
  rcases find_decided m t (tokenize path) with ⟨c, hc, -, hfind, -⟩ | ⟨-, hnone⟩
  · obtain ⟨hval, -, -⟩ := (tryCand_fst_eq_some m).mp (hfind ▸ hf)
    exact ⟨c.node, getNode_mem hc.1, hv ▸ List.mem_of_find?_eq_some hval⟩
  · rw [hnone] at hf; cases hf

theorem flushSeg_nonempty (acc : List Char) : ∀ t ∈ flushSeg acc, ∀ s, t = .seg s → s ≠ "" := by
  intro t ht s hs he
  unfold flushSeg at ht
  split at ht
  · cases ht
  · rename_i hacc
    rw [List.mem_singleton.mp ht] at hs
    cases hs
    exact hacc (by simpa using String.ofList_eq_empty_iff.mp he)

theorem tokenizeAux_nonempty (cs acc : List Char) : ∀ t ∈ tokenizeAux cs acc, ∀ s, t = .seg s → s ≠ "" := by
  induction cs generalizing acc with
  | nil => exact flushSeg_nonempty acc
  | cons c cs ih =>
    intro t ht s hs
    unfold tokenizeAux at ht
    split at ht
    · rcases List.mem_append.mp ht with h | h
      · exact flushSeg_nonempty acc t h s hs
      · rcases List.mem_cons.mp h with rfl | h
        · cases hs
        · exact ih [] t h s hs
    · exact ih (c :: acc) t ht s hs

theorem render_ne_empty (tok : Tok) (rest : List Tok) (h : ∀ s, tok = .seg s → s ≠ "") : render (tok :: rest) ≠ "" := by
  have htok : (tokStr tok).toList ≠ [] := by
    cases tok with
    | sep => exact List.cons_ne_nil _ _
    | seg sg => exact fun e => h sg rfl (String.toList_eq_nil_iff.mp e)
  intro he
  have := String.toList_eq_nil_iff.mpr he
  rw [render, List.map_cons, String.toList_join, List.flatMap_cons] at this
  exact htok (List.append_eq_nil_iff.mp this).1
end Heimdall
