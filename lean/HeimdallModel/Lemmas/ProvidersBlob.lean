import HeimdallModel.Lemmas.Providers
/-! Helper lemmas for C18, cloud_blob: each of the two loops of `ruleSetsUpdated` is a sequence of single-source steps over
distinct sources, so it keeps the contract `MovesTo` (`loop_movesTo`), and so does the poll made of the two
(`MovesTo.seq`) -/
set_option linter.unusedSectionVars false

namespace Heimdall.Prov

variable {σ : Type} [DecidableEq σ]

/-- **A loop over distinct sources keeps the contract.**  `F st l` runs through `l`; the round for `a` is the
single-source step for `key a` under observation `obs a` (a round that does nothing: `Obs.noinfo`), provided `Q a` holds
of the digest remembered for `key a` — which the rounds for the other sources do not touch.  Then the whole loop moves
every listed source as its round says and leaves the others alone; `want` is any description of that outcome. -/
theorem loop_movesTo {α : Type} (rej : List σ) (key : α → σ) (obs : α → Obs) (Q : α → Option Hash → Prop)
    (F : St σ → List α → Out σ) (hnil : ∀ st, F st [] = .quiet st)
    (hcons : ∀ st a l, Q a (st.book.get (key a)) →
      F st (a :: l) = seqOut (syncOne rej st (key a) (obs a)) fun st' => F st' l)
    (l : List α) (hn : (l.map key).Nodup) (st : St σ) (hi : Inv st) (hq : ∀ a ∈ l, Q a (st.book.get (key a)))
    (want : σ → Option Hash) (hl : ∀ a ∈ l, want (key a) = (obs a).next (st.book.get (key a)))
    (ho : ∀ s, s ∉ l.map key → want s = st.book.get s) :
    MovesTo rej st want (F st l).st (F st l).calls := by
  induction l generalizing st want with
  | nil => rw [hnil]; exact .quiet rej hi fun s => ho s List.not_mem_nil
  | cons a l ih =>
    rw [List.map_cons, List.nodup_cons] at hn
    have ok := syncOne_ok rej st (key a) (obs a) hi
    have hne : ∀ b ∈ l, key b ≠ key a := fun b hb e => hn.1 (e ▸ List.mem_map_of_mem hb)
    rw [hcons st a l (hq a List.mem_cons_self)]
    refine ok.andThen (w2 := fun s => if s = key a then (syncOne rej st (key a) (obs a)).st.book.get s else want s)
      (ih hn.2 _ ok.inv (fun b hb => ?_) _ (fun b hb => ?_) fun s hs => ?_)
      (if_pos rfl) (hl a List.mem_cons_self) fun s e => if_neg e
    · rw [ok.book_ne (hne b hb)]; exact hq b (List.mem_cons_of_mem _ hb)
    · rw [if_neg (hne b hb), ok.book_ne (hne b hb)]; exact hl b (List.mem_cons_of_mem _ hb)
    · split
      · rfl
      · next e => rw [ok.book_ne e]; exact ho s fun h => (List.mem_cons.mp h).elim e hs

/-- first loop of `ruleSetsUpdated`: a remembered source that is no longer listed is forgotten, the listed ones stay -/
theorem blobRemove_movesTo (rej current ids : List σ) (hn : ids.Nodup) (st : St σ) (hi : Inv st)
    (hk : ∀ id ∈ ids, st.book.get id ≠ none) (want : σ → Option Hash)
    (hl : ∀ id ∈ ids, want id = if id ∈ current then st.book.get id else none)
    (ho : ∀ s, s ∉ ids → want s = st.book.get s) :
    MovesTo rej st want (blobRemove rej st current ids).st (blobRemove rej st current ids).calls := by
  refine loop_movesTo rej (fun x => x) (fun x => if x ∈ current then .noinfo else .gone) (fun _ g => g ≠ none)
    (fun st ids => blobRemove rej st current ids) (fun _ => rfl) (fun st x l hx => ?_) ids
    (by rwa [List.map_id']) st hi hk want (fun x hx => ?_) (by rwa [List.map_id'])
  · show blobRemove rej st current (x :: l) = _
    rw [blobRemove]
    by_cases hc : x ∈ current
    · rw [if_pos (List.contains_iff_mem.mpr hc), if_pos hc]; rfl
    · rw [if_neg (fun h => hc (List.contains_iff_mem.mp h)), if_neg hc]
      unfold syncOne
      cases h : st.book.get x with
      | none => exact absurd h hx
      | some _ => rfl
  · show want x = _
    rw [hl x hx]; split <;> rfl

/-- observation a listed rule set stands for -/
def rsObs : Option Hash → Obs
  | some h => .content h
  | none => .noinfo

theorem rsObs_some (h : Hash) : rsObs (some h) = .content h := rfl
theorem rsObs_none : rsObs none = .noinfo := rfl

/-- second loop of `ruleSetsUpdated`: every listed rule set that can be used is created or brought up to date -/
theorem blobApply_movesTo (rej old : List σ) (items : List (σ × Option Hash)) (hn : (items.map (·.1)).Nodup)
    (st : St σ) (hi : Inv st) (hk : ∀ p ∈ items, (p.1 ∈ old ↔ st.book.get p.1 ≠ none)) (want : σ → Option Hash)
    (hl : ∀ p ∈ items, want p.1 = (rsObs p.2).next (st.book.get p.1))
    (ho : ∀ s, s ∉ items.map (·.1) → want s = st.book.get s) :
    MovesTo rej st want (blobApply rej old st items).st (blobApply rej old st items).calls := by
  refine loop_movesTo rej (·.1) (fun p => rsObs p.2) (fun p g => p.1 ∈ old ↔ g ≠ none) (blobApply rej old)
    (fun _ => rfl) (fun st p l hp => ?_) items hn st hi hk want hl ho
  obtain ⟨x, _ | h⟩ := p
  · rfl
  · rw [blobApply]
    congr 1
    show _ = syncOne rej st x (.content h)
    unfold syncOne
    cases hg : st.book.get x <;> simp [hp, hg]

/-- the sources a poll finds -/
def BlobFetch.ids : BlobFetch σ → List σ
  | .listing items => items.map (·.1)
  | .single id _ => [id]
  | _ => []

theorem BlobFetch.ids_nodup : {f : BlobFetch σ} → f.distinct → f.ids.Nodup
  | .listing _, h => h
  | .single _ _, _ => List.nodup_cons.mpr ⟨List.not_mem_nil, List.nodup_nil⟩
  | .cancelled, _ | .comm, _ | .internal, _ => List.nodup_nil

theorem BlobFetch.mem_ids {b : σ → Bool} : {f : BlobFetch σ} → f.within b → ∀ s ∈ f.ids, b s = true
  | .listing _, h, _, hs => let ⟨p, hp, e⟩ := List.mem_map.mp hs; e ▸ h p hp
  | .single _ _, h, _, hs => List.mem_singleton.mp hs ▸ h
  | .cancelled, _, _, hs | .comm, _, _, hs | .internal, _, _, hs => nomatch hs

/-- the rule sets handed to `ruleSetsUpdated` are of sources the poll found, in that order -/
theorem ruleSets_sublist {f : BlobFetch σ} {rss : List (σ × Option Hash)} (h : blobRuleSets f = some rss) :
    (rss.map (·.1)).Sublist f.ids := by
  cases f with
  | listing items =>
    cases h
    show ((items.filterMap _).map _).Sublist (items.map _)
    induction items with
    | nil => exact .slnil
    | cons p items ih =>
      obtain ⟨id, b⟩ := p
      cases b <;> simp only [List.filterMap_cons, List.map_cons]
      · exact ih.cons_cons _
      · exact ih.cons _
      · exact ih.cons_cons _
      · exact ih.cons_cons _
  | single id b =>
    rcases b with _ | b
    · cases h; exact List.nil_sublist _
    · cases b <;> cases h <;> simp [BlobFetch.ids]
  | comm => cases h; exact .slnil
  | _ => cases h

theorem raw_listed {e : BlobEvent σ} {rss : List (σ × Option Hash)} (hrs : blobRuleSets e.fetch = some rss)
    (hn : (rss.map (·.1)).Nodup) {s : σ} {x : Option Hash} (hm : (s, x) ∈ rss) (hb : e.bucket s = true) :
    e.raw s = rsObs x := by
  simp only [BlobEvent.raw, hrs, find_fst_of_mem hn hm, hb]
  cases x <;> rfl

theorem raw_not_listed {e : BlobEvent σ} {rss : List (σ × Option Hash)} (hrs : blobRuleSets e.fetch = some rss) {s : σ}
    (hm : s ∉ rss.map (·.1)) : e.raw s = if e.bucket s = true then .gone else .noinfo := by
  simp only [BlobEvent.raw, hrs, find_fst_none_iff.mpr hm]
  cases e.bucket s <;> rfl

theorem blobStep_movesTo (st : St σ) (e : BlobEvent σ) (hi : Inv st) (hd : e.fetch.distinct)
    (hwithin : e.fetch.within e.bucket) :
    MovesTo e.rej st (fun s => (e.raw s).next (st.book.get s)) (blobStep st e).st (blobStep st e).calls := by
  unfold blobStep
  cases hrs : blobRuleSets e.fetch with
  | none =>
    simp only
    split <;> exact .quiet _ hi fun s => by unfold BlobEvent.raw; split <;> simp only [hrs, Obs.next]
  | some rss =>
    have hold : ∀ s, s ∈ st.book.keys.filter e.bucket ↔ st.book.get s ≠ none ∧ e.bucket s = true := fun s => by
      rw [List.mem_filter, ne_eq, get_none_iff, Decidable.not_not]
    -- what the poll shows of a source that is not listed: gone if it is one of the polled bucket
    have hgone : ∀ s, s ∉ rss.map (·.1) →
        (e.raw s).next (st.book.get s) = if s ∈ st.book.keys.filter e.bucket then none else st.book.get s := by
      intro s hm
      rw [raw_not_listed hrs hm]
      by_cases ho : s ∈ st.book.keys.filter e.bucket
      · rw [if_pos ho, if_pos ((hold s).mp ho).2]; rfl
      · rw [if_neg ho]
        split
        · next hb => exact (Decidable.byContradiction fun h => ho ((hold s).mpr ⟨h, hb⟩)).symm
        · rfl
    simp only
    split
    · next hq =>
      simp only [Bool.and_eq_true, List.isEmpty_iff] at hq
      refine .quiet _ hi fun s => ?_
      rw [hgone s (hq.1 ▸ List.not_mem_nil), hq.2]; rfl
    · have hnd := (ruleSets_sublist hrs).nodup (BlobFetch.ids_nodup hd)
      have hin : ∀ p ∈ rss, e.bucket p.1 = true := fun p hp =>
        BlobFetch.mem_ids hwithin _ ((ruleSets_sublist hrs).subset (List.mem_map_of_mem (f := Prod.fst) hp))
      -- the first loop brings the sources that are not listed where the poll shows them, the second the listed ones
      have h1 := blobRemove_movesTo e.rej (rss.map (·.1)) _ (hi.nodup.filter e.bucket) st hi
        (fun s hs => ((hold s).mp hs).1)
        (fun s => if s ∈ rss.map (·.1) then st.book.get s else (e.raw s).next (st.book.get s))
        (fun s ho => by split; rfl; next hm => rw [hgone s hm, if_pos ho])
        (fun s ho => by split; rfl; next hm => rw [hgone s hm, if_neg ho])
      have hst : ∀ p ∈ rss, (blobRemove e.rej st (rss.map (·.1)) (st.book.keys.filter e.bucket)).st.book.get p.1 =
          st.book.get p.1 := fun p hp => by
        rw [h1.book, if_pos (List.mem_map_of_mem (f := Prod.fst) hp), ite_self]
      refine h1.seq (blobApply_movesTo e.rej _ rss hnd _ h1.inv (fun p hp => ?_)
        (fun s => if s ∈ rss.map (·.1) then (e.raw s).next (st.book.get s) else _) (fun p hp => ?_)
        fun s hm => if_neg hm) fun s => ?_
      · rw [hst p hp, hold, hin p hp]; exact and_iff_left rfl
      · rw [if_pos (List.mem_map_of_mem (f := Prod.fst) hp), hst p hp, raw_listed hrs hnd hp (hin p hp)]
      · by_cases hm : s ∈ rss.map (·.1)
        · exact .inl ⟨if_pos hm, if_pos hm⟩
        · exact .inr ⟨if_neg hm, if_neg hm⟩

end Heimdall.Prov
