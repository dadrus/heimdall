import HeimdallModel.Model.ProxyFwd
import HeimdallModel.Lemmas.UrlEscape
/-!
Percent-encoding as `net/url` does it: `escape` / `unescape` / `validEncoded` for paths, and heimdall's `escapeInvalid`.
Both escapers go through a string byte by byte and either keep the byte or write its escape: they are escapers in the
sense of Lemmas/UrlEscape (`escapePath_isEscaper`, `escapeInvalid_isEscaper`), and what is known of them comes from there.
Decodable strings are reasoned about as sequences of units (`exists_units`).  On top of that: `EscapedPath`, `setPath`
and `URLRewriter.Rewrite` — which bytes end up in the request line.
-/
namespace Heimdall.ProxyFwd
open Heimdall

/-! ### the two escapers -/

theorem shouldEscapePath_lt {c : Char} (h : shouldEscapePath c = true) : c.toNat < 256 := by
  unfold shouldEscapePath at h
  simp only [Bool.and_eq_true, decide_eq_true_eq] at h
  exact h.1

theorem invalid_lt {c : Char} (h : validPathChar c = false) : c.toNat < 256 := by
  unfold validPathChar at h
  simp only [Bool.or_eq_false_iff, Bool.not_eq_false'] at h
  exact shouldEscapePath_lt h.2

/-- `pctEncode` of a byte is its escape unit: `upperhex` digit by digit, and the high digit of a byte needs no `% 16` -/
theorem pctEncode_eq {c : Char} (h : c.toNat < 256) : pctEncode c = (PU.ofOctet c).render := by
  rw [pctEncode, PU.ofOctet, Nat.mod_eq_of_lt (show c.toNat / 16 < 16 by omega)]
  rfl

theorem escapePath_isEscaper : IsEscaper (fun c => !shouldEscapePath c) escapePath :=
  ⟨rfl, fun c t => by
    rw [escapePath, encUnit]
    cases h : shouldEscapePath c
    · rfl
    · rw [if_pos rfl, pctEncode_eq (shouldEscapePath_lt h)]; rfl⟩

theorem escapeInvalid_isEscaper : IsEscaper validPathChar escapeInvalid :=
  ⟨rfl, fun c t => by
    rw [escapeInvalid, encUnit]
    cases h : validPathChar c
    · rw [if_neg Bool.false_ne_true, if_neg Bool.false_ne_true, pctEncode_eq (invalid_lt h)]
    · rfl⟩

theorem validPathChar_of_noEscape {c : Char} (h : shouldEscapePath c = false) : validPathChar c = true := by
  simp [validPathChar, h]

/-- hex digits are alphanumeric: never escaped -/
theorem isHex_noEscape {c : Char} (h : isHex c = true) : shouldEscapePath c = false := by
  unfold isHex at h
  unfold shouldEscapePath isAlnum
  simp only [Bool.or_eq_true, Bool.and_eq_true, decide_eq_true_eq] at h
  rcases h with (h | h) | h
  · simp [h.1, h.2]
  · simp [show 'a' ≤ c from h.1, Char.le_trans h.2 (show 'f' ≤ 'z' by decide)]
  · simp [show 'A' ≤ c from h.1, Char.le_trans h.2 (show 'F' ≤ 'Z' by decide)]

theorem isHex_valid (c : Char) (h : isHex c = true) : validPathChar c = true :=
  validPathChar_of_noEscape (isHex_noEscape h)

/-! ### decodable strings -/

theorem pathUnescapeL_append (a b : Bytes) {a' : Bytes} (ha : pathUnescapeL a = some a') :
    pathUnescapeL (a ++ b) = (pathUnescapeL b).map (a' ++ ·) := by
  obtain ⟨us, hwf, rfl, rfl⟩ := exists_units ha
  clear ha
  induction us with
  | nil => show pathUnescapeL b = _; cases pathUnescapeL b <;> rfl
  | cons u us ih =>
    have h := List.forall_mem_cons.mp hwf
    rw [renderU_cons, List.append_assoc, pathUnescapeL_byUnit.unit h.1, ih h.2]
    cases pathUnescapeL b <;> rfl

theorem pathUnescapeL_drop (n : Nat) (s : Bytes) (h : (pathUnescapeL s).isSome = true) :
    (pathUnescapeL (s.drop n)).isSome = true := by
  -- cutting one byte off a unit sequence leaves a unit sequence: the two hex digits of an escape are literals
  have tail : ∀ us : List PU, (∀ u ∈ us, u.wf) → ∃ vs : List PU, (∀ u ∈ vs, u.wf) ∧ renderU vs = (renderU us).drop 1
    | [], _ => ⟨[], by simp, rfl⟩
    | .lit _ :: us, h => ⟨us, (List.forall_mem_cons.mp h).2, rfl⟩
    | .esc a b :: us, h =>
      have h' := List.forall_mem_cons.mp h
      ⟨.lit a :: .lit b :: us, List.forall_mem_cons.mpr ⟨isHex_ne_percent h'.1.1,
        List.forall_mem_cons.mpr ⟨isHex_ne_percent h'.1.2, h'.2⟩⟩, rfl⟩
  obtain ⟨d, hd⟩ := Option.isSome_iff_exists.mp h
  obtain ⟨us, hwf, rfl, _⟩ := exists_units hd
  have : ∃ vs : List PU, (∀ u ∈ vs, u.wf) ∧ renderU vs = (renderU us).drop n := by
    induction n with
    | zero => exact ⟨us, hwf, rfl⟩
    | succ n ih =>
      obtain ⟨vs, hv, he⟩ := ih
      obtain ⟨ws, hw, he'⟩ := tail vs hv
      exact ⟨ws, hw, by rw [he', he, List.drop_drop]⟩
  obtain ⟨vs, hv, he⟩ := this
  rw [← he, pathUnescapeL_render vs hv]
  rfl

theorem pathUnescapeL_head_slash (p d : Bytes) (hs : p.head? = some '/') (h : pathUnescapeL p = some d) :
    d ≠ ['*'] := by
  obtain ⟨us, _, rfl, rfl⟩ := exists_units h
  match us, hs with
  | [], hs => cases hs
  | .lit c :: _, hs => cases hs; simp [PU.dec]
  | .esc _ _ :: _, hs => cases hs

theorem pathUnescapeL_eq_nil (s : Bytes) (h : pathUnescapeL s = some []) : s = [] := by
  obtain ⟨us, _, rfl, hd⟩ := exists_units h
  rw [List.map_eq_nil_iff.mp hd]
  rfl

theorem pathUnescapeL_length (s d : Bytes) (h : pathUnescapeL s = some d) :
    d.length ≤ s.length ∧ ('%' ∈ s → d.length < s.length) := by
  obtain ⟨us, hwf, rfl, rfl⟩ := exists_units h
  clear h
  induction us with
  | nil => simp [renderU]
  | cons u us ih =>
    have h := List.forall_mem_cons.mp hwf
    have := ih h.2
    cases u with
    | lit c =>
      simp only [renderU_cons, PU.render, List.map_cons, List.length_cons, List.singleton_append, List.mem_cons]
      exact ⟨by omega, fun hm => by have := this.2 (hm.resolve_left (Ne.symm h.1)); omega⟩
    | esc a b =>
      simp only [renderU_cons, PU.render, List.map_cons, List.length_cons, List.cons_append, List.nil_append]
      exact ⟨by omega, fun _ => by omega⟩

theorem pathUnescapeL_self_no_percent (s : Bytes) (h : pathUnescapeL s = some s) : '%' ∉ s := by
  intro hm
  have := (pathUnescapeL_length s s h).2 hm
  omega

/-! ### `escape(s, encodePath)` -/

theorem escapePath_eq_nil (d : Bytes) (h : escapePath d = []) : d = [] := by
  cases d with
  | nil => rfl
  | cons c t =>
    unfold escapePath at h
    split at h <;> simp [pctEncode] at h

theorem pathUnescapeL_escapePath (s : Bytes) : pathUnescapeL (escapePath s) = some s :=
  escapePath_isEscaper.pathUnescapeL_octets (by decide) s fun c _ h => shouldEscapePath_lt (by simpa using h)

/-- a character of a canonical encoding: `%`, or one that `escape` leaves alone -/
def canonChar (c : Char) : Bool := c = '%' || !shouldEscapePath c

theorem escapePath_canon (s : Bytes) : (escapePath s).all canonChar = true :=
  escapePath_isEscaper.all_octets (by decide) (by decide) (fun a ha => by simp [canonChar, isHex_noEscape ha])
    (fun c hc => by simpa [canonChar] using Or.inr hc) s

theorem validEncodedPath_of_canon (s : Bytes) (h : s.all canonChar = true) :
    validEncodedPath s = true := by
  unfold validEncodedPath
  rw [List.all_eq_true] at h ⊢
  intro x hx
  have := h x hx
  simp only [canonChar, Bool.or_eq_true, decide_eq_true_eq, Bool.not_eq_true'] at this
  rcases this with rfl | h
  · rfl
  · exact validPathChar_of_noEscape h

theorem validEncodedPath_escapePath (s : Bytes) : validEncodedPath (escapePath s) = true :=
  validEncodedPath_of_canon _ (escapePath_canon s)

theorem escapePath_id (s : Bytes) (h : s.all (fun c => !shouldEscapePath c) = true) : escapePath s = s :=
  escapePath_isEscaper.eq_self s h

/-! ### `escapeInvalid`: the received spelling with only the forbidden octets encoded -/

theorem escapeInvalid_valid (p : Bytes) : validEncodedPath (escapeInvalid p) = true :=
  escapeInvalid_isEscaper.all_repair (by decide) isHex_valid p

theorem escapeInvalid_id (p : Bytes) (h : validEncodedPath p = true) : escapeInvalid p = p :=
  escapeInvalid_isEscaper.eq_self p h

theorem escapeInvalid_ne_nil (p : Bytes) {c : Char} (hp : p.head? = some c) : escapeInvalid p ≠ [] := by
  cases p with
  | nil => cases hp
  | cons c t =>
    unfold escapeInvalid
    split <;> simp [pctEncode]

/-- every escape of the client decodes as before, every encoded octet decodes to itself -/
theorem escapeInvalid_decodes (p d : Bytes) (h : pathUnescapeL p = some d) :
    pathUnescapeL (escapeInvalid p) = some d :=
  escapeInvalid_isEscaper.pathUnescapeL_repair (by decide) isHex_valid (fun _ => invalid_lt) h

/-! ### encoded slashes -/

theorem containsEncodedSlashL_append (a b : Bytes) (h : containsEncodedSlashL b = true) :
    containsEncodedSlashL (a ++ b) = true := by
  induction a with
  | nil => exact h
  | cons x t ih =>
    show (_ || containsEncodedSlashL (t ++ b)) = true
    rw [ih, Bool.or_true]

/-- encoding the forbidden octets of a decodable path neither creates nor removes an encoded slash: `/` may stand in a
path, and `%2F` is the escape of no other octet -/
theorem containsEncodedSlashL_escapeInvalid {p d : Bytes} (h : pathUnescapeL p = some d) :
    containsEncodedSlashL (escapeInvalid p) = containsEncodedSlashL p :=
  escapeInvalid_isEscaper.containsEncodedSlashL_repair (by decide) isHex_valid (by decide) (fun _ => invalid_lt) h

/-! ### `EscapedPath` and `setPath` -/

theorem star_escaped : shouldEscapePath '*' = true := by decide

theorem escapedPath_decodes (d raw : Bytes) : pathUnescapeL (escapedPath d raw) = some d := by
  unfold escapedPath
  split
  · next h =>
    simp only [Bool.and_eq_true, beq_iff_eq] at h
    exact h.2
  · split
    · next h => subst h; rfl
    · exact pathUnescapeL_escapePath d

/-- a raw path that is a valid encoding of the decoded path is returned as it is -/
theorem escapedPath_exact (d raw : Bytes) (hv : validEncodedPath raw = true) (hd : pathUnescapeL raw = some d) :
    escapedPath d raw = raw := by
  by_cases hn : raw = []
  · subst hn
    cases hd
    rfl
  · unfold escapedPath
    simp [hn, hv, hd]

theorem escapedPath_nil (d : Bytes) (hs : d ≠ ['*']) : escapedPath d [] = escapePath d := by
  unfold escapedPath
  simp [hs]

/-- heimdall's `escapedPath` on what Go's server parsed: the client's spelling with the forbidden octets encoded -/
theorem clientPath_setPath (p path raw : Bytes) (hs : p.head? = some '/') (h : setPath p = some (path, raw)) :
    pathUnescapeL p = some path ∧ clientPath path raw = escapeInvalid p := by
  unfold setPath at h
  cases hd : pathUnescapeL p with
  | none => simp [hd] at h
  | some d =>
    simp only [hd, Option.map_some, Option.some.injEq, Prod.mk.injEq] at h
    obtain ⟨h1, h2⟩ := h
    subst h1
    refine ⟨rfl, ?_⟩
    have hstar := pathUnescapeL_head_slash p d hs hd
    unfold clientPath
    by_cases he : escapePath d = p
    · simp only [he, if_true] at h2
      subst h2
      simp only [if_true]
      rw [escapedPath_nil d hstar, he]
      have : validEncodedPath p = true := by rw [← he]; exact validEncodedPath_escapePath d
      exact (escapeInvalid_id p this).symm
    · simp only [he, if_false] at h2
      subst h2
      have hne : p ≠ [] := by intro e; subst e; simp at hs
      simp [hne]

/-! ### `URLRewriter.Rewrite` -/

theorem all_transformPath (q : Char → Bool) (r : Rewrite) (e : Bytes) (ha : r.add.all q = true) (he : e.all q = true) :
    (transformPath r e).all q = true := by
  unfold transformPath cutPrefix
  rw [List.all_append, ha, Bool.true_and]
  split
  · rw [List.all_eq_true] at he ⊢
    exact fun x hx => he x (List.mem_of_mem_drop hx)
  · exact he

theorem transformPath_decodable (r : Rewrite) (e : Bytes) (ha : (pathUnescapeL r.add).isSome = true)
    (he : (pathUnescapeL e).isSome = true) : (pathUnescapeL (transformPath r e)).isSome = true := by
  unfold transformPath
  cases hd : pathUnescapeL r.add with
  | none => simp [hd] at ha
  | some a' =>
    rw [pathUnescapeL_append _ _ hd]
    have : (pathUnescapeL (cutPrefix r.strip e)).isSome = true := by
      unfold cutPrefix
      split
      · exact pathUnescapeL_drop _ e he
      · exact he
    cases hc : pathUnescapeL (cutPrefix r.strip e) with
    | none => simp [hc] at this
    | some _ => simp

theorem apply_escapedPath (r : Rewrite) (u : Url) : (r.apply u).escapedPath =
    escapedPath ((pathUnescapeL (transformPath r u.escapedPath)).getD [])
      (if (pathUnescapeL (transformPath r u.escapedPath)).getD [] ≠ transformPath r u.escapedPath
        then transformPath r u.escapedPath
        else if u.rawPath ≠ [] then transformPath r u.escapedPath else u.rawPath) := rfl

theorem rewrite_decodes (r : Rewrite) (u : Url) (d : Bytes)
    (hd : pathUnescapeL (transformPath r u.escapedPath) = some d) :
    pathUnescapeL (r.apply u).escapedPath = some d := by
  rw [apply_escapedPath, hd]
  exact escapedPath_decodes _ _

/-- `Rewrite` leaves exactly the transformed path when that is a valid, decodable encoding — in canonical encoding
if the URL carries no raw path (`allow_encoded_slashes: on`), because then the default encoding of the decoded path
must reproduce it -/
theorem rewrite_exact (r : Rewrite) (u : Url) (hv : validEncodedPath (transformPath r u.escapedPath) = true)
    (hc : u.rawPath = [] → (transformPath r u.escapedPath).all canonChar = true)
    (hd : (pathUnescapeL (transformPath r u.escapedPath)).isSome = true) :
    (r.apply u).escapedPath = transformPath r u.escapedPath := by
  rw [apply_escapedPath]
  generalize transformPath r u.escapedPath = R at *
  obtain ⟨d, hR⟩ := Option.isSome_iff_exists.mp hd
  rw [hR, Option.getD_some]
  by_cases hdr : d = R
  · subst hdr
    rw [if_neg (by simp)]
    split
    · exact escapedPath_exact _ _ hv hR
    · next hraw =>
      -- nothing to decode and no raw path: the default encoding must reproduce the string
      have hraw : u.rawPath = [] := by simpa using hraw
      have hc := hc hraw
      have hnp : '%' ∉ d := pathUnescapeL_self_no_percent d hR
      have hall : d.all (fun c => !shouldEscapePath c) = true := by
        rw [List.all_eq_true] at hc ⊢
        intro x hx
        have := hc x hx
        simp only [canonChar, Bool.or_eq_true, decide_eq_true_eq] at this
        exact this.resolve_left fun e => hnp (e ▸ hx)
      have hstar : d ≠ ['*'] := fun e => by simp [e, star_escaped] at hall
      rw [hraw, escapedPath_nil d hstar, escapePath_id d hall]
  · rw [if_pos hdr]
    exact escapedPath_exact _ _ hv hR

end Heimdall.ProxyFwd
