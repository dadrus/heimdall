import HeimdallModel.Lemmas.ConcLive
/-!
# What an explicit unlock costs when the protected call panics

Under the *explicit* release disciplines (`readerDeferred = false`: `RUnlock()` is an ordinary call after the search;
`writerDeferred = false`: `Unlock()` is an ordinary call at the exits) a panic skips the unlock.

* `Wedged c w`: writer `w` has announced itself on `rulesTreeMutex` and waits for a read lock that nobody will ever
  release, it holds `knownRulesMutex`, every other thread is at its start or has returned.  `wedged_stuck`: no thread
  can take a step from such a configuration, under any discipline.  `reader_leak_wedges`: with an explicit
  read-unlock one panicking lookup followed by one (successful) change reaches it from every initial configuration.
* `KLeaked c w`: `knownRulesMutex` is held by the crashed writer `w`, no other writer has got beyond its start.
  `kleaked_steps`: from then on no writer ever moves and nothing is ever committed.  `writer_leak_blocks`: with an
  explicit unlock of `knownRulesMutex` one panicking change reaches it.
-/
namespace Heimdall.Conc

variable {K T Op Req Ans : Type}

/-- writer `w` waits for the read locks to drain while holding both the announcement on `rulesTreeMutex` and
    `knownRulesMutex`; a read lock is still counted although no thread is inside a read section any more; every other
    thread stands at its start or has returned -/
structure Wedged (c : Config K T Op Req Ans) (w : Nat) : Prop where
  wl   : c.wlock = some w
  rw   : c.rww = some w
  rd   : c.readers ≠ 0
  tw   : ∃ op st', c.threads w = .writer op .rwWaiting st'
  rest : ∀ j, j ≠ w → (∃ op loc, c.threads j = .writer op .idle loc) ∨ (∃ rq, c.threads j = .reader rq .idle none 0 0) ∨
            finished (c.threads j)

/-- a thread that has returned or crashed stands on no edge of its protocol -/
theorem writer_edge_unfinished : ∀ e ∈ writerEdges, ¬ (e.1 = .doneOk ∨ e.1 = .doneFail ∨ e.1 = .crashed) := by decide
theorem reader_edge_unfinished : ∀ e ∈ readerEdges, ¬ (e.1 = .done ∨ e.1 = .crashed) := by decide

/-- from a wedged configuration nothing moves any more: a complete deadlock of changes and lookups -/
theorem wedged_stuck (d : Discipline) (s : Seq K T Op Req Ans) (c c' : Config K T Op Req Ans) (w : Nat)
    (hw : Wedged c w) : ¬ Step d s c c' := by
  intro hs
  obtain ⟨op0, st0, htw⟩ := hw.tw
  cases step_move hs with
  | @writer i op pc loc pc' loc' ev h _ he hlock hacq =>
    by_cases e : i = w
    · subst e; rw [htw] at h; cases h; exact hw.rd (hacq rfl)
    · rcases hw.rest i e with ⟨o, l, h'⟩ | ⟨q, h'⟩ | h'
      · rw [h'] at h; cases h
        have := hlock rfl; rw [hw.wl] at this; cases this
      · rw [h'] at h; cases h
      · rw [h] at h'; exact writer_edge_unfinished _ he h'
  | @reader i rq pc a st n pc' a' st' n' ev h _ he hlock =>
    by_cases e : i = w
    · subst e; rw [htw] at h; cases h
    · rcases hw.rest i e with ⟨o, l, h'⟩ | ⟨q, h'⟩ | h'
      · rw [h'] at h; cases h
      · rw [h'] at h; cases h
        have := hlock rfl; rw [hw.rw] at this; cases this
      · rw [h] at h'; exact reader_edge_unfinished _ he h'

theorem wedged_steps (d : Discipline) (s : Seq K T Op Req Ans) (c c' : Config K T Op Req Ans) (w : Nat)
    (hw : Wedged c w) (hs : Steps d s c c') : c' = c := by
  induction hs with
  | refl => rfl
  | step c₁ c₂ _ h ih => subst ih; exact absurd h (wedged_stuck d s _ _ w hw)

/-- a writer at its start, with no writer holding or announced on either mutex and a change the sequential repository
accepts, runs alone up to `rulesTreeMutex.Lock()`: lock, read, clone, compute, publish the known rules, announce -/
theorem writer_runs_to_request {d : Discipline} {s : Seq K T Op Req Ans} {c : Config K T Op Req Ans} {w : Nat}
    {op : Op} {loc st' : K × T} (hc : Reachable d s c) (h : c.threads w = .writer op .idle loc)
    (hk : c.wlock = none) (hr : c.rww = none) (happ : s.apply (c.known, c.index) op = some st') :
    Reachable d s { c with known := st'.1, wlock := some w, rww := some w,
                           threads := upd c.threads w (.writer op .rwWaiting st') } := by
  have R1 := Reachable.step _ _ hc (Step.wLock _ w op loc h hk)
  have R2 := Reachable.step _ _ R1 (Step.wReadKnown _ w op loc (upd_same _ _ _) rfl)
  have R3 := Reachable.step _ _ R2 (Step.wClone _ w op (c.known, loc.2) (upd_same _ _ _) rfl)
  have R4 := Reachable.step _ _ R3 (Step.wComputeOk _ w op (c.known, c.index) st' (upd_same _ _ _) rfl happ)
  have R5 := Reachable.step _ _ R4 (Step.wKnown _ w op st' (upd_same _ _ _) rfl)
  have R6 := Reachable.step _ _ R5 (Step.wRWRequest _ w op st' (upd_same _ _ _) hr)
  simpa only [upd_upd] using R6

/-- **An explicit read-unlock after the search turns one panicking lookup into a complete deadlock.**  From every
initial configuration with a reader `r` and a writer `w` whose change the sequential repository accepts: `r` takes
the read lock, its search panics (the explicit `RUnlock()` is skipped), `w` runs up to `rulesTreeMutex.Lock()` — and
the configuration is wedged. -/
theorem reader_leak_wedges (d : Discipline) (hd : d.readerDeferred = false) (s : Seq K T Op Req Ans)
    (c0 : Config K T Op Req Ans) (h0 : Initial s c0) (r w : Nat) (rq : Req) (op : Op) (loc st' : K × T)
    (hr : c0.threads r = .reader rq .idle none 0 0) (hw : c0.threads w = .writer op .idle loc)
    (happ : s.apply s.init op = some st') :
    ∃ c, Reachable d s c ∧ Wedged c w ∧ c.threads r = .reader rq .crashed none 0 0 ∧ c.log = [] ∧
      ∀ j, j ≠ w → j ≠ r → c.threads j = c0.threads j := by
  have hrw : r ≠ w := by intro e; subst e; rw [hr] at hw; cases hw
  have hwr : w ≠ r := fun e => hrw e.symm
  have R1 := Reachable.step (d := d) _ _ (.init c0 h0) (Step.rLock _ r rq hr h0.rww)
  have R2 := Reachable.step _ _ R1 (Step.rPanicLeaked hd _ r rq _ (upd_same _ _ _))
  have R3 := writer_runs_to_request (w := w) (op := op) (loc := loc) R2 (by simp [upd_other _ _ _ _ hwr, hw])
    h0.wlock h0.rww (by rw [h0.state]; exact happ)
  refine ⟨_, R3, ⟨rfl, rfl, Nat.succ_ne_zero _, ⟨op, st', upd_same _ _ _⟩, fun j hj => ?_⟩,
    by simp [upd_other _ _ _ _ hrw, h0.log], h0.log, fun j hj e => by simp only [upd, if_neg hj, if_neg e]⟩
  by_cases e : j = r
  · subst e; exact .inr (.inr (by simp [upd_other _ _ _ _ hj, finished]))
  · simp only [upd, if_neg hj, if_neg e]
    exact (h0.threads j).imp_right .inl

/-- `knownRulesMutex` is held by a writer that no longer exists; no other writer has got beyond its start -/
structure KLeaked (c : Config K T Op Req Ans) (w : Nat) : Prop where
  wl   : c.wlock = some w
  tw   : ∃ op loc, c.threads w = .writer op .crashed loc
  rest : ∀ j, j ≠ w → ∀ op pc loc, c.threads j = .writer op pc loc →
            pc = .idle ∨ pc = .doneOk ∨ pc = .doneFail ∨ pc = .crashed

/-- after the leak only lookups move: every writer thread stays where it is, nothing is committed -/
theorem kleaked_step (d : Discipline) (s : Seq K T Op Req Ans) (c c' : Config K T Op Req Ans) (w : Nat)
    (hk : KLeaked c w) (hs : Step d s c c') :
    KLeaked c' w ∧ c'.log = c.log ∧ ∀ j op pc loc, c.threads j = .writer op pc loc → c'.threads j = c.threads j := by
  obtain ⟨op0, loc0, htw⟩ := hk.tw
  cases step_move hs with
  | @writer i op pc loc pc' loc' ev h _ he hlock =>
    -- no writer can move: each stands at its start, where the mutex is not free, or has finished
    have hpc : pc = .idle ∨ pc = .doneOk ∨ pc = .doneFail ∨ pc = .crashed := by
      by_cases e : i = w
      · subst e; rw [htw] at h; cases h; exact .inr (.inr (.inr rfl))
      · exact hk.rest i e op pc loc h
    rcases hpc with rfl | hpc
    · have := hlock rfl; rw [hk.wl] at this; cases this
    · exact absurd hpc (writer_edge_unfinished _ he)
  | @reader i rq pc a st n pc' a' st' n' ev h ht _ _ hwl hlog =>
    have hwi : w ≠ i := fun e => by subst e; rw [htw] at h; cases h
    refine ⟨⟨hwl ▸ hk.wl, ⟨op0, loc0, by rw [ht, upd_other _ _ _ _ hwi]; exact htw⟩, ?_⟩, hlog, ?_⟩ <;> rw [ht]
    · exact forall_upd (P := fun j (t : Thread K T Op Req Ans) => j ≠ w → ∀ op pc loc, t = .writer op pc loc →
        pc = .idle ∨ pc = .doneOk ∨ pc = .doneFail ∨ pc = .crashed) (fun _ _ _ _ => nofun) fun j _ => hk.rest j
    · exact forall_upd (P := fun j t => ∀ op pc loc, c.threads j = .writer op pc loc → t = c.threads j)
        (fun _ _ _ hi => by rw [h] at hi; cases hi) fun _ _ _ _ _ _ => rfl

theorem kleaked_steps (d : Discipline) (s : Seq K T Op Req Ans) (c c' : Config K T Op Req Ans) (w : Nat)
    (hk : KLeaked c w) (hs : Steps d s c c') :
    KLeaked c' w ∧ c'.log = c.log ∧ ∀ j op pc loc, c.threads j = .writer op pc loc → c'.threads j = c.threads j := by
  induction hs with
  | refl => exact ⟨hk, rfl, fun _ _ _ _ _ => rfl⟩
  | step c₁ c₂ _ h ih =>
    obtain ⟨k1, l1, t1⟩ := ih
    obtain ⟨k2, l2, t2⟩ := kleaked_step d s c₁ c₂ w k1 h
    refine ⟨k2, by rw [l2, l1], ?_⟩
    intro j op pc loc hj
    have e1 := t1 j op pc loc hj
    rw [t2 j op pc loc (by rw [e1]; exact hj), e1]

/-- **An explicit unlock of `knownRulesMutex` turns one panicking change into the end of all changes.**  From every
initial configuration with a writer `w`: it takes the mutex, reads the known rules, `Clone()` (or, one step later,
the computation on the clone) panics, the explicit `Unlock()` is skipped — `KLeaked`. -/
theorem writer_leak_blocks (d : Discipline) (hd : d.writerDeferred = false) (s : Seq K T Op Req Ans)
    (c0 : Config K T Op Req Ans) (h0 : Initial s c0) (w : Nat) (op : Op) (loc : K × T)
    (hw : c0.threads w = .writer op .idle loc) :
    ∃ c, Reachable d s c ∧ KLeaked c w ∧ c.log = [] ∧ ∀ j, j ≠ w → c.threads j = c0.threads j := by
  have R1 := Reachable.step (d := d) _ _ (.init c0 h0) (Step.wLock _ w op loc hw h0.wlock)
  have R2 := Reachable.step _ _ R1 (Step.wReadKnown _ w op loc (upd_same _ _ _) rfl)
  have R3 := Reachable.step _ _ R2
    (Step.wPanicLeaked hd _ w op .readK (c0.known, loc.2) (upd_same _ _ _) (Or.inl rfl) rfl)
  refine ⟨_, R3, ⟨rfl, ⟨op, _, upd_same _ _ _⟩, fun j hj op' pc' loc' h => ?_⟩, h0.log,
    fun j hj => by simp only [upd_other _ _ _ _ hj]⟩
  simp only [upd_other _ _ _ _ hj] at h
  rcases h0.threads j with ⟨o, l, e⟩ | ⟨q, e⟩ <;> rw [e] at h <;> cases h
  exact .inl rfl

end Heimdall.Conc
