import HeimdallModel.Spec.Authn
import HeimdallModel.Lemmas.Basic
/-! Lemmas for property C04. `Authn.execute` and `usable` are brought to the specification's `credential` (`get_eq`,
`extract_eq`, and `execute_eq` / `usable_eq` over what the authenticator found); the loop is given in closed form
(`compositeFrom_eq`, `consulted_eq`) and compared with the reference semantics through `step_goesOn`. -/
namespace Heimdall.Authn
open Spec

@[simp] theorem chain_is (es : List Err) (k : Kind) : (Err.chain es).is k = es.any (·.is k) := by
  rw [Err.is]
  induction es with
  | nil => rfl
  | cons e es ih => simp [Err.isAny, ih]

@[simp] theorem kind_is (k' k : Kind) : (Err.kind k').is k = (k' == k) := by simp [Err.is]

@[simp] theorem foreign_is (k : Kind) : Err.foreign.is k = false := by simp [Err.is]

@[simp] theorem argErr_is (k : Kind) : argErr.is k = (k == .argument) := by
  cases k <;> decide

mutual
  theorem is_iff_leaf : ∀ (e : Err) (k : Kind), e.is k = true ↔ k ∈ leaves e
    | .kind k', k => by simp only [Err.is, leaves, beq_iff_eq, List.mem_singleton]; exact eq_comm
    | .foreign, k => by simp [Err.is, leaves]
    | .chain es, k => by simp only [Err.is, leaves]; exact isAny_iff_leaf es k
  theorem isAny_iff_leaf : ∀ (es : List Err) (k : Kind), Err.isAny es k = true ↔ k ∈ leavesAll es
    | [], k => by simp [Err.isAny, leavesAll]
    | e :: es, k => by
      simp only [Err.isAny, leavesAll, Bool.or_eq_true, List.mem_append]
      rw [is_iff_leaf e k, isAny_iff_leaf es k]
end

/-- what `errors.Is` sees of a constructed error value -/
theorem build_is (s : Shape) (c : Err) (k : Kind) :
    (Shape.build s c).is k = s.any (fun | .k k' => k' == k | .dyn => c.is k) := by
  simp only [Shape.build, chain_is, List.any_map]
  congr 1
  funext e
  cases e <;> simp

/-- an expression into which no argument error is written yields one only through its run-time cause -/
theorem argFree_build (s : Shape) (hs : s.argFree = true) (c : Err) (hc : c.is .argument = false) :
    (s.build c).is .argument = false := by
  rw [build_is, List.any_eq_false]
  rintro (k | _) he
  · intro h
    rw [beq_iff_eq.1 h] at he
    simp [Shape.argFree] at hs
    exact hs he
  · simp [hc]

/-- an authenticator file that meets its obligation writes no argument error outside `Execute` -/
theorem FileFacts.others_argFree {f : FileFacts} {entry : List Shape} (h : f.authenticatorOk entry = true) :
    f.others.all Shape.argFree = true := by
  simp only [FileFacts.authenticatorOk, Bool.and_eq_true] at h
  exact h.1.2

theorem bval_get_eq (v : BVal) :
    v.get = match single v with | some s => .ok (trimSpace s) | none => .error argErr := by
  cases v with
  | str _ | other => rfl
  | strs l => rcases l with _ | ⟨_, _ | _⟩ <;> rfl
  | anys l => rcases l with _ | ⟨_ | _, _ | _⟩ <;> rfl

/-- every extractor either yields the value at its source or the argument error -/
theorem get_eq (s : Strategy) (r : Req) :
    s.get r = if present s r then .ok (value s r) else .error argErr := by
  cases s with
  | header name scheme =>
    simp only [Strategy.get, present, value]
    split
    · simp_all
    · split <;> simp_all
  | query name | cookie name =>
    simp only [Strategy.get, present, value]
    split <;> simp_all
  | body name =>
    cases h : r.bodyParam name with
    | none => simp only [Strategy.get, present, value, h]; rfl
    | some v => simp only [Strategy.get, present, value, h, bval_get_eq]; cases single v <;> rfl

theorem extractFrom_eq (ss : List Strategy) (r : Req) (errs : List Err) :
    extractFrom ss r errs =
      match ss.find? (present · r) with
      | some s => .ok (value s r)
      | none => .error (.chain (errs ++ List.replicate ss.length argErr)) := by
  induction ss generalizing errs with
  | nil => simp [extractFrom]
  | cons s ss ih =>
    simp only [extractFrom, get_eq]
    by_cases h : present s r = true
    · simp [h]
    · simp only [h, Bool.false_eq_true, ↓reduceIte, List.find?_cons, ih]
      cases ss.find? (present · r) with
      | some s' => simp
      | none => simp [List.replicate_succ]

/-- the composite extractor yields the credential of the specification; where no source carries one, one argument
error per source -/
theorem extract_eq (ss : List Strategy) (r : Req) :
    extract ss r = match credential ss r with
      | some v => .ok v
      | none => .error (.chain (List.replicate ss.length argErr)) := by
  simp only [extract, extractFrom_eq, credential]
  cases ss.find? (present · r) <;> simp

theorem jwtSite_argFree (s : JwtSite) (hs : s.verifies = true) : s.shape.argFree = true := by
  cases s <;> first | rfl | cases hs

theorem introSite_argFree (s : IntroSite) : s.shape.argFree = true := by
  cases s <;> rfl

theorem genSite_argFree (s : GenSite) : s.shape.argFree = true := by
  cases s <;> rfl

/-- The error of a verdict taken from a table of well-formed verdicts (or of a well-formed default) is no argument
error: it names a site reached after the credential was found, with an argument-free cause. -/
theorem lookup_error_arg_free {σ : Type} (shape : σ → Shape) (verifies : σ → Bool)
    (hs : ∀ s, verifies s = true → (shape s).argFree = true) (l : List ((String × String) × Verdict σ))
    (hl : l.all (fun p => p.2.wf verifies) = true) (d : Verdict σ) (hd : d.wf verifies = true) (id tok : String)
    (e : Err) (h : ((lookup l id tok).getD d).outcome shape = .error e) : e.is .argument = false := by
  have hv : ((lookup l id tok).getD d).wf verifies = true := by
    cases hl' : lookup l id tok with
    | none => exact hd
    | some v =>
      simp only [lookup, Option.map_eq_some_iff] at hl'
      obtain ⟨p, hp, rfl⟩ := hl'
      exact List.all_eq_true.1 hl p (List.mem_of_find?_eq_some hp)
  cases hv' : (lookup l id tok).getD d with
  | ok sub => rw [hv'] at h; cases h
  | fail s c =>
    rw [hv'] at h hv
    cases h
    simp only [Verdict.wf, Bool.and_eq_true, Bool.not_eq_true'] at hv
    exact argFree_build _ (hs s hv.1) c hv.2

/-! `Execute` and `usable` as functions of *what the authenticator found* at its sources: the extraction occurs in
`Typ.found` alone; the ladders (`Authn.check`) and the notion "of its kind" (`Typ.accepts`) are stated on the value
found, so the facts about them need no request. `execute_eq` and `usable_eq` are the only places where extraction and
ladder meet. -/

/-- where `basic_auth` looks for its credential -/
abbrev basicSource : Strategy := .header "Authorization" "Basic"

/-- the value at the first of the authenticator's sources that carries one; `none` for `anonymous` and
`unauthorized`, which look for nothing. One equation per type, each with `credential` on the right: for a concrete
authenticator and request `simp` reaches `credential ss r` in one definitional step, and the kernel, asked whether
`found` and that agree, unfolds `found` and is done. (Behind an `Option.bind` or a `match` on `Typ.sources` it would
unfold `credential ss r` first and evaluate the whole extraction on the request.) -/
def Typ.found : Typ → Req → Option String
  | .basic _ _, r => credential [basicSource] r
  | .jwt ss, r => credential ss r
  | .introspection ss, r => credential ss r
  | .generic ss, r => credential ss r
  | _, _ => none

/-- `Execute` once the sources were read: what the authenticator answers, given what it found -/
def Authn.check (w : World) (a : Authn) (c : Option String) : Except Err String :=
  match a.typ, c with
  | .anonymous s, _ => .ok (if s = "" then "anonymous" else s)
  | .unauthorized, _ => .error (unauthorizedShape.build .foreign)
  | .basic _ _, none => .error (BasicSite.noHeader.shape.build argErr)
  | .basic user pass, some data => basicCheck user pass (w.basicDecode data)
  | .jwt ss, none => .error (JwtSite.noToken.shape.build (.chain (.replicate ss.length argErr)))
  | .jwt _, some tok =>
    if w.parsesJWT tok then (w.jwtVerdict a.key tok).outcome JwtSite.shape
    else .error (JwtSite.parse.shape.build .foreign)
  | .introspection ss, none => .error (IntroSite.noToken.shape.build (.chain (.replicate ss.length argErr)))
  | .introspection _, some tok => (w.introVerdict a.key tok).outcome IntroSite.shape
  | .generic ss, none => .error (GenSite.noData.shape.build (.chain (.replicate ss.length argErr)))
  | .generic _, some tok => (w.genVerdict a.key tok).outcome GenSite.shape

/-- what was found is a credential of the authenticator's kind -/
def Typ.accepts (w : World) : Typ → Option String → Bool
  | .anonymous _, _ => true
  | .unauthorized, _ => true
  | .jwt _, some tok => w.parsesJWT tok
  | _, c => c.isSome

theorem credential_single (s : Strategy) (r : Req) :
    credential [s] r = if present s r then some (value s r) else none := by
  simp only [credential, List.find?]
  cases present s r <;> rfl

theorem execute_eq (w : World) (a : Authn) (r : Req) : a.execute w r = a.check w (a.typ.found r) := by
  obtain ⟨id, typ, af, ov, key⟩ := a
  cases typ with
  | anonymous s => rfl
  | unauthorized => rfl
  | basic user pass =>
    simp only [Authn.execute, Typ.found, get_eq, credential_single]
    cases present basicSource r <;> rfl
  | jwt ss | introspection ss | generic ss =>
    simp only [Authn.execute, Typ.found, extract_eq]
    cases credential ss r <;> rfl

theorem usable_eq (w : World) (a : Authn) (r : Req) : usable w a r = a.typ.accepts w (a.typ.found r) := by
  obtain ⟨id, typ, af, ov, key⟩ := a
  cases typ with
  | anonymous s => rfl
  | unauthorized => rfl
  | basic user pass =>
    simp only [usable, Typ.found, credential_single]
    cases present basicSource r <;> rfl
  | jwt ss | introspection ss | generic ss =>
    simp only [usable, Typ.found]
    cases credential ss r <;> rfl

theorem basicCheck_arg_free {user pass : String} {d : Option (List String)} {e : Err}
    (h : basicCheck user pass d = .error e) : e.is .argument = false := by
  unfold basicCheck at h
  split at h
  · cases h; rfl
  · split at h <;> cases h; rfl
  · cases h; rfl

/-- "no credentials": the collected errors of a non-empty list of sources, attached as the cause, make an argument
error -/
theorem missing_is_argument (s : Shape) (hs : .dyn ∈ s) (ss : List Strategy) (hne : ss ≠ []) :
    (s.build (.chain (.replicate ss.length argErr))).is .argument = true := by
  rw [build_is, List.any_eq_true]
  exact ⟨.dyn, hs, by simp [List.any_replicate, hne]⟩

/-- The ladders: an error is an argument error exactly if what was found is no credential of the kind. -/
theorem check_error_argument (w : World) (a : Authn) (c : Option String) (e : Err) (hw : w.wf = true)
    (ha : a.wf = true) (h : a.check w c = .error e) : e.is .argument = !a.typ.accepts w c := by
  simp only [World.wf, Bool.and_eq_true] at hw
  obtain ⟨id, typ, af, ov, key⟩ := a
  have hne : ∀ ss, typ.sources = some ss → ss ≠ [] := fun ss h => by simpa [Authn.wf, h] using ha
  cases typ <;> cases c <;> simp only [Authn.check, Typ.accepts] at h ⊢
  case anonymous.none | anonymous.some => cases h
  case unauthorized.none | unauthorized.some | basic.none => cases h; rfl
  case basic.some => exact basicCheck_arg_free h
  case jwt.none ss | introspection.none ss | generic.none ss =>
    cases h; exact missing_is_argument _ (by decide) ss (hne ss rfl)
  case jwt.some ss tok =>
    cases hp : w.parsesJWT tok with
    | true => rw [hp] at h; exact lookup_error_arg_free _ _ jwtSite_argFree _ hw.1.1 _ rfl key tok e h
    | false => rw [hp] at h; cases h; rfl
  case introspection.some ss tok =>
    exact lookup_error_arg_free _ _ (fun s _ => introSite_argFree s) _ hw.1.2 _ rfl key tok e h
  case generic.some ss tok =>
    exact lookup_error_arg_free _ _ (fun s _ => genSite_argFree s) _ hw.2 _ rfl key tok e h

/-- The ladders: only a credential of the kind is accepted. -/
theorem check_ok_accepts (w : World) (a : Authn) (c : Option String) (s : String) (h : a.check w c = .ok s) :
    a.typ.accepts w c = true := by
  obtain ⟨id, typ, af, ov, key⟩ := a
  cases typ <;> cases c <;> simp only [Authn.check, Typ.accepts] at h ⊢
  case basic.none | jwt.none | introspection.none | generic.none => cases h
  case basic.some | introspection.some | generic.some => rfl
  case jwt.some ss tok =>
    cases hp : w.parsesJWT tok with
    | true => rfl
    | false => rw [hp] at h; cases h

/-- An authenticator's error is an argument error exactly if it found no usable credentials of its kind. -/
theorem execute_error_argument (w : World) (a : Authn) (r : Req) (e : Err) (hw : w.wf = true) (ha : a.wf = true)
    (h : a.execute w r = .error e) : e.is .argument = !usable w a r := by
  rw [execute_eq] at h
  rw [usable_eq, check_error_argument w a _ e hw ha h]

/-- what one step contributes when it is the one that ends the loop -/
def Step.result (s : Step) : Result :=
  match s.out with
  | .ok sub => .subject sub
  | .error e => .failure e

theorem consulted_le (ss : List Step) : consulted ss ≤ ss.length := by
  induction ss with
  | nil => simp [consulted]
  | cons s ss ih => simp only [consulted, List.length_cons]; split <;> omega

/-- the step with index `k` is executed iff every earlier step failed and let the loop go on -/
theorem lt_consulted_iff (ss : List Step) (k : Nat) :
    k < consulted ss ↔ k < ss.length ∧ ∀ j, j < k → ∀ s, ss[j]? = some s → s.goesOn = true := by
  induction ss generalizing k with
  | nil => simp [consulted]
  | cons s ss ih =>
    cases k with
    | zero => simp only [consulted]; split <;> simp
    | succ k =>
      simp only [consulted, Nat.forall_lt_succ_left, List.getElem?_cons_zero, List.getElem?_cons_succ,
        Option.some.injEq, forall_eq', List.length_cons, Nat.add_lt_add_iff_right]
      split <;> simp_all

theorem compositeFrom_eq (ss : List Step) (last : Result) :
    compositeFrom ss last =
      match ss.find? (fun s => !s.goesOn) with
      | some s => s.result
      | none =>
        match ss.getLast? with
        | some s => s.result
        | none => last := by
  induction ss generalizing last with
  | nil => rfl
  | cons s ss ih =>
    simp only [compositeFrom, List.find?_cons, Step.goesOn, ih]
    cases ho : s.out with
    | ok sub => simp [Step.result, ho]
    | error e =>
      cases h : e.is .argument || s.fallback with
      | false => simp [h, Step.result, ho]
      | true =>
        cases ss with
        | nil => simp [h, Step.result, ho]
        | cons t ts =>
          cases hl : (t :: ts).getLast? with
          | none => simp at hl
          | some x => simp [h, List.getLast?_cons_cons, hl]

/-- the loop, one authenticator at a time: the rest of the chain answers exactly if the first one lets the loop go on
and there is a rest -/
theorem composite_cons (s : Step) (ss : List Step) :
    composite (s :: ss) = if s.goesOn = true ∧ ss ≠ [] then composite ss else s.result := by
  simp only [composite, compositeFrom_eq, List.find?_cons]
  cases s.goesOn with
  | false => simp
  | true =>
    cases ss with
    | nil => simp
    | cons t ts => simp [List.getLast?_cons_cons]

theorem consulted_eq (ss : List Step) :
    consulted ss = min ((ss.takeWhile (·.goesOn)).length + 1) ss.length := by
  induction ss with
  | nil => simp [consulted]
  | cons s ss ih =>
    simp only [consulted, List.takeWhile_cons, List.length_cons]
    by_cases hg : s.goesOn = true
    · simp only [hg, ↓reduceIte, ih, List.length_cons]; omega
    · simp only [hg, Bool.false_eq_true, ↓reduceIte, List.length_nil]; omega

/-- a step that ends the loop: everything after it is irrelevant -/
theorem composite_decisive (pre post : List Step) (s : Step) (hpre : ∀ p ∈ pre, p.goesOn = true)
    (hs : s.goesOn = false) :
    composite (pre ++ s :: post) = s.result ∧ consulted (pre ++ s :: post) = pre.length + 1 := by
  constructor
  · have h1 : pre.find? (fun s => !s.goesOn) = none := by simpa using hpre
    simp [composite, compositeFrom_eq, List.find?_append, h1, hs]
  · rw [consulted_eq]
    have h1 : (pre ++ s :: post).takeWhile (·.goesOn) = pre := by
      rw [List.takeWhile_append_of_pos hpre]
      simp [hs]
    simp only [h1, List.length_append, List.length_cons]; omega

theorem takeWhile_map_congr_mem {α β : Type} {f : α → β} {p : β → Bool} {q : α → Bool} (l : List α)
    (h : ∀ a ∈ l, p (f a) = q a) : ((l.map f).takeWhile p).length = (l.takeWhile q).length := by
  induction l with
  | nil => rfl
  | cons a as ih =>
    simp only [List.map_cons, List.takeWhile_cons, h a (by simp)]
    cases q a <;> simp [ih fun b hb => h b (by simp [hb])]

section
variable (w : World) (r : Req)

/-- the loop goes on after an authenticator exactly if the specification lets the next one be consulted -/
theorem step_goesOn (a : Authn) (hw : w.wf = true) (ha : a.wf = true) :
    (a.step w r).goesOn = passesOn w r a := by
  simp only [Authn.step, Step.goesOn, passesOn, fails]
  cases h : a.execute w r with
  | ok s => simp
  | error e => simp [execute_error_argument w a r e hw ha h]

/-- one iteration on a request: the ladder on what the authenticator found -/
theorem step_eq (a : Authn) : a.step w r = ⟨a.check w (a.typ.found r), a.fallback⟩ := by
  rw [Authn.step, execute_eq]

theorem step_result (a : Authn) : (a.step w r).result = resultOf w r a := by
  simp only [Authn.step, Step.result, resultOf]
  cases a.execute w r <;> rfl

theorem step_goesOn_of_all (chain : List Authn) (hw : w.wf = true)
    (hc : chain.all Authn.wf = true) :
    ∀ a ∈ chain, (a.step w r).goesOn = passesOn w r a :=
  fun a ha => step_goesOn w r a hw (List.all_eq_true.1 hc a ha)

/-- the authenticators before `a` pass the request on and `a` does not: `a` answers, and nothing after it is consulted -/
theorem run_decisive (pre post : List Authn) (a : Authn) (hw : w.wf = true)
    (hc : (pre ++ a :: post).all Authn.wf = true)
    (hpre : ∀ b ∈ pre, fails w r b = true ∧ (usable w b r = false ∨ b.fallback = true))
    (ha : passesOn w r a = false) :
    run w r (pre ++ a :: post) = resultOf w r a ∧ runConsulted w r (pre ++ a :: post) = pre.length + 1 := by
  have hg := step_goesOn_of_all w r _ hw hc
  have := composite_decisive (pre.map (Authn.step w r)) (post.map (Authn.step w r)) (a.step w r)
    (by simpa using fun b hb => (hg b (by simp [hb])).trans (by simpa [passesOn] using hpre b hb))
    ((hg a (by simp)).trans ha)
  simpa [run, runConsulted, step_result] using this

/-- usable credentials, rejected, no fallback: the failure is no argument error, it is the answer whatever follows,
and nothing after it is consulted -/
theorem rejected_is_final (pre post : List Authn) (a : Authn) (e : Err) (hw : w.wf = true)
    (hc : (pre ++ a :: post).all Authn.wf = true)
    (hpre : ∀ b ∈ pre, fails w r b = true ∧ (usable w b r = false ∨ b.fallback = true))
    (hx : a.execute w r = .error e) (hu : usable w a r = true) (hf : a.fallback = false) :
    e.is .argument = false ∧
    run w r (pre ++ a :: post) = .failure e ∧ runConsulted w r (pre ++ a :: post) = pre.length + 1 := by
  have ha : a.wf = true := List.all_eq_true.1 hc a (by simp)
  have := run_decisive w r pre post a hw hc hpre (by simp [passesOn, hu, hf])
  exact ⟨by rw [execute_error_argument w a r e hw ha hx, hu]; rfl, by simpa [resultOf, hx] using this⟩

/-- a value at the sources of `oauth2_introspection` or `generic`, a JWT at those of `jwt`, is a usable credential -/
theorem usable_of_credential (a : Authn) (ss : List Strategy) (tok : String)
    (hcred : credential ss r = some tok)
    (ht : a.typ = .introspection ss ∨ a.typ = .generic ss ∨ (a.typ = .jwt ss ∧ w.parsesJWT tok = true)) :
    usable w a r = true := by
  rw [usable_eq]
  rcases ht with h | h | ⟨h, hj⟩ <;> simp [h, Typ.found, hcred, Typ.accepts]
  exact hj

theorem answer_trace_cons (a : Authn) (as : List Authn) :
    (answer w r (a :: as)).trace =
      (a.id, obsOf (a.execute w r)) :: (if (a.step w r).goesOn then (answer w r as).trace else []) := by
  simp only [answer, runConsulted, List.map_cons, consulted]
  by_cases hg : (a.step w r).goesOn = true
  · simp [hg, List.take_succ_cons]
  · simp [hg]

theorem answer_final_cons (a : Authn) (as : List Authn) :
    (answer w r (a :: as)).final =
      if (a.step w r).goesOn = true ∧ as ≠ [] then (answer w r as).final else obsOfResult (resultOf w r a) := by
  simp only [answer, run, List.map_cons, composite_cons, ne_eq, List.map_eq_nil_iff, ← step_result]
  split <;> rfl

@[simp] theorem sameOutcome_obsOf (x : Except Err String) : sameOutcome x (obsOf x) = true := by
  cases x <;> simp [sameOutcome, obsOf]

end

theorem hasInfix_iff (l sub : List Char) : hasInfix l sub = true ↔ sub <:+: l := by
  induction l with
  | nil => simp [hasInfix]
  | cons c cs ih =>
    simp only [hasInfix, Bool.or_eq_true, ih, List.isPrefixOf_iff_prefix, List.infix_cons_iff]

theorem contains_iff (ct sub : String) : contains ct sub = true ↔ ∃ p s : String, ct = p ++ sub ++ s := by
  simp only [contains, hasInfix_iff]
  constructor
  · rintro ⟨p, s, h⟩
    refine ⟨String.ofList p, String.ofList s, ?_⟩
    apply String.toList_injective
    simp [String.toList_append, h]
  · rintro ⟨p, s, rfl⟩
    exact ⟨p.toList, s.toList, by simp [String.toList_append]⟩

theorem decoderFor_none_iff (ct : String) :
    decoderFor ct = none ↔
      contains ct "json" = false ∧ contains ct "application/x-www-form-urlencoded" = false ∧
        contains ct "yaml" = false := by
  unfold decoderFor
  cases contains ct "json" <;> cases contains ct "application/x-www-form-urlencoded" <;>
    cases contains ct "yaml" <;> decide

/-- whatever the authorization server answers to heimdall's token request — any status, any error code, any body —
the error of the authentication strategy is no argument error -/
theorem tokenAnswer_failure_arg_free (a : TokenAnswer) (e : Err) (h : a.failure = some e) :
    e.is .argument = false := by
  cases a with
  | badRequest c => cases c <;> simp [TokenAnswer.failure] at h <;> subst h <;> simp
  | _ => simp [TokenAnswer.failure] at h <;> subst h <;> simp

theorem endpointAuth_failure_arg_free (a : EndpointAuth) (e : Err) (h : a.failure = some e) :
    e.is .argument = false := by
  cases a with
  | clientCredentials t => exact tokenAnswer_failure_arg_free t e h
  | _ => simp [EndpointAuth.failure] at h

/-- `isCompactJWS` on the characters of the token (a string literal is `String.ofList` of its characters, and `rw`
finds it as such): stated above the `match`, because `Ascii.toList_lit` must not rewrite a discriminant -/
theorem isCompactJWS_ofList (l : List Char) :
    isCompactJWS (String.ofList l) =
      match splitDots l with
      | [h, p, s] => isB64url h && isB64url p && isB64url s
      | _ => false := by
  simp only [isCompactJWS, String.toList_ofList]; rfl
