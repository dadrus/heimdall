import HeimdallModel.Model.JwtProcess
/-! Lemmas about the JWT authenticator among other mechanisms (`Model/JwtProcess.lean`): creating mechanisms leaves
the defaults of the process alone, hence the authenticator under test behaves as if it were alone. -/
namespace Heimdall.Jwt

theorem Process.create_defaults (p : Process) (n : Neighbour) : (p.create n).defaults = p.defaults := rfl

/-- with the documented defaults in the process, reading the configuration in the process changes nothing about
the assertions in force -/
theorem effective_inProcess (cfg : Config) (p : Process) (rule : Option Expectation) (mi : String)
    (h : p.defaults = Gen.defaultAllowed) :
    effective (cfg.inProcess p) rule mi = effective cfg rule mi := by
  unfold effective Config.inProcess
  simp only [h]
  by_cases hc : cfg.assertions.algs = [] <;> simp [hc]

theorem ok_inProcess (cfg : Config) (p : Process) : (cfg.inProcess p).ok = cfg.ok := rfl

theorem endpointOf_inProcess (cfg : Config) (p : Process) (kvs : List (String × Val)) :
    endpointOf (cfg.inProcess p) kvs = endpointOf cfg kvs := rfl

theorem resolveMetadata_inProcess (cfg : Config) (p : Process) (w : World) :
    resolveMetadata (cfg.inProcess p) w = resolveMetadata cfg w := rfl

theorem step_inProcess (cfg : Config) (p : Process) (rule : Option Expectation) (w : World) (cache : Cache)
    (pr : Presented) (nowMs : Int) (h : p.defaults = Gen.defaultAllowed) :
    step (cfg.inProcess p) rule w cache pr nowMs = step cfg rule w cache pr nowMs := by
  unfold step
  simp only [ok_inProcess, endpointOf_inProcess, resolveMetadata_inProcess, effective_inProcess _ _ _ _ h]
  rfl

/-- in a process that hands out the documented defaults, whatever its cache holds -/
theorem runIn_eq_run (cfg : Config) (rule : Option Expectation) :
    ∀ (events : List Event) (p : Process) (cache : Cache), p.defaults = Gen.defaultAllowed →
      runIn cfg rule events p cache = run cfg rule (requestsOf events) cache
  | [], _, _, _ => rfl
  | .create n :: rest, p, cache, h => by
    simp only [runIn, requestsOf]
    exact runIn_eq_run cfg rule rest (p.create n) cache h
  | .request w pr now :: rest, p, cache, h => by
    simp only [runIn, requestsOf, run, step_inProcess _ _ _ _ _ _ _ h]
    rw [runIn_eq_run cfg rule rest p _ h]

end Heimdall.Jwt
