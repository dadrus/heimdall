import HeimdallModel.Spec.EntryView
import HeimdallModel.Lemmas.UrlEscape
/-!
# Lemmas for property C13 (request view of the three entry points)

ASCII case folding and header-name canonicalisation, Go maps as association lists (`group`, `lookup`), the round trip
of a request target through `net/url`, the view functions of both request contexts against the reference semantics,
and the run through the `Request()` cell against the run on the reference view.
-/
namespace Heimdall.EntryView
open Heimdall

/-! ## ASCII case folding -/

/-- by the cases of `toLowerA`: each capital letter by evaluation, every other character is left as it is -/
theorem toLowerA_spec (c : Char) :
    toUpperA (toLowerA c) = toUpperA c ∧ isTokenChar (toLowerA c) = isTokenChar c := by
  fun_cases toLowerA c <;> first | decide +kernel | exact ⟨rfl, rfl⟩

theorem toUpperA_spec (c : Char) :
    toLowerA (toUpperA c) = toLowerA c ∧ isTokenChar (toUpperA c) = isTokenChar c := by
  fun_cases toUpperA c <;> first | decide +kernel | exact ⟨rfl, rfl⟩

theorem toUpperA_toLowerA (c : Char) : toUpperA (toLowerA c) = toUpperA c := (toLowerA_spec c).1

theorem isTokenChar_toLowerA (c : Char) : isTokenChar (toLowerA c) = isTokenChar c := (toLowerA_spec c).2

theorem toLowerA_toUpperA (c : Char) : toLowerA (toUpperA c) = toLowerA c := (toUpperA_spec c).1

theorem isTokenChar_toUpperA (c : Char) : isTokenChar (toUpperA c) = isTokenChar c := (toUpperA_spec c).2

theorem toLowerA_toLowerA (c : Char) : toLowerA (toLowerA c) = toLowerA c := by
  rw [← toLowerA_toUpperA (toLowerA c), toUpperA_toLowerA, toLowerA_toUpperA]

theorem toUpperA_toUpperA (c : Char) : toUpperA (toUpperA c) = toUpperA c := by
  rw [← toUpperA_toLowerA (toUpperA c), toLowerA_toUpperA, toUpperA_toLowerA]

theorem lower_lower (s : Bytes) : lower (lower s) = lower s := by
  simp [lower, toLowerA_toLowerA]

theorem all_token_lower (s : Bytes) : (lower s).all isTokenChar = s.all isTokenChar := by
  induction s with
  | nil => rfl
  | cons c t ih => simp_all [lower, isTokenChar_toLowerA]

/-- the loop sees its input only up to case, and changes nothing but case -/
theorem canonGo_spec (up : Bool) (s : Bytes) :
    canonGo up (lower s) = canonGo up s ∧ lower (canonGo up s) = lower s := by
  induction s generalizing up with
  | nil => exact ⟨rfl, rfl⟩
  | cons c t ih =>
    simp only [lower, List.map_cons, canonGo]
    cases up <;>
      simp only [toUpperA_toLowerA, toLowerA_toUpperA, toLowerA_toLowerA, Bool.false_eq_true, if_false, if_true] <;>
      exact ⟨congrArg _ (ih _).1, congrArg _ (ih _).2⟩

/-- header names are case-insensitive: lower-casing a token does not change its canonical form -/
theorem canonKey_lower_of_token {s : Bytes} (h : s.all isTokenChar = true) : canonKey (lower s) = canonKey s := by
  simp [canonKey, all_token_lower, h, (canonGo_spec _ _).1]

theorem lower_canonKey (s : Bytes) : lower (canonKey s) = lower s := by
  unfold canonKey
  split
  · exact (canonGo_spec _ _).2
  · rfl

theorem all_token_canonKey (s : Bytes) : (canonKey s).all isTokenChar = s.all isTokenChar := by
  rw [← all_token_lower (canonKey s), lower_canonKey, all_token_lower]

theorem canonKey_idem (s : Bytes) : canonKey (canonKey s) = canonKey s := by
  by_cases h : s.all isTokenChar = true
  -- a canonical key is a token again, and its lower-casing is that of `s`
  · rw [← canonKey_lower_of_token ((all_token_canonKey s).trans h), lower_canonKey, canonKey_lower_of_token h]
  · have e : canonKey s = s := if_neg h
    rw [e, e]

/-- on lower-case names canonicalisation is injective (distinct keys of Envoy's header map stay distinct) -/
theorem canonKey_inj_lower {a b : Bytes} (ha : lower a = a) (hb : lower b = b) (h : canonKey a = canonKey b) :
    a = b := by
  rw [← ha, ← hb, ← lower_canonKey a, ← lower_canonKey b, h]

/-! ## Go maps as association lists -/

theorem lookup_addTo (m : List (Bytes × List Bytes)) (k k' v : Bytes) :
    lookup k (addTo m k' v) = if k' = k then some ((lookup k m).getD [] ++ [v]) else lookup k m := by
  induction m with
  | nil => by_cases h : k' = k <;> simp [addTo, lookup, h]
  | cons kv t ih =>
    obtain ⟨k0, vs⟩ := kv
    by_cases h0 : k0 = k' <;> by_cases h : k' = k <;> by_cases h1 : k0 = k <;>
      simp_all [addTo, lookup]

/-- the values of the lines whose key is `k`, in the order of the lines -/
def selected (key : Bytes → Bytes) (k : Bytes) (lines : List (Bytes × Bytes)) : List Bytes :=
  lines.filterMap fun l => if key l.1 = k then some l.2 else none

theorem selected_cons (key : Bytes → Bytes) (k : Bytes) (l : Bytes × Bytes) (t : List (Bytes × Bytes)) :
    selected key k (l :: t) = if key l.1 = k then l.2 :: selected key k t else selected key k t := by
  by_cases h : key l.1 = k <;> simp [selected, h]

theorem lookup_foldl_addTo (key : Bytes → Bytes) (k : Bytes) (lines : List (Bytes × Bytes))
    (m : List (Bytes × List Bytes)) :
    lookup k (lines.foldl (fun m l => addTo m (key l.1) l.2) m) =
      if (selected key k lines).isEmpty then lookup k m
      else some ((lookup k m).getD [] ++ selected key k lines) := by
  induction lines generalizing m with
  | nil => simp [selected]
  | cons l t ih =>
    simp only [List.foldl_cons]
    rw [ih, lookup_addTo, selected_cons]
    by_cases h : key l.1 = k
    · simp only [h, if_true]
      cases ht : selected key k t <;> simp
    · simp only [h, if_false]

theorem lookup_group (key : Bytes → Bytes) (k : Bytes) (lines : List (Bytes × Bytes)) :
    lookup k (group key lines) =
      if (selected key k lines).isEmpty then none else some (selected key k lines) := by
  unfold group
  rw [lookup_foldl_addTo]
  simp [lookup]

theorem lookup_map_val {α β : Type} (f : α → β) (k : Bytes) (m : List (Bytes × α)) :
    lookup k (m.map fun kv => (kv.1, f kv.2)) = (lookup k m).map f := by
  induction m with
  | nil => rfl
  | cons kv t ih => by_cases h : kv.1 = k <;> simp [lookup, h, ih]

theorem lookup_append {α : Type} (k : Bytes) (a b : List (Bytes × α)) :
    lookup k (a ++ b) = (lookup k a).orElse fun _ => lookup k b := by
  induction a with
  | nil => simp [lookup]
  | cons kv t ih => by_cases h : kv.1 = k <;> simp [lookup, h, ih]

theorem lookup_filter_of_pos {α : Type} (k : Bytes) (p : Bytes → Bool) (m : List (Bytes × α)) (hp : p k = true) :
    lookup k (m.filter fun kv => p kv.1) = lookup k m := by
  induction m with
  | nil => rfl
  | cons kv t ih =>
    by_cases h : kv.1 = k
    · simp [List.filter, lookup, h, hp]
    · by_cases hq : p kv.1 = true <;> simp [List.filter, lookup, h, hq, ih]

theorem any_key_of_lookup_none {α : Type} {k : Bytes} {m : List (Bytes × α)} (h : lookup k m = none) :
    (m.any fun e => e.1 = k) = false := by
  induction m with
  | nil => rfl
  | cons kv t ih =>
    obtain ⟨k', v⟩ := kv
    simp only [lookup] at h
    split at h
    · cases h
    next hk => simp [hk, ih h]

theorem addTo_keys {Q : Bytes → Prop} {m : List (Bytes × List Bytes)} {k v : Bytes} (hm : ∀ kv ∈ m, Q kv.1) (hk : Q k) :
    ∀ kv ∈ addTo m k v, Q kv.1 := by
  induction m with
  | nil => simpa [addTo] using hk
  | cons a t ih =>
    obtain ⟨k0, vs⟩ := a
    intro kv h
    simp only [addTo] at h
    split at h <;> rcases List.mem_cons.mp h with rfl | h'
    · exact hm (k0, vs) List.mem_cons_self
    · exact hm kv (List.mem_cons_of_mem _ h')
    · exact hm (k0, vs) List.mem_cons_self
    · exact ih (fun kv h => hm kv (List.mem_cons_of_mem _ h)) kv h'

/-- every key of the grouped map is the key of some line: what holds of those holds of it -/
theorem group_keys (Q : Bytes → Prop) {key : Bytes → Bytes} {lines : List (Bytes × Bytes)}
    (h : ∀ l ∈ lines, Q (key l.1)) : ∀ kv ∈ group key lines, Q kv.1 := by
  suffices ∀ m : List (Bytes × List Bytes), (∀ kv ∈ m, Q kv.1) →
      ∀ kv ∈ lines.foldl (fun m l => addTo m (key l.1) l.2) m, Q kv.1 from this [] (by simp)
  induction lines with
  | nil => exact fun m hm => hm
  | cons l t ih =>
    exact fun m hm => ih (fun l' h' => h l' (List.mem_cons_of_mem l h')) _ (addTo_keys hm (h l List.mem_cons_self))

theorem map_canon_group {γ : Type} (lines : List (Bytes × Bytes)) (f : List Bytes → γ) :
    (group canonKey lines).map (fun kv => (canonKey kv.1, f kv.2)) =
      (group canonKey lines).map fun kv => (kv.1, f kv.2) := by
  refine List.map_congr_left fun kv hkv => ?_
  rw [group_keys (fun k => canonKey k = k) (fun l _ => canonKey_idem l.1) kv hkv]

/-- renaming the keys of a map with a function that is injective on them commutes with adding -/
theorem addTo_map (g : Bytes → Bytes) (m : List (Bytes × List Bytes)) (k v : Bytes)
    (h : ∀ kv ∈ m, g kv.1 = g k → kv.1 = k) :
    (addTo m k v).map (fun kv => (g kv.1, kv.2)) = addTo (m.map fun kv => (g kv.1, kv.2)) (g k) v := by
  induction m with
  | nil => rfl
  | cons a t ih =>
    obtain ⟨k0, vs⟩ := a
    have ht : ∀ kv ∈ t, g kv.1 = g k → kv.1 = k := fun kv hk => h kv (by simp [hk])
    by_cases h0 : k0 = k
    · simp [addTo, h0]
    · have hg : g k0 ≠ g k := fun e => h0 (h (k0, vs) (by simp) e)
      simp [addTo, h0, hg, ih ht]

/-- renaming commutes with grouping: the keys `key'` are the keys `key` renamed by `g`, which is injective where `P` holds -/
theorem foldl_addTo_map (g key key' : Bytes → Bytes) (P : Bytes → Prop)
    (hinj : ∀ a b, P a → P b → g a = g b → a = b)
    (lines : List (Bytes × Bytes)) (hP : ∀ l ∈ lines, P (key l.1) ∧ g (key l.1) = key' l.1)
    (m : List (Bytes × List Bytes)) (hm : ∀ kv ∈ m, P kv.1) :
    (lines.foldl (fun m l => addTo m (key l.1) l.2) m).map (fun kv => (g kv.1, kv.2)) =
      lines.foldl (fun m l => addTo m (key' l.1) l.2) (m.map fun kv => (g kv.1, kv.2)) := by
  induction lines generalizing m with
  | nil => rfl
  | cons l t ih =>
    obtain ⟨hl, hk⟩ := hP l List.mem_cons_self
    rw [List.foldl_cons, List.foldl_cons, ← hk, ← addTo_map g m _ _ fun kv hkv => hinj _ _ (hm kv hkv) hl]
    exact ih (fun l' h' => hP l' (List.mem_cons_of_mem l h')) _ (addTo_keys hm hl)

/-- Envoy's header map (lower-case names, merged values) after `canonicalizeHeaders` is the map `net/http` builds
    from the same field lines -/
theorem group_lower_canon (lines : List (Bytes × Bytes)) (htok : ∀ l ∈ lines, l.1.all isTokenChar = true) :
    (group lower lines).map (fun kv => (canonKey kv.1, kv.2)) = group canonKey lines :=
  foldl_addTo_map canonKey lower canonKey (fun k => lower k = k) (fun _ _ => canonKey_inj_lower) lines
    (fun l hl => ⟨lower_lower _, canonKey_lower_of_token (htok l hl)⟩) [] (by simp)

/-! ## Request targets and `net/url` -/

theorem cut_append_left (sep : Char) (a rest : Bytes) (h : sep ∉ a) :
    cut sep (a ++ rest) = (a ++ (cut sep rest).1, (cut sep rest).2.1, (cut sep rest).2.2) := by
  induction a with
  | nil => rfl
  | cons c t ih =>
    have hc : c ≠ sep := fun e => h (by simp [e])
    have ht : sep ∉ t := fun e => h (by simp [e])
    simp [cut, hc, ih ht]

theorem cut_not_mem (sep : Char) (a : Bytes) (h : sep ∉ a) : cut sep a = (a, [], false) := by
  simpa [cut] using cut_append_left sep a [] h

theorem cut_append (sep : Char) (a b : Bytes) (h : sep ∉ a) : cut sep (a ++ sep :: b) = (a, b, true) := by
  simpa [cut] using cut_append_left sep a (sep :: b) h

theorem not_mem_of_contains_false {c : Char} {p : Bytes} (h : p.contains c = false) : c ∉ p := by
  simpa using h

/-- the path and the query of the request line are recovered from the request target -/
theorem cut_target (lr : LReq) (hq : '?' ∉ lr.rawPath) :
    (cut '?' lr.target).1 = lr.rawPath ∧ (cut '?' lr.target).2.1 = lr.query := by
  unfold LReq.target
  split
  · rename_i he
    rw [cut_not_mem _ _ hq]
    simp_all
  · rw [cut_append _ _ _ hq]
    simp

theorem pathCharOK_hexDigit (n : Nat) : pathCharOK (hexDigit n) = true := by
  unfold hexDigit
  rw [List.getD_eq_getElem?_getD]
  cases h : b!"0123456789ABCDEF"[n]? with
  | none => decide
  | some c => exact (by decide +kernel : ∀ c ∈ b!"0123456789ABCDEF", pathCharOK c = true) c (List.mem_of_getElem? h)

/-- a path in valid encoding is its own received spelling -/
theorem receivedL_of_valid (p : Bytes) (h : validEncodedPath p = true) : receivedL p = p := by
  induction p with
  | nil => rfl
  | cons c t ih =>
    simp only [validEncodedPath, List.all_cons, Bool.and_eq_true] at h
    have ht : receivedL t = t := ih (by simpa [validEncodedPath] using h.2)
    simp only [receivedL, List.flatMap_cons, h.1, if_true] at ht ⊢
    rw [ht]; rfl

/-- the default encoding Go produces consists of octets that may stand in a path -/
theorem validEncoded_escapePath (s : Bytes) : validEncodedPath (escapePath s) = true := by
  induction s with
  | nil => rfl
  | cons c t ih =>
    simp only [escapePath, List.flatMap_cons] at ih ⊢
    rw [validEncodedPath, List.all_append, ← validEncodedPath, ← validEncodedPath, ih, Bool.and_true]
    by_cases hc : shouldEscapePath c = true
    · simp [hc, pctEncode, validEncodedPath, pathCharOK_hexDigit]
      decide
    · simp [hc, validEncodedPath, pathCharOK]

theorem validPath_slash {p : Bytes} (h : Spec.validPath p = true) : ∃ t, p = '/' :: t := by
  simp only [Spec.validPath, Bool.and_eq_true] at h
  cases p with
  | nil => simp at h
  | cons c t => exact ⟨t, by simpa using h.1.1.1⟩

/-- whatever Go's parser makes of the request target (`RawPath` kept or dropped as "default encoding"), `escapedPath` of
    `extract_url.go` yields the received spelling of the path, and the query as written -/
theorem http_received_path (lr : LReq) (h : Spec.validPath lr.rawPath = true) :
    ∃ u, goParseTarget lr.target = some u ∧ httpEscapedPath u = receivedL lr.rawPath ∧ u.rawQuery = lr.query := by
  obtain ⟨⟨⟨-, hq⟩, -⟩, hu⟩ := by simpa only [Spec.validPath, Bool.and_eq_true, Bool.not_eq_true'] using h
  obtain ⟨hc1, hc2⟩ := cut_target lr (not_mem_of_contains_false hq)
  obtain ⟨path, hp⟩ := Option.isSome_iff_exists.mp hu
  refine ⟨{ path := path, rawPath := if lr.rawPath = escapePath path then [] else lr.rawPath,
             rawQuery := lr.query }, by simp only [goParseTarget, hc1, hc2, hp], ?_, rfl⟩
  -- the path starts with a slash, so it is not the `*` form
  obtain ⟨t, ht⟩ := validPath_slash h
  have hstar : path ≠ ['*'] := by
    rw [ht, pathUnescapeL_cons_ne (by decide)] at hp
    cases hq : pathUnescapeL t with
    | none => simp [hq] at hp
    | some q => simp [hq] at hp; rw [← hp]; simp
  by_cases he : lr.rawPath = escapePath path
  · have hv : receivedL lr.rawPath = lr.rawPath := by
      rw [he]; exact receivedL_of_valid _ (validEncoded_escapePath path)
    rw [hv]
    simp [httpEscapedPath, GoURL.escapedPath, he, hstar]
  · have hne : lr.rawPath.isEmpty = false := by rw [ht]; rfl
    simp [httpEscapedPath, he, hne]

/-! ## The log level: the `dump` middleware hands on what it was given -/

/-- draining a body into a buffer and restoring it from the buffer loses and adds nothing, for a body of any length -/
theorem drainBody_restores (b : Option Bytes) : (drainBody b).2 = b ∧ (drainBody b).1 = b.getD [] := by
  cases b <;> exact ⟨rfl, rfl⟩

/-- at every log level the `dump` middleware hands the request it was given to the next handler -/
theorem dumpMiddleware_id (level : LogLevel) (r : HttpReq) : dumpMiddleware level r = r := by
  unfold dumpMiddleware
  split
  · rw [(drainBody_restores r.body).1]
  · rfl

theorem mkCtx_level (I : Impl) (D : Decoder) (level level' : LogLevel) (pack : Bool) (ep : EP) (lr : LReq) :
    mkCtx I D level pack ep lr = mkCtx I D level' pack ep lr := by
  cases ep <;> simp only [mkCtx, dumpMiddleware_id]

/-! ## The carrier `net/http` builds -/

/-- the body `net/http` hands to a handler: `http.NoBody` for a message without body or without bytes -/
def httpBody : Option Bytes → Option Bytes
  | none => none
  | some b => if b.isEmpty then none else some b

theorem httpBody_getD (b : Option Bytes) : (httpBody b).getD [] = b.getD [] := by
  cases b with
  | none => rfl
  | some b => cases b <;> rfl

/-- what `toHTTP` yields when the request target parses to `url` -/
def httpCarrier (lr : LReq) (url : GoURL) : HttpReq :=
  { method := lr.method, host := lr.host, tls := lr.tls, url, header := group canonKey lr.headers,
    body := httpBody lr.body }

theorem toHTTP_eq (lr : LReq) : toHTTP lr = (goParseTarget lr.target).map (httpCarrier lr) := by
  unfold toHTTP
  cases goParseTarget lr.target <;> rfl

/-! ## The view functions of both request contexts against the reference semantics -/

theorem plain_headers {lr : LReq} (h : Spec.plainHeaders lr = true) : ∀ l ∈ lr.headers,
    l.1.all isTokenChar = true ∧ (hostKey :: untrustedHeaders).contains (canonKey l.1) = false := by
  intro l hl
  simpa only [Bool.and_eq_true, Bool.not_eq_true'] using List.all_eq_true.mp h l hl

/-- nothing for the `trustedproxy` middleware to remove -/
theorem strip_plain {lr : LReq} (h : Spec.plainHeaders lr = true) :
    stripUntrusted (group canonKey lr.headers) = group canonKey lr.headers := by
  unfold stripUntrusted
  rw [List.filter_eq_self]
  intro kv hkv
  have := group_keys (fun k => (hostKey :: untrustedHeaders).contains k = false) (fun l hl => (plain_headers h l hl).2) kv hkv
  simp only [List.contains_cons, Bool.or_eq_false_iff] at this
  simp only [Bool.not_eq_true', this.2]

theorem selected_eq_headerValues (lr : LReq) (name : Bytes) :
    selected canonKey (canonKey name) lr.headers = Spec.headerValues lr name := rfl

theorem join_nil (sep : Bytes) : join sep [] = [] := rfl

/-- looking a header up in the grouped map = the values of the lines of that name -/
theorem lookup_values (lr : LReq) (name : Bytes) :
    (lookup (canonKey name) (group canonKey lr.headers)).getD [] = Spec.headerValues lr name := by
  rw [lookup_group, selected_eq_headerValues]
  cases Spec.headerValues lr name <;> rfl

theorem envoyHeaders_toCheck (pack : Bool) (lr : LReq) (h : Spec.plainHeaders lr = true) :
    envoyHeaders (toCheck pack lr) = Spec.headersMap lr := by
  unfold envoyHeaders toCheck Spec.headersMap
  simp only [List.map_map]
  rw [← group_lower_canon lr.headers (fun l hl => (plain_headers h l hl).1), List.map_map]
  rfl

theorem cookieKey_canon : canonKey b!"Cookie" = b!"Cookie" := by decide +kernel
theorem contentTypeKey_canon : canonKey b!"Content-Type" = b!"Content-Type" := by decide +kernel

theorem httpObj_eq (lr : LReq) (u : GoURL) (he : httpEscapedPath u = receivedL lr.rawPath)
    (hq : u.rawQuery = lr.query) : httpObj (httpCarrier lr u) = Spec.obj lr := by
  simp only [httpObj, httpCarrier, Spec.obj, Spec.url, LReq.scheme, he, hq]
  rfl

theorem httpHeader_eq (lr : LReq) (r : HttpReq) (hh : r.host = lr.host) (name : Bytes) :
    httpHeader r (group canonKey lr.headers) name = Spec.header lr name := by
  simp only [httpHeader, Spec.header, hh, lookup_values]

theorem stdCookie_values (lr : LReq) :
    stdCookie ((lookup b!"Cookie" (group canonKey lr.headers)).getD []) = Spec.cookie lr := by
  rw [← cookieKey_canon, lookup_values]
  rfl

theorem httpBody_eq (D : Decoder) (lr : LReq) :
    (match httpBody lr.body with
      | none => BodyV.raw []
      | some b => decodeBody D (Spec.header lr b!"Content-Type") b) = Spec.body D lr := by
  unfold Spec.body httpBody
  cases lr.body with
  | none => rfl
  | some b => by_cases hbe : b.isEmpty = true <;> simp [hbe]

theorem httpFuncs_eq (D : Decoder) (lr : LReq) (u : GoURL) (hp : Spec.plainHeaders lr = true) :
    httpFuncs D (httpCarrier lr u) = Spec.funcs D lr := by
  unfold httpFuncs Spec.funcs
  simp only [httpCarrier, strip_plain hp]
  congr 1
  · funext name; exact httpHeader_eq lr _ rfl name
  · exact stdCookie_values lr
  · rw [httpHeader_eq lr _ rfl]
    exact httpBody_eq D lr

theorem envoyObj_eq (I : Impl) (pack : Bool) (lr : LReq) (hI : I.splitsTarget = true)
    (hq : '?' ∉ lr.rawPath) (he : I.encodesPath = true ∨ validEncodedPath lr.rawPath = true) :
    envoyObj I (toCheck pack lr) = Spec.obj lr := by
  obtain ⟨hc1, hc2⟩ := cut_target lr hq
  have hr : (if I.encodesPath = true then receivedL lr.rawPath else lr.rawPath) = receivedL lr.rawPath := by
    rcases he with he | he <;> simp [he, receivedL_of_valid]
  simp [envoyObj, envoyURL, hI, toCheck, Spec.obj, Spec.url, hc1, hc2, hr]

theorem envoyHeader_eq (I : Impl) (pack : Bool) (lr : LReq) (hI : I.canonHeader = true)
    (hp : Spec.plainHeaders lr = true) (name : Bytes) :
    envoyHeader I (toCheck pack lr) name = Spec.header lr name := by
  simp only [envoyHeader, hI, if_true, envoyHeaders_toCheck pack lr hp, Spec.headersMap, Spec.header, lookup_map_val,
    ← lookup_values]
  cases lookup (canonKey name) (group canonKey lr.headers) <;> rfl

/-- the view functions of the repaired Envoy request context: `Header` as above; `Cookie` reads the one `Cookie` line
    Envoy passes on as `net/http` would; `Body` takes whichever attribute carries the bytes -/
theorem envoyFuncs_eq (I : Impl) (D : Decoder) (pack : Bool) (lr : LReq) (hH : I.canonHeader = true)
    (hC : I.stdCookies = true) (hB : I.bodyFallback = true) (hp : Spec.plainHeaders lr = true)
    (hc : Spec.oneCookieLine lr = true) :
    envoyFuncs I D (toCheck pack lr) = Spec.funcs D lr := by
  unfold envoyFuncs Spec.funcs
  congr 1
  · funext name; exact envoyHeader_eq I pack lr hH hp name
  · funext name
    simp only [envoyCookie, hC, if_true, envoyHeaders_toCheck pack lr hp, Spec.headersMap, Spec.cookie]
    have hl := lookup_group canonKey (canonKey b!"Cookie") lr.headers
    rw [selected_eq_headerValues, cookieKey_canon] at hl
    rw [lookup_map_val, hl]
    simp only [Spec.oneCookieLine, decide_eq_true_eq] at hc
    match hv : Spec.headerValues lr b!"Cookie", hc with
    | [], _ => simp [stdCookie]
    | [v], _ => simp [join]
    | _ :: _ :: _, hc => simp at hc
  · unfold envoyBody Spec.body
    rw [envoyHeader_eq I pack lr hH hp]
    cases pack <;> cases hb : lr.body with
    | none => simp [hB, toCheck, hb]
    | some b => by_cases hbe : b.isEmpty = true <;> simp [hB, toCheck, hb, hbe]

/-! ## The run through the `Request()` cell -/

theorem withReq_caching {α : Type} (c : Ctx) (hc : c.caches = true) (f : ReqObj → ReqObj × α) :
    c.withReq f = ({ c with cell := some (f c.current).1 }, (f c.current).2) := by
  simp [Ctx.withReq, Ctx.current, hc]

theorem runFins_eq_spec (F : Funcs) (fs : List Fin) (c : Ctx) :
    runFins F fs c = ({ c with ups := (Spec.runFins c.current F fs c.ups).1 }, (Spec.runFins c.current F fs c.ups).2) := by
  induction fs generalizing c with
  | nil => rfl
  | cons f t ih =>
    unfold runFins Spec.runFins
    cases hcond : (f.cond.map fun cd => cd.eval c.current F : Option Tri) with
    | none => simp only [hcond]; rw [ih]; rfl
    | some tri =>
      cases tri <;> simp only [hcond]
      · rw [ih]; rfl
      · rw [ih]

/-- a run through a caching cell agrees with a run on the reference view: same decision, same view shown (and kept),
    same headers and cookies collected -/
def Ran.agrees (ran : Ran) (run : Spec.Run) : Prop :=
  ran.dec = run.dec ∧ ran.isDefault = run.isDefault ∧
  ran.seen = run.view.map (fun o => ({ obj := o, stable := true } : Seen)) ∧ ran.ctx.ups = run.ups

theorem finalize_of_agrees (R : Respond) (lr : LReq) (ep : EP) {ran : Ran} {run : Spec.Run} (h : ran.agrees run) :
    finalize R (Spec.headersMap lr) (Spec.payload lr) ep ran = Spec.delivered R lr ep run := by
  obtain ⟨hd, hi, hs, hu⟩ := h
  simp only [finalize, Spec.delivered, Spec.answerWith, Spec.handOver, hd, hi, hs, hu]
  rfl

theorem runPipe_caching (F : Funcs) (pipe : Pipe) (d : Bool) (c : Ctx) (hc : c.caches = true) (hu : c.ups = {}) :
    (runPipe F pipe d c).agrees (Spec.runPipe c.current F pipe d) := by
  unfold runPipe Spec.runPipe
  cases pipe.authn
  · exact ⟨rfl, rfl, rfl, hu⟩
  simp only [Bool.not_true, Bool.false_eq_true, if_false, hc]
  cases runAuthz c.current F pipe.authz
  case some => exact ⟨rfl, rfl, rfl, hu⟩
  cases pipe.comm
  case true => exact ⟨rfl, rfl, rfl, hu⟩
  simp only [Bool.false_eq_true, if_false, runFins_eq_spec, hu]
  cases Spec.runFins c.current F pipe.fins {} with
  | mk u x => cases x <;> exact ⟨rfl, rfl, rfl, rfl⟩

theorem execute_caching (cfg : Cfg) (F : Funcs) (o0 : ReqObj) :
    (execute cfg F { caches := true, fresh := o0 }).agrees (Spec.serveOn cfg F o0) := by
  unfold execute Spec.serveOn
  simp only [withReq_caching, Ctx.current, Option.getD_none, Option.getD_some, if_true]
  cases cfg.repo.findRule cfg.hasDefault o0.toReqView
  case none => exact ⟨rfl, rfl, rfl, rfl⟩
  -- the default rule and a matching rule: the slash handling, then the pipeline on what it left in the cell
  all_goals
    dsimp only
    split
    · exact ⟨rfl, rfl, rfl, rfl⟩
    · exact runPipe_caching F _ _ _ rfl rfl

/-! ## What a run reads of the configuration -/

/-- of the configuration a run reads the rule set, the decoders and the response codes: neither the log level nor the
    buffer limits -/
theorem serve_congr (I : Impl) {cfg cfg' : Cfg} (pack : Bool) (ep : EP) (lr : LReq) (hr : cfg'.repo = cfg.repo)
    (hd : cfg'.hasDefault = cfg.hasDefault) (hp : cfg'.pipes = cfg.pipes) (hdp : cfg'.defaultPipe = cfg.defaultPipe)
    (hD : cfg'.D = cfg.D) (hR : cfg'.respond = cfg.respond) : serve I cfg' pack ep lr = serve I cfg pack ep lr := by
  simp only [serve, execute, Cfg.pipeOf, hr, hd, hp, hdp, hD, hR, mkCtx_level I cfg.D cfg'.logLevel cfg.logLevel]

/-! ## The view the reference run shows the mechanisms -/

/-- what the slash handling leaves of an object it accepts: method, scheme and host as they were, every capture decoded -/
theorem prelude_ok {esh : SlashHandling} {o : ReqObj} (h : (prelude esh o).2 = true) :
    (prelude esh o).1.method = o.method ∧ (prelude esh o).1.url.scheme = o.url.scheme ∧
    (prelude esh o).1.url.host = o.url.host ∧
    (prelude esh o).1.captures =
      o.captures.map fun caps => caps.map fun kv => (kv.1, (unescapeCapture esh (str kv.2)).toList) := by
  revert h
  cases esh <;> simp only [prelude] <;> simp <;> split <;> simp

theorem runPipe_view {o o' : ReqObj} {F : Funcs} {pipe : Pipe} {d : Bool}
    (h : (Spec.runPipe o F pipe d).view = some o') : o = o' := by
  revert h
  unfold Spec.runPipe
  cases pipe.authn <;> simp
  cases runAuthz o F pipe.authz <;> simp
  cases pipe.comm <;> simp
  cases hrf : Spec.runFins o F pipe.fins {} with
  | mk u x => cases x <;> simp

/-- **The view of a run.** Whatever rule answers, the view the mechanisms are shown is the view the run started with
    after the slash handling of that rule: method, scheme and host are those of the start, the captures are those the
    lookup found, decoded. -/
theorem serveOn_view {cfg : Cfg} {F : Funcs} {o0 o : ReqObj} (h : (Spec.serveOn cfg F o0).view = some o) :
    o.method = o0.method ∧ o.url.scheme = o0.url.scheme ∧ o.url.host = o0.url.host ∧
    ∀ v ps, cfg.repo.findRule cfg.hasDefault o0.toReqView = .rule v ps →
      o.captures = some ((toBytesPairs (lastWins ps)).map fun kv => (kv.1, (unescapeCapture v.esh (str kv.2)).toList)) := by
  unfold Spec.serveOn at h
  split at h
  · cases h
  -- the default rule and a matching rule: the pipeline is shown what the slash handling left
  next hfind =>
    dsimp only at h
    split at h
    · cases h
    next hpre =>
      obtain ⟨hm, hs, hh, -⟩ := prelude_ok (by simpa using hpre)
      rw [← runPipe_view h]
      exact ⟨hm, hs, hh, fun v ps hf => by rw [hfind] at hf; cases hf⟩
  next hfind =>
    dsimp only at h
    split at h
    · cases h
    next hpre =>
      obtain ⟨hm, hs, hh, hc⟩ := prelude_ok (by simpa using hpre)
      rw [← runPipe_view h]
      exact ⟨hm, hs, hh, fun v ps hf => by rw [hfind] at hf; cases hf; exact hc⟩

/-! ## The shape of the reference answer -/

section
variable (hand : List Bytes → Bytes) (R : Respond) (lr : LReq) {ep : EP} {r : Spec.Run}

/-- the reference answer is decided by `decAt` alone: an allowed request is handed everything the pipeline collected and
    the payload of the client, a refusal carries nothing but the decision, its status and the view that was shown -/
theorem answerWith_eq :
    Spec.answerWith hand R lr ep r =
      if Spec.decAt ep r = .ok then
        { dec := .ok, status := okStatus R ep, seen := r.view.map fun o => ({ obj := o, stable := true } : Seen),
          upHeaders := r.ups.headers.map fun kv => (kv.1, hand kv.2), upCookies := r.ups.cookies,
          upSees := overrideHeaders (Spec.headersMap lr) (r.ups.headers.map fun kv => (kv.1, hand kv.2)),
          upBody := Spec.payload lr }
      else
        { dec := Spec.decAt ep r, status := R.code (Spec.decAt ep r),
          seen := r.view.map fun o => ({ obj := o, stable := true } : Seen),
          upHeaders := [], upCookies := [], upSees := [], upBody := [] } := by
  unfold Spec.decAt Spec.answerWith
  by_cases hd : r.dec = .ok
  · by_cases hp : ep = .proxy ∧ r.isDefault = true
    · simp [hd, hp]
    · have hp' : (decide (ep = .proxy) && r.isDefault) = false := by simpa using hp
      simp [hd, hp, hp']
  · simp only [hd, false_and, if_false]

-- The three projections are stated over a variable run: unfolding `answerWith_eq` against `Spec.serve cfg lr` in place
-- makes the defeq check evaluate the reference run.
theorem answerWith_dec : (Spec.answerWith hand R lr ep r).dec = Spec.decAt ep r := by
  rw [answerWith_eq]
  split
  next h => exact h.symm
  · rfl

theorem answerWith_seen : (Spec.answerWith hand R lr ep r).seen = r.view.map fun o => ({ obj := o, stable := true } : Seen) := by
  rw [answerWith_eq]
  split <;> rfl

theorem answerWith_status : (Spec.answerWith hand R lr ep r).status =
      if Spec.decAt ep r = .ok then okStatus R ep else R.code (Spec.decAt ep r) := by
  rw [answerWith_eq]
  split <;> rfl

end

/-- the Envoy service hands over all values of a header; the others do when there is at most one -/
theorem handOver_eq_join (ep : EP) {vs : List Bytes} (h : ep = .envoy ∨ vs.length ≤ 1) :
    Spec.handOver ep vs = join comma vs := by
  unfold Spec.handOver
  split
  · rfl
  next hne =>
    match vs, h.resolve_left hne with
    | [], _ => rfl
    | [_], _ => rfl

theorem handed_eq_joined (ep : EP) (r : Spec.Run) (h : ep = .envoy ∨ Spec.singleValued r = true) :
    (r.ups.headers.map fun kv => (kv.1, Spec.handOver ep kv.2)) = r.ups.headers.map fun kv => (kv.1, join comma kv.2) :=
  List.map_congr_left fun kv hkv => by
    rw [handOver_eq_join ep (h.imp_right fun h => by simpa using List.all_eq_true.mp h kv hkv)]

/-- a header the pipeline hands over replaces what the client sent under that name; all other client headers pass -/
theorem lookup_overrideHeaders (client handed : List (Bytes × Bytes)) (k : Bytes) :
    lookup k (overrideHeaders client handed) = (lookup k handed).orElse fun _ => lookup k client := by
  unfold overrideHeaders
  rw [lookup_append]
  cases hh : lookup k handed with
  | some v => rfl
  | none =>
    exact lookup_filter_of_pos k (fun n => !handed.any fun e => e.1 = n) client (by simp [any_key_of_lookup_none hh])

/-! ## Hostname and port of a host (`net/url`) -/

theorem cutLast_append (sep : Char) (a b : Bytes) (h : sep ∉ b) : cutLast sep (a ++ sep :: b) = some (a, b) := by
  unfold cutLast
  have hr : (a ++ sep :: b).reverse = b.reverse ++ sep :: a.reverse := by simp
  have hb : sep ∉ b.reverse := by simpa using h
  rw [hr, cut_append sep b.reverse a.reverse hb]
  simp

/-- `name:port` with a port of digits only — any digits, any number of them, none at all — is split at that colon,
    whatever `name` is (it may contain colons itself: an IPv6 literal) -/
theorem splitHostPort_port (name port : Bytes) (hd : port.all isDigitA = true) :
    splitHostPort (name ++ ':' :: port) = (stripBrackets name, port) := by
  unfold splitHostPort
  rw [cutLast_append ':' name port fun hm => absurd (List.all_eq_true.mp hd _ hm) (by decide)]
  simp [hd]

/-- a host without a colon has no port -/
theorem splitHostPort_no_colon (h : Bytes) (hc : ':' ∉ h) : splitHostPort h = (stripBrackets h, []) := by
  unfold splitHostPort
  rw [cutLast, cut_not_mem ':' h.reverse (by simpa using hc)]
  rfl

/-! ## A trusted gateway in front of the decision service (`forwardAuth`, `httpObjFwd`) -/

theorem fwdMethod_canon : canonKey fwdMethod = fwdMethod := by decide +kernel
theorem fwdProto_canon : canonKey fwdProto = fwdProto := by decide +kernel
theorem fwdHost_canon : canonKey fwdHost = fwdHost := by decide +kernel
theorem fwdUri_canon : canonKey fwdUri = fwdUri := by decide +kernel

/-- `Header.Get` of the four `X-Forwarded-*` headers on the message of the gateway: what the gateway wrote — the first
    line of each name —, whatever lines of these names the client sent -/
theorem headerGet_forwardAuth (g : Gateway) (lr : LReq) :
    headerGet (group canonKey (forwardAuth g lr).headers) fwdMethod = lr.method ∧
    headerGet (group canonKey (forwardAuth g lr).headers) fwdProto = lr.scheme ∧
    headerGet (group canonKey (forwardAuth g lr).headers) fwdHost = lr.host ∧
    headerGet (group canonKey (forwardAuth g lr).headers) fwdUri = lr.target := by
  refine ⟨?_, ?_, ?_, ?_⟩ <;>
    simp +decide [headerGet, lookup_group, forwardAuth, selected_cons, fwdMethod_canon, fwdProto_canon, fwdHost_canon,
      fwdUri_canon]

/-- a header that is none of the hop headers is looked up among the client's lines only -/
theorem lookup_group_forwardAuth (g : Gateway) (lr : LReq) (key : Bytes) (hk : untrustedHeaders.contains key = false) :
    lookup key (group canonKey (forwardAuth g lr).headers) = lookup key (group canonKey lr.headers) := by
  have h : key ≠ fwdMethod ∧ key ≠ fwdProto ∧ key ≠ fwdHost ∧ key ≠ fwdUri := by
    refine ⟨?_, ?_, ?_, ?_⟩ <;> (intro he; rw [he] at hk; revert hk; decide)
  obtain ⟨h1, h2, h3, h4⟩ := h
  rw [lookup_group, lookup_group]
  simp [forwardAuth, selected_cons, fwdMethod_canon, fwdProto_canon, fwdHost_canon, fwdUri_canon,
    Ne.symm h1, Ne.symm h2, Ne.symm h3, Ne.symm h4]

theorem receivedL_slash (t : Bytes) : receivedL ('/' :: t) = '/' :: receivedL t := by
  simp [receivedL, show pathCharOK '/' = true from by decide]

/-- **The view of a delegated request.** The request context the decision service builds for the message of a
    trusted gateway (whose own request target parses to `u`) holds the view of the logical request the gateway
    describes. -/
theorem httpObjFwd_forwardAuth (g : Gateway) (lr : LReq) (hp : Spec.validPath lr.rawPath = true)
    (hf : Spec.forwardable lr = true) (u : GoURL) (hq : u.rawQuery = []) :
    httpObjFwd (httpCarrier (forwardAuth g lr) u) = Spec.obj lr := by
  obtain ⟨hm, hpr, hho, hu⟩ := headerGet_forwardAuth g lr
  obtain ⟨v, hv1, hv2, hv3⟩ := http_received_path lr hp
  simp only [Spec.forwardable, Bool.and_eq_true, Bool.not_eq_true'] at hf
  obtain ⟨⟨⟨hme, hhe⟩, _⟩, hfrag⟩ := hf
  have hcut : (cut '#' lr.target).1 = lr.target := by rw [cut_not_mem _ _ (not_mem_of_contains_false hfrag)]
  obtain ⟨t, ht⟩ := validPath_slash hp
  have hne : (receivedL lr.rawPath).isEmpty = false := by rw [ht, receivedL_slash]; rfl
  have htne : lr.target.isEmpty = false := by
    unfold LReq.target; rw [ht]; split <;> rfl
  have hsne : lr.scheme.isEmpty = false := by unfold LReq.scheme; split <;> rfl
  have hquery : (if lr.query.isEmpty = true then ([] : Bytes) else lr.query) = lr.query := by
    cases hql : lr.query <;> simp
  simp only [fwdMethod, fwdProto, fwdHost, fwdUri] at hm hpr hho hu
  simp only [httpObjFwd, httpCarrier, hm, hpr, hho, hu, goParseRef, hcut, hv1, hv2, hv3, hne, htne, hsne, hme, hhe, hq,
    hquery, Spec.obj, Spec.url, Bool.false_eq_true, if_false]

/-- … and the view functions: every header other than the hop headers (in every spelling; `Host` is the host of the
    logical request, which the gateway passes on), every cookie, the decoded body. -/
theorem httpFuncsOn_forwardAuth (D : Decoder) (g : Gateway) (lr : LReq) (u : GoURL) :
    let r := httpCarrier (forwardAuth g lr) u
    (∀ name, untrustedHeaders.contains (canonKey name) = false →
      (httpFuncsOn D r r.header).header name = Spec.header lr name) ∧
    (httpFuncsOn D r r.header).cookie = Spec.cookie lr ∧
    (httpFuncsOn D r r.header).body = Spec.body D lr := by
  intro r
  have hdr : ∀ name, untrustedHeaders.contains (canonKey name) = false →
      httpHeader r r.header name = Spec.header lr name := by
    intro name hn
    rw [← httpHeader_eq lr r rfl name]
    simp only [httpHeader, r, httpCarrier, lookup_group_forwardAuth g lr (canonKey name) hn]
  refine ⟨hdr, ?_, ?_⟩
  · simp only [httpFuncsOn, r, httpCarrier, lookup_group_forwardAuth g lr b!"Cookie" (by decide)]
    exact stdCookie_values lr
  · simp only [httpFuncsOn, hdr b!"Content-Type" (by rw [contentTypeKey_canon]; decide)]
    exact httpBody_eq D lr

end Heimdall.EntryView
