import HeimdallModel.Lemmas.ProxyFwdUrl
import HeimdallModel.Lemmas.ProxyFwdList
/-!
The composition: what `forward` returns in terms of the client's request.  The vocabulary comes first (`inHeaders`,
`srv`, `outHeaders`, `viewUrl`, `upOf`).  `forward_wellFormed` says what `forward` does with a well-formed case: the rule
is applied to the request view `viewUrl c`, which is written in the vocabulary of the specification (`extractURL_view`);
`forward_forwarded` is the inversion lemma everything about a forwarded request starts from.  Then the URL the rule
forwards to (`target_path`, `target_query`) and the header lines the upstream reads (`Ordinary`, `outValues`,
`model_values`, `upstream_values`, `upstream_continued`).
-/
namespace Heimdall.ProxyFwd
open Heimdall

variable {c : Case} {tls : Bool} {dial : Bytes} {up : UpReq}

/-! ### vocabulary -/

/-- the client's headers as heimdall sees them: canonical names, forwarding headers of untrusted peers dropped -/
def inHeaders (c : Case) : Hdrs := trustStrip (isTrusted c.trusted c.req.peer) (canonHeaders c.req.headers)

/-- what Go's server hands on when it has parsed the path of the request line as `path`, `raw` -/
def srv (c : Case) (path raw : Bytes) : ServerReq :=
  { method := c.req.method, path := path, rawPath := raw, rawQuery := after '?' c.req.target, host := c.req.host,
    headers := canonHeaders c.req.headers }

/-- the outgoing header map after `rewriteRequest` -/
def outHeaders (c : Case) : Hdrs :=
  (rewriteHeaders (inHeaders c) c.pipe c.req.peer c.req.host c.rule.host (listenerProto c.req.tls)).2

/-- the request view `extractURL` builds of a well-formed case, in the vocabulary of the specification: the URL of the
request line, or — path, and query if it has one — the `X-Forwarded-Uri` of a trusted proxy; the path in the received
spelling with only the forbidden octets encoded -/
def viewUrl (c : Case) : Url :=
  { scheme := Spec.origScheme c, host := Spec.firstOr (Spec.believed c hXFHost) c.req.host,
    path := (pathUnescapeL (Spec.origRawPath c)).getD [], rawPath := escapeInvalid (Spec.origRawPath c),
    rawQuery := Spec.origQuery c }

/-- the request the upstream reads when the rule's target URL is `t` -/
abbrev upOf (c : Case) (t : Url) : UpReq :=
  { method := Spec.expectedMethod c, path := orSlash t.escapedPath, query := t.rawQuery,
    host := (rewriteHeaders (inHeaders c) c.pipe c.req.peer c.req.host c.rule.host (listenerProto c.req.tls)).1,
    headers := wireHeaders (Spec.expectedMethod c) (outHeaders c), body := c.req.body }

theorem firstOr_nil (vs : List Bytes) : Spec.firstOr vs [] = vs.head?.getD [] := by
  unfold Spec.firstOr
  cases vs with
  | nil => rfl
  | cons v _ => by_cases h : v = [] <;> simp [h]

theorem firstOr_eq (vs : List Bytes) (d : Bytes) :
    Spec.firstOr vs d = if vs.head?.getD [] ≠ [] then vs.head?.getD [] else d := by
  unfold Spec.firstOr
  cases vs with
  | nil => simp
  | cons v _ => by_cases h : v = [] <;> simp [h]

/-! ### the client's headers as heimdall sees them -/

theorem values_inHeaders_fwd (c : Case) (k : Bytes) (hk : untrustedHeaders.contains k = true) :
    values (inHeaders c) k = Spec.believed c k := by
  unfold inHeaders Spec.believed Spec.peerTrusted Spec.clientHeaders
  rw [values_trustStrip, hk]
  cases isTrusted c.trusted c.req.peer <;> simp

theorem values_inHeaders_other (c : Case) (k : Bytes) (hk : untrustedHeaders.contains k = false) :
    values (inHeaders c) k = values (Spec.clientHeaders c) k := by
  unfold inHeaders Spec.clientHeaders
  rw [values_trustStrip, hk]
  simp

theorem get_inHeaders_fwd (c : Case) (k : Bytes) (hk : untrustedHeaders.contains k = true) :
    get (inHeaders c) k = (Spec.believed c k).head?.getD [] := by
  unfold get
  rw [values_inHeaders_fwd c k hk]

/-! ### what `forward` returns -/

theorem xfuri_untrusted : untrustedHeaders.contains hXFUri = true := by decide
theorem xfproto_untrusted : untrustedHeaders.contains hXFProto = true := by decide
theorem xfhost_untrusted : untrustedHeaders.contains hXFHost = true := by decide
theorem xffor_untrusted : untrustedHeaders.contains hXFFor = true := by decide
theorem xfmethod_untrusted : untrustedHeaders.contains hXFMethod = true := by decide
theorem xfpath_untrusted : untrustedHeaders.contains hXFPath = true := by decide
theorem forwarded_untrusted : untrustedHeaders.contains hForwarded = true := by decide

theorem firstOr_believed (c : Case) (k d : Bytes) (hk : untrustedHeaders.contains k = true) :
    (if get (inHeaders c) k = [] then d else get (inHeaders c) k) = Spec.firstOr (Spec.believed c k) d := by
  rw [firstOr_eq, ite_not, get_inHeaders_fwd c k hk]

theorem origScheme_eq (c : Case) :
    (if get (inHeaders c) hXFProto ≠ [] then get (inHeaders c) hXFProto else listenerProto c.req.tls) =
      Spec.origScheme c := by
  rw [ite_not]
  exact firstOr_believed c _ _ xfproto_untrusted

theorem get_xfuri (c : Case) : get (inHeaders c) hXFUri = Spec.believedUri c := by
  unfold Spec.believedUri
  rw [firstOr_nil, get_inHeaders_fwd c _ xfuri_untrusted]

theorem extractMethod_eq (c : Case) (path raw : Bytes) :
    extractMethod (inHeaders c) (srv c path raw) = Spec.expectedMethod c := by
  unfold extractMethod Spec.expectedMethod
  rw [firstOr_eq, get_inHeaders_fwd c _ xfmethod_untrusted]
  rfl

/-! ### the URL -/

theorem modelledTarget_head (t : Bytes) (h : modelledTarget t = true) : t.head? = some '/' := by
  unfold modelledTarget at h
  simp only [Bool.and_eq_true, decide_eq_true_eq] at h
  exact h.1.1

theorem before_head (t : Bytes) (h : t.head? = some '/') : (before '?' t).head? = some '/' := by
  cases t with
  | nil => simp at h
  | cons c r =>
    simp only [List.head?_cons, Option.some.injEq] at h
    subst h
    simp [before]

theorem modelledForwardedUri_head (v : Bytes) (h : modelledForwardedUri v = true) : v.head? = some '/' := by
  unfold modelledForwardedUri at h
  simp only [Bool.and_eq_true] at h
  exact modelledTarget_head v h.1.1

/-- what Go's server and `extractURL` make of a well-formed case -/
theorem extractURL_view (c : Case) (hw : Spec.wellFormed c = true) :
    ∃ path raw, setPath (before '?' c.req.target) = some (path, raw) ∧
      pathUnescapeL (Spec.origRawPath c) = some (viewUrl c).path ∧ (Spec.origRawPath c).head? = some '/' ∧
      extractURL c.req.tls (inHeaders c) (srv c path raw) = viewUrl c := by
  unfold Spec.wellFormed at hw
  simp only [Bool.and_eq_true, Bool.or_eq_true, decide_eq_true_eq] at hw
  obtain ⟨⟨hm, hd⟩, hfu⟩ := hw
  obtain ⟨path, hdec⟩ := Option.isSome_iff_exists.mp hd
  have hhead := before_head _ (modelledTarget_head _ hm)
  have hset : setPath (before '?' c.req.target) =
      some (path, if escapePath path = before '?' c.req.target then [] else before '?' c.req.target) := by
    unfold setPath
    rw [hdec]; rfl
  obtain ⟨_, hcp⟩ := clientPath_setPath _ _ _ hhead hset
  refine ⟨_, _, hset, ?_⟩
  -- what `extractURL` takes from `X-Forwarded-Uri`: path and query, when the specification uses that URI
  have hparsed : (if Spec.believedUri c = [] then (none : Option (Bytes × Bytes)) else
      (setPath (before '?' (Spec.believedUri c))).map fun pr =>
        (clientPath pr.1 pr.2, after '?' (Spec.believedUri c))) =
      if Spec.usesForwardedUri c then
        some (escapeInvalid (before '?' (Spec.believedUri c)), after '?' (Spec.believedUri c)) else none := by
    unfold Spec.usesForwardedUri
    by_cases hv : Spec.believedUri c = []
    · simp [hv]
    · have hvh := before_head _ (modelledForwardedUri_head _ (hfu.resolve_left hv))
      cases hs2 : setPath (before '?' (Spec.believedUri c)) with
      | none =>
        have : (pathUnescapeL (before '?' (Spec.believedUri c))).isSome = false := by
          unfold setPath at hs2
          cases hd : pathUnescapeL (before '?' (Spec.believedUri c)) with
          | none => rfl
          | some _ => rw [hd] at hs2; cases hs2
        simp [hv, this]
      | some pr =>
        obtain ⟨hdec2, hcp2⟩ := clientPath_setPath _ pr.1 pr.2 hvh hs2
        simp [hv, hdec2, hcp2]
  have hhost : (if get (inHeaders c) hXFHost ≠ [] then get (inHeaders c) hXFHost else c.req.host) =
      Spec.firstOr (Spec.believed c hXFHost) c.req.host := by
    rw [ite_not]
    exact firstOr_believed c _ _ xfhost_untrusted
  show pathUnescapeL (Spec.origRawPath c) = some ((pathUnescapeL (Spec.origRawPath c)).getD []) ∧ _
  simp only [extractURL, get_xfuri, hparsed, origScheme_eq, srv, hhost, viewUrl]
  unfold Spec.origRawPath Spec.origQuery Spec.origTarget
  cases hu : Spec.usesForwardedUri c
  · simp only [hcp, Bool.false_eq_true, if_false, Option.map_none, Option.getD_none, if_true, ite_self, hdec,
      escapeInvalid_decodes _ path hdec, Option.getD_some]
    exact ⟨trivial, hhead, trivial⟩
  · unfold Spec.usesForwardedUri at hu
    rw [Bool.and_eq_true, decide_eq_true_eq] at hu
    obtain ⟨d, hd⟩ := Option.isSome_iff_exists.mp hu.2
    have hvh := before_head _ (modelledForwardedUri_head _ (hfu.resolve_left hu.1))
    have hne := escapeInvalid_ne_nil _ hvh
    simp only [if_true, Option.map_some, Option.getD_some, hne, if_false, hd, escapeInvalid_decodes _ d hd, ite_not]
    exact ⟨trivial, hvh, trivial⟩

theorem createURL_scheme (r : RuleCfg) (v : Url) : (createURL r v).scheme =
    match r.rewrite with
    | some rw => if rw.scheme ≠ [] then rw.scheme else v.scheme
    | none => v.scheme := by
  unfold createURL
  cases r.rewrite <;> rfl

theorem createURL_query (r : RuleCfg) (v : Url) :
    (createURL r v).rawQuery = removeParams ((r.rewrite.map (·.stripQ)).getD []) v.rawQuery := by
  unfold createURL
  cases r.rewrite with
  | none => simp [removeParams]
  | some rw => rfl

theorem createURL_escapedPath (r : RuleCfg) (v : Url) : (createURL r v).escapedPath =
    match r.rewrite with
    | some rw => (rw.apply { scheme := v.scheme, host := r.host, path := v.path, rawPath := v.rawPath,
                             rawQuery := v.rawQuery }).escapedPath
    | none => escapedPath v.path v.rawPath := by
  unfold createURL
  cases r.rewrite <;> rfl

/-- the URL the rule forwards to is built from the request view; with `on` its raw path is forgotten first, with `off`
an encoded slash in it is refused -/
theorem ruleTarget_some {r : RuleCfg} {v t : Url} (h : ruleTarget r v = some t) :
    t = createURL r { v with rawPath := if r.slashes = .on then [] else v.rawPath } ∧
    (r.slashes = .off → containsEncodedSlashL v.rawPath = false) := by
  unfold ruleTarget at h
  cases hs : r.slashes <;> simp only [hs] at h
  · split at h
    · cases h
    · next hn => exact ⟨by cases h; simp, fun _ => by simpa using hn⟩
  all_goals exact ⟨by cases h; simp, fun e => by cases e⟩

/-- the target URL always points to `forward_to.host` -/
theorem ruleTarget_host (r : RuleCfg) (v t : Url) (h : ruleTarget r v = some t) : t.host = r.host := by
  rw [(ruleTarget_some h).1]
  unfold createURL
  cases r.rewrite <;> rfl

/-- the scheme of the rule's target: `rewrite.scheme` if configured, else the scheme the request arrived with -/
theorem target_scheme (c : Case) (t : Url) (ht : ruleTarget c.rule (viewUrl c) = some t) :
    t.scheme = Spec.expectedScheme c := by
  rw [(ruleTarget_some ht).1, createURL_scheme]
  unfold Spec.expectedScheme
  cases c.rule.rewrite <;> rfl

theorem seenPath_off (c : Case) (h : c.rule.slashes ≠ .on) : Spec.seenPath c = escapeInvalid (Spec.origRawPath c) := by
  unfold Spec.seenPath
  simp [h]

theorem seenPath_on (c : Case) (h : c.rule.slashes = .on) :
    Spec.seenPath c = escapePath ((pathUnescapeL (Spec.origRawPath c)).getD []) := by
  unfold Spec.seenPath
  simp [h]

theorem seenPath_valid (c : Case) : validEncodedPath (Spec.seenPath c) = true := by
  unfold Spec.seenPath
  split
  · exact escapeInvalid_valid _
  · exact validEncodedPath_escapePath _

/-- the spelling of the original path `Rewrite` starts from -/
theorem seen_escapedPath (c : Case) (path : Bytes) (hhead : (Spec.origRawPath c).head? = some '/')
    (hdec : pathUnescapeL (Spec.origRawPath c) = some path) :
    escapedPath path (if c.rule.slashes = .on then [] else escapeInvalid (Spec.origRawPath c)) = Spec.seenPath c := by
  by_cases hon : c.rule.slashes = .on
  · simp only [hon, if_true]
    rw [seenPath_on c hon, hdec]
    exact escapedPath_nil path (pathUnescapeL_head_slash _ path hhead hdec)
  · simp only [hon, if_false]
    rw [seenPath_off c hon]
    exact escapedPath_exact _ _ (escapeInvalid_valid _) (escapeInvalid_decodes _ path hdec)

theorem seenPath_decodes (c : Case) (path : Bytes) (hdec : pathUnescapeL (Spec.origRawPath c) = some path) :
    pathUnescapeL (Spec.seenPath c) = some path := by
  by_cases hon : c.rule.slashes = .on
  · rw [seenPath_on c hon, hdec]; exact pathUnescapeL_escapePath path
  · rw [seenPath_off c hon]; exact escapeInvalid_decodes _ path hdec

theorem orSlash_decodes (a b : Bytes) (h : pathUnescapeL a = pathUnescapeL b) (ha : (pathUnescapeL a).isSome = true) :
    pathUnescapeL (orSlash a) = pathUnescapeL (orSlash b) ∧ (pathUnescapeL (orSlash a)).isSome = true := by
  unfold orSlash
  by_cases hae : a = []
  · subst hae
    have hb : b = [] := pathUnescapeL_eq_nil b (by rw [← h]; rfl)
    subst hb
    exact ⟨rfl, rfl⟩
  · have hbe : b ≠ [] := by
      intro e
      subst e
      exact hae (pathUnescapeL_eq_nil a (by rw [h]; rfl))
    simp only [hae, hbe, if_false]
    exact ⟨h, ha⟩

/-- `forward` on a request in the modelled space whose path can be decoded: the rule is applied to the request view -/
theorem forward_wellFormed (c : Case) (hw : Spec.wellFormed c = true) :
    forward c =
      match ruleTarget c.rule (viewUrl c) with
      | none => .rejected 400
      | some t =>
        if t.scheme ≠ b!"http" && t.scheme ≠ b!"https" then .rejected 502 else
        .forwarded (t.scheme = b!"https") t.host (upOf c t) := by
  obtain ⟨path, raw, hset, _, _, hurl⟩ := extractURL_view c hw
  unfold Spec.wellFormed at hw
  simp only [Bool.and_eq_true, Bool.or_eq_true, decide_eq_true_eq] at hw
  obtain ⟨⟨hm, _⟩, hfu⟩ := hw
  have hnot : (decide (Spec.believedUri c ≠ []) && !modelledForwardedUri (Spec.believedUri c)) = false := by
    rcases hfu with e | e
    · simp [e]
    · simp [e]
  have hx : get (trustStrip (isTrusted c.trusted c.req.peer) (canonHeaders c.req.headers)) hXFUri =
      Spec.believedUri c := get_xfuri c
  unfold upOf
  rw [← hurl, ← extractMethod_eq c path raw]
  unfold forward
  simp only [hm, Bool.not_true, Bool.false_eq_true, if_false]
  unfold serverParse
  simp only [hset, Option.map_some, hx, hnot, Bool.false_eq_true, if_false]
  rfl

/-- the rule has a target for the request view unless it says `off` and the original path has an encoded slash -/
theorem ruleTarget_view (c : Case) (hw : Spec.wellFormed c = true) :
    (ruleTarget c.rule (viewUrl c)).isSome =
      !(decide (c.rule.slashes = .off) && containsEncodedSlashL (Spec.origRawPath c)) := by
  obtain ⟨_, _, _, hdec, _, _⟩ := extractURL_view c hw
  unfold ruleTarget
  cases hs : c.rule.slashes with
  | on => rfl
  | noDecode => rfl
  | off =>
    show (if containsEncodedSlashL (escapeInvalid (Spec.origRawPath c)) = true then none else some _).isSome = _
    rw [containsEncodedSlashL_escapeInvalid hdec]
    cases containsEncodedSlashL (Spec.origRawPath c) <;> rfl

/-- only a well-formed request is forwarded -/
theorem wellFormed_of_forwarded (h : forward c = .forwarded tls dial up) : Spec.wellFormed c = true := by
  have hx : get (trustStrip (isTrusted c.trusted c.req.peer) (canonHeaders c.req.headers)) hXFUri =
      Spec.believedUri c := get_xfuri c
  unfold forward serverParse setPath at h
  unfold Spec.wellFormed
  cases hm : modelledTarget c.req.target
  · simp [hm] at h
  cases hd : pathUnescapeL (before '?' c.req.target) with
  | none => simp [hm, hd] at h
  | some d =>
    simp only [hm, hd, Bool.not_true, Bool.false_eq_true, if_false, Option.map_some, hx] at h
    split at h
    · cases h
    · next hun =>
      by_cases e : Spec.believedUri c = []
      · simp [e]
      · simpa [e] using hun

/-- the inversion lemma everything about a forwarded request starts from -/
theorem forward_forwarded (h : forward c = .forwarded tls dial up) :
    Spec.wellFormed c = true ∧ ∃ t, ruleTarget c.rule (viewUrl c) = some t ∧
      (t.scheme = b!"http" ∨ t.scheme = b!"https") ∧
      tls = decide (t.scheme = b!"https") ∧ dial = t.host ∧ up = upOf c t := by
  have hw := wellFormed_of_forwarded h
  rw [forward_wellFormed c hw] at h
  refine ⟨hw, ?_⟩
  split at h
  · cases h
  · next t ht =>
    split at h
    · cases h
    · next hsch =>
      simp only [Outcome.forwarded.injEq] at h
      refine ⟨t, ht, ?_, h.1.symm, h.2.1.symm, h.2.2.symm⟩
      simp only [ne_eq, Bool.and_eq_true, decide_eq_true_eq, not_and, Decidable.not_not] at hsch
      by_cases hh : t.scheme = b!"http"
      · exact Or.inl hh
      · exact Or.inr (hsch hh)

/-- the rule's URL in terms of the original request -/
theorem target_path (h : forward c = .forwarded tls dial up) :
    ∃ path u, pathUnescapeL (Spec.origRawPath c) = some path ∧ (Spec.origRawPath c).head? = some '/' ∧
      u.escapedPath = Spec.seenPath c ∧
      u.rawPath = (if c.rule.slashes = .on then [] else escapeInvalid (Spec.origRawPath c)) ∧
      (c.rule.slashes = .off → containsEncodedSlashL (Spec.origRawPath c) = false) ∧
      up.path = orSlash (match c.rule.rewrite with
        | some rw => (rw.apply u).escapedPath
        | none => Spec.seenPath c) := by
  obtain ⟨hw, t, ht, _, _, _, hup⟩ := forward_forwarded h
  obtain ⟨_, _, _, hdec, hhead, _⟩ := extractURL_view c hw
  obtain ⟨hte, hoff⟩ := ruleTarget_some ht
  generalize (viewUrl c).path = d at hdec hte
  refine ⟨d, ⟨Spec.origScheme c, c.rule.host, d,
      if c.rule.slashes = .on then [] else escapeInvalid (Spec.origRawPath c), Spec.origQuery c⟩,
      hdec, hhead, seen_escapedPath c d hhead hdec, rfl, ?_, ?_⟩
  · intro ho
    rw [← containsEncodedSlashL_escapeInvalid hdec]
    exact hoff ho
  · rw [hup]
    show orSlash t.escapedPath = _
    rw [hte, createURL_escapedPath]
    cases c.rule.rewrite with
    | none => exact congrArg orSlash (seen_escapedPath c d hhead hdec)
    | some rw => rfl

theorem target_query (h : forward c = .forwarded tls dial up) :
    up.query = removeParams (Spec.stripNames c) (Spec.origQuery c) := by
  obtain ⟨_, t, ht, _, _, _, hup⟩ := forward_forwarded h
  rw [hup]
  show t.rawQuery = _
  rw [(ruleTarget_some ht).1, createURL_query]
  rfl

/-! ### the outgoing header map in the vocabulary of the specification -/

theorem forwarded_headers (h : forward c = .forwarded tls dial up) :
    up.headers = wireHeaders (Spec.expectedMethod c) (outHeaders c) := by
  obtain ⟨_, _, _, _, _, _, hup⟩ := forward_forwarded h
  rw [hup]

theorem xFam_inHeaders (c : Case) : xFam (inHeaders c) = Spec.xFamily c := by
  unfold xFam Spec.xFamily Spec.priorFor
  rw [values_inHeaders_fwd c _ xffor_untrusted, firstOr_nil, firstOr_nil, get_inHeaders_fwd c _ xfproto_untrusted,
    get_inHeaders_fwd c _ xfhost_untrusted]

theorem endToEnd_eq (c : Case) (k : Bytes) :
    (if untrustedHeaders.contains k || isHop (inHeaders c) k then [] else values (inHeaders c) k) =
      Spec.endToEnd c k := by
  have hhop : isHop (inHeaders c) k = Spec.hopByHop c k := by
    unfold isHop Spec.hopByHop isHop connectionNamed
    rw [values_inHeaders_other c hConnection (by decide)]
  unfold Spec.endToEnd
  rw [hhop]
  cases hu : untrustedHeaders.contains k
  · rw [values_inHeaders_other c k hu]
    cases Spec.hopByHop c k <;> rfl
  · cases Spec.hopByHop c k <;> rfl

/-- Names whose lines the upstream reads as `rewriteRequest` left them, and for which that is determined by the
pipeline's headers and the client's: not written by the HTTP client library from other sources, not managed by the proxy
library, and not `Cookie` when the pipeline produced cookies (they are appended to the client's). -/
structure Ordinary (c : Case) (k : Bytes) : Prop where
  notOwned : Spec.transportOwned k = false
  te : k ≠ hTe
  conn : k ≠ hConnection
  upg : k ≠ hUpgrade
  cookie : k ≠ hCookie ∨ c.pipe.cookies = []

theorem Ordinary.host {c : Case} {k : Bytes} (ho : Ordinary c k) : k ≠ hHost := fun e => by
  have := ho.notOwned
  rw [e] at this
  revert this
  decide

/-- the forwarding headers are ordinary names, and none of them is written by the HTTP client library -/
theorem ordinary_of_untrusted (c : Case) {k : Bytes} (hk : untrustedHeaders.contains k = true) :
    Ordinary c k ∧ k ≠ hUserAgent ∧ k ≠ hAcceptEncoding := by
  have table : untrustedHeaders.all (fun k => !Spec.transportOwned k && k ≠ hTe && k ≠ hConnection &&
      k ≠ hUpgrade && k ≠ hCookie && k ≠ hUserAgent && k ≠ hAcceptEncoding) = true := by decide +kernel
  have := List.all_eq_true.mp table k (List.contains_iff_mem.mp hk)
  simp only [Bool.and_eq_true, Bool.not_eq_true', decide_eq_true_eq] at this
  obtain ⟨⟨⟨⟨⟨⟨h0, h1⟩, h2⟩, h3⟩, h4⟩, h5⟩, h6⟩ := this
  exact ⟨⟨h0, h1, h2, h3, Or.inl h4⟩, h5, h6⟩

/-- What the outgoing header map holds under `k`: the forwarding header heimdall continues is extended by the peer;
`X-Forwarded-Proto` and `-Host` of a continued `X-Forwarded-*` family carry the original scheme and host; any other name
carries the first value the pipeline produced for it, else what the client sent end to end. -/
def outValues (c : Case) (k : Bytes) : List Bytes :=
  if Spec.xFamily c then
    if k = hXFHost then [Spec.firstOr (Spec.believed c hXFHost) c.req.host]
    else if k = hXFProto then [Spec.firstOr (Spec.believed c hXFProto) (listenerProto c.req.tls)]
    else if k = hXFFor then [appendElem (Spec.priorFor c) c.req.peer]
    else oneOr (Spec.pipeValues c k).head? (Spec.endToEnd c k)
  else if k = hForwarded then
    [appendElem (Spec.priorForwarded c) (forwardedElem c.req.peer c.req.host (listenerProto c.req.tls))]
  else oneOr (Spec.pipeValues c k).head? (Spec.endToEnd c k)

theorem model_values (c : Case) (k : Bytes) (ho : Ordinary c k) : values (outHeaders c) k = outValues c k := by
  unfold outHeaders outValues
  rw [values_rewriteHeaders _ _ _ _ _ _ _ ho.host ho.cookie ho.te ho.conn ho.upg, endToEnd_eq, xFam_inHeaders,
    firstOr_believed c _ _ xfhost_untrusted, firstOr_believed c _ _ xfproto_untrusted,
    values_inHeaders_fwd c _ xffor_untrusted, values_inHeaders_fwd c _ forwarded_untrusted, values_canonHeaders]
  rfl

theorem continued_untrusted (c : Case) (k : Bytes) (h : Spec.continued c k = true) :
    untrustedHeaders.contains k = true := by
  unfold Spec.continued at h
  split at h
  · simp only [Bool.or_eq_true, decide_eq_true_eq] at h
    rcases h with (rfl | rfl) | rfl
    · exact xffor_untrusted
    · exact xfproto_untrusted
    · exact xfhost_untrusted
  · rw [of_decide_eq_true h]
    exact forwarded_untrusted

theorem outValues_of_not_continued (c : Case) (k : Bytes) (h : Spec.continued c k = false) :
    outValues c k = oneOr (Spec.pipeValues c k).head? (Spec.endToEnd c k) := by
  unfold Spec.continued at h
  unfold outValues
  split at h
  · next hX =>
    simp only [Bool.or_eq_false_iff, decide_eq_false_iff_not] at h
    rw [if_pos hX, if_neg h.2, if_neg h.1.2, if_neg h.1.1]
  · next hX => rw [if_neg hX, if_neg (of_decide_eq_false h)]

theorem outValues_xffor (c : Case) (hX : Spec.xFamily c = true) :
    outValues c hXFFor = [appendElem (Spec.priorFor c) c.req.peer] := by
  unfold outValues
  rw [if_pos hX, if_neg (by decide), if_neg (by decide), if_pos rfl]

theorem outValues_xfproto (c : Case) (hX : Spec.xFamily c = true) :
    outValues c hXFProto = [Spec.firstOr (Spec.believed c hXFProto) (listenerProto c.req.tls)] := by
  unfold outValues
  rw [if_pos hX, if_neg (by decide), if_pos rfl]

theorem outValues_xfhost (c : Case) (hX : Spec.xFamily c = true) :
    outValues c hXFHost = [Spec.firstOr (Spec.believed c hXFHost) c.req.host] := by
  unfold outValues
  rw [if_pos hX, if_pos rfl]

theorem outValues_forwarded (c : Case) (hX : Spec.xFamily c = false) :
    outValues c hForwarded =
      [appendElem (Spec.priorForwarded c) (forwardedElem c.req.peer c.req.host (listenerProto c.req.tls))] := by
  unfold outValues
  rw [hX, if_neg Bool.false_ne_true, if_pos rfl]

theorem not_continued_of_not_untrusted (c : Case) (k : Bytes) (h : untrustedHeaders.contains k = false) :
    Spec.continued c k = false := by
  cases hc : Spec.continued c k with
  | false => rfl
  | true => rw [continued_untrusted c k hc] at h; cases h

/-- `User-Agent` and `Accept-Encoding`, the two names Go's HTTP client also writes itself, are ordinary names, and
heimdall continues neither -/
theorem ordinary_of_library (c : Case) {k : Bytes} (hk : k = hUserAgent ∨ k = hAcceptEncoding) :
    Ordinary c k ∧ Spec.continued c k = false := by
  rcases hk with rfl | rfl <;>
    exact ⟨⟨by decide, by decide, by decide, by decide, Or.inl (by decide)⟩,
      not_continued_of_not_untrusted c _ (by decide)⟩

/-- heimdall continues none of `X-Forwarded-Method`, `-Uri`, `-Path` -/
theorem not_continued_of_dropped (c : Case) (k : Bytes) (hk : k = hXFMethod ∨ k = hXFUri ∨ k = hXFPath) :
    Spec.continued c k = false := by
  unfold Spec.continued
  rcases hk with rfl | rfl | rfl <;> cases Spec.xFamily c <;> decide

/-- a name that is neither the continued forwarding header nor one of the two heimdall writes beside it -/
theorem not_continued (c : Case) (k : Bytes) (hcn : k ≠ Spec.continuedName c)
    (hp : ¬ (Spec.xFamily c && decide (k = hXFProto)) = true) (hh : ¬ (Spec.xFamily c && decide (k = hXFHost)) = true) :
    Spec.continued c k = false := by
  unfold Spec.continued
  unfold Spec.continuedName at hcn
  cases hX : Spec.xFamily c <;> simp_all

theorem oneOr_head (vs d : List Bytes) (h : vs.length < 2) : oneOr vs.head? d = if vs ≠ [] then vs else d :=
  match vs, h with
  | [], _ => rfl
  | [_], _ => rfl

/-- the lines the upstream reads under an ordinary name: what the outgoing header map holds, each value without
surrounding blanks; under `Accept-Encoding` the HTTP client may add its own line when the map names no encoding -/
theorem upstream_values (h : forward c = .forwarded tls dial up)
    (k : Bytes) (ho : Ordinary c k) (hua : k ≠ hUserAgent) :
    ∃ g, values up.headers k = Spec.asRead (outValues c k) ++ g ∧
      (∀ w ∈ g, k = hAcceptEncoding ∧ w = b!"gzip") ∧
      (k ≠ hAcceptEncoding ∨ (outValues c k).head?.getD [] ≠ [] → g = []) := by
  have hup := forwarded_headers h
  have hnw : notWritten k = false := by
    have := ho.notOwned
    unfold Spec.transportOwned at this
    simp only [Bool.or_eq_false_iff, decide_eq_false_iff_not] at this
    simp [notWritten, this, hua]
  refine ⟨values (gzipLine (Spec.expectedMethod c) (outHeaders c)) k, ?_, fun w hw => values_gzipLine_mem _ _ _ _ hw,
    fun hk => ?_⟩
  · rw [hup, values_wireHeaders _ _ _ hnw, model_values c k ho]
    rfl
  · apply values_gzipLine
    by_cases e : k = hAcceptEncoding
    · subst e
      exact hk.imp id fun hne => by unfold get; rwa [model_values c _ ho]
    · exact Or.inl e

theorem upstream_forwarding (h : forward c = .forwarded tls dial up) (k : Bytes) (hk : untrustedHeaders.contains k = true) :
    values up.headers k = Spec.asRead (outValues c k) := by
  obtain ⟨ho, hua, hae⟩ := ordinary_of_untrusted c hk
  obtain ⟨g, hv, _, hg⟩ := upstream_values h k ho hua
  rw [hv, hg (Or.inl hae), List.append_nil]

/-- what a trusted peer sent under the forwarding header heimdall continues -/
def continuedPrior (c : Case) : Bytes := if Spec.xFamily c then Spec.priorFor c else Spec.priorForwarded c

/-- what heimdall appends to it -/
def appendedElem (c : Case) : Bytes :=
  if Spec.xFamily c then c.req.peer else forwardedElem c.req.peer c.req.host (listenerProto c.req.tls)

/-- The forwarding header heimdall continues, for every request: one line, whose elements are the believed ones followed
by the elements of what heimdall appends.  That is one element naming the peer exactly when `appendedElem c` is free of
list delimiters; a `Host` with a comma in it adds elements of its own (`Spec.devHost`). -/
theorem upstream_continued (h : forward c = .forwarded tls dial up) :
    ∃ v, values up.headers (Spec.continuedName c) = [v] ∧
      listElems v = Spec.priorElems (continuedPrior c) ++ listElems (appendedElem c) := by
  have hu : untrustedHeaders.contains (Spec.continuedName c) = true := by
    unfold Spec.continuedName
    split
    · exact xffor_untrusted
    · exact forwarded_untrusted
  rw [upstream_forwarding h _ hu]
  unfold Spec.continuedName continuedPrior appendedElem
  cases hX : Spec.xFamily c
  · rw [if_neg Bool.false_ne_true, outValues_forwarded c hX]
    exact ⟨_, rfl, by rw [listElems_trimOWS, listElems_appendElem]; rfl⟩
  · rw [if_pos rfl, outValues_xffor c hX]
    exact ⟨_, rfl, by rw [listElems_trimOWS, listElems_appendElem]; rfl⟩

theorem upstream_userAgent (h : forward c = .forwarded tls dial up) :
    values up.headers hUserAgent = uaRead (outValues c hUserAgent) := by
  have hup := forwarded_headers h
  rw [hup, values_wireHeaders_ua,
    model_values c _ (ordinary_of_library c (Or.inl rfl)).1]

theorem single_valued (c : Case) (h : Spec.pipeSingleValued c = true) (k : Bytes) :
    Spec.repeatedPipeName c k = false := by
  unfold Spec.repeatedPipeName
  simp only [ge_iff_le, decide_eq_false_iff_not, Nat.not_le]
  unfold Spec.pipeSingleValued at h
  rw [List.all_eq_true] at h
  cases hf : c.pipe.headers.filter (fun x => canonicalKey x.1 = k) with
  | nil => simp [Spec.pipeValues, hf]
  | cons x rest =>
    have hx : x ∈ c.pipe.headers.filter (fun x => canonicalKey x.1 = k) := by rw [hf]; simp
    have hxk : canonicalKey x.1 = k := by simpa using (List.mem_filter.mp hx).2
    have := h x (List.mem_filter.mp hx).1
    rw [hxk] at this
    simp only [decide_eq_true_eq] at this
    omega

theorem avoids_continued (c : Case) (h : Spec.pipeAvoidsContinued c = true) (k : Bytes) :
    Spec.pipeContinued c k = false := by
  by_cases hc : Spec.continued c k = true
  · have hu := List.contains_iff_mem.mp (continued_untrusted c k hc)
    unfold Spec.pipeAvoidsContinued at h
    rw [List.all_eq_true] at h
    simpa using h k hu
  · simp [Spec.pipeContinued, hc]

end Heimdall.ProxyFwd
