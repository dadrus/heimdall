import HeimdallModel.Base.UrlEscape
import HeimdallModel.Lemmas.Basic
/-!
The character classes of `Base/UrlEscape.lean` are unions of intervals of octet values: said once in that form
(`isHex_iff`, …), inclusions between classes are linear arithmetic.

Raw paths as sequences of *units* (a literal octet or a percent-escape, `PU`) and the closed forms of the decoding
functions on them: each function treats a well-formed unit at the head of the path on its own (`ByUnit`: the equations
`…_cons_ne`, `…_esc`), so its value on a rendered sequence is read off unit by unit (`ByUnit.render`, `…_render`).  For
`normalizeL` the unit-level form is `normUnit` of `Props/C08.lean`, and `normalizeL_byUnit`, `normalizeL_render` stand
there behind it.  Conversely every string
`pathUnescapeL` accepts is such a rendering (`exists_units`).

The functions that keep an octet or write its escape are instances of one interface (`IsEscaper`, section "Escapers").
-/
namespace Heimdall

theorem toNat_ofNat_of_lt {n : Nat} (h : n < 256) : (Char.ofNat n).toNat = n :=
  toNat_ofNat_small (Nat.lt_trans h (by decide))

theorem between_iff (lo hi c : Char) : (lo ≤ c && c ≤ hi) = true ↔ lo.toNat ≤ c.toNat ∧ c.toNat ≤ hi.toNat := by
  rw [Bool.and_eq_true, decide_eq_true_iff, decide_eq_true_iff, char_le_iff, char_le_iff]

theorem isHex_iff (c : Char) : isHex c = true ↔
    (48 ≤ c.toNat ∧ c.toNat ≤ 57 ∨ 97 ≤ c.toNat ∧ c.toNat ≤ 102) ∨ 65 ≤ c.toNat ∧ c.toNat ≤ 70 := by
  rw [isHex, Bool.or_eq_true, Bool.or_eq_true, between_iff, between_iff, between_iff]
  exact Iff.rfl

theorem isAlphanum_iff (c : Char) : c.isAlphanum = true ↔
    (65 ≤ c.toNat ∧ c.toNat ≤ 90 ∨ 97 ≤ c.toNat ∧ c.toNat ≤ 122) ∨ 48 ≤ c.toNat ∧ c.toNat ≤ 57 := by
  simp only [Char.isAlphanum, Char.isAlpha, Char.isUpper, Char.isLower, Char.isDigit, Bool.or_eq_true,
    Bool.and_eq_true, decide_eq_true_eq, ge_iff_le, UInt32.le_iff_toNat_le]
  exact Iff.rfl

theorem isUnreserved_iff (c : Char) : isUnreserved c = true ↔
    ((((((97 ≤ c.toNat ∧ c.toNat ≤ 122 ∨ 65 ≤ c.toNat ∧ c.toNat ≤ 90) ∨ 48 ≤ c.toNat ∧ c.toNat ≤ 57) ∨ c = '-') ∨
      c = '.') ∨ c = '_') ∨ c = '~') := by
  simp only [isUnreserved, Bool.or_eq_true, between_iff, decide_eq_true_eq]
  exact Iff.rfl

theorem isHex_ne_percent {a : Char} (h : isHex a = true) : a ≠ '%' := by
  intro e; subst e; revert h; decide

theorem unhex_lt (c : Char) : unhex c < 16 := by
  unfold unhex
  split
  · next h => have := (between_iff _ _ c).mp h; simp only [Char.reduceToNat] at this ⊢; omega
  · split
    · next h => have := (between_iff _ _ c).mp h; simp only [Char.reduceToNat] at this ⊢; omega
    · split
      · next h => have := (between_iff _ _ c).mp h; simp only [Char.reduceToNat] at this ⊢; omega
      · decide

theorem unhex_pair_lt (a b : Char) : 16 * unhex a + unhex b < 256 := by
  have := unhex_lt a
  have := unhex_lt b
  omega

theorem octet_toNat (a b : Char) : (octet a b).toNat = 16 * unhex a + unhex b :=
  toNat_ofNat_of_lt (unhex_pair_lt a b)

theorem octet_lt (a b : Char) : (octet a b).toNat < 256 := by
  rw [octet_toNat]
  exact unhex_pair_lt a b

theorem octet_2F : octet '2' 'F' = '/' := by decide
theorem octet_2f : octet '2' 'f' = '/' := by decide

theorem isHex_hexDigitUpper : ∀ n : Fin 16, isHex (hexDigitUpper n.val) = true := by decide
theorem unhex_hexDigitUpper : ∀ n : Fin 16, unhex (hexDigitUpper n.val) = n.val := by decide
theorem hexDigitUpper_allowed : ∀ n : Fin 16, pathOctetAllowed (hexDigitUpper n.val) = true := by decide

/-- the punctuation `pathOctetAllowed` accepts, as a list (evaluating `String.toList` of the literal inside every
concrete `pathOctetAllowed` fact is slow) -/
theorem pathPunct_toList : "-_.~!$&'()*+,;=:@/[]%".toList =
    ['-', '_', '.', '~', '!', '$', '&', '\'', '(', ')', '*', '+', ',', ';', '=', ':', '@', '/', '[', ']', '%'] := by
  decide +kernel

theorem percent_allowed : pathOctetAllowed '%' = true := by rw [pathOctetAllowed, pathPunct_toList]; decide +kernel
theorem slash_allowed : pathOctetAllowed '/' = true := by rw [pathOctetAllowed, pathPunct_toList]; decide +kernel

theorem allowed_of_isAlphanum {c : Char} (h : c.isAlphanum = true) : pathOctetAllowed c = true := by
  rw [pathOctetAllowed, h, Bool.true_or]

theorem isHex_allowed (a : Char) (h : isHex a = true) : pathOctetAllowed a = true :=
  allowed_of_isAlphanum (by rw [isHex_iff] at h; rw [isAlphanum_iff]; omega)

theorem unreserved_allowed (c : Char) (h : isUnreserved c = true) : pathOctetAllowed c = true := by
  rcases (isUnreserved_iff c).mp h with (((h | rfl) | rfl) | rfl) | rfl
  · exact allowed_of_isAlphanum (by rw [isAlphanum_iff]; omega)
  all_goals rw [pathOctetAllowed, pathPunct_toList]; decide +kernel

inductive PU where
  | lit (c : Char)
  | esc (a b : Char)
deriving Repr, DecidableEq

def PU.wf : PU → Prop
  | .lit c => c ≠ '%'
  | .esc a b => isHex a = true ∧ isHex b = true

def PU.render : PU → List Char
  | .lit c => [c]
  | .esc a b => ['%', a, b]

def renderU (us : List PU) : List Char := us.flatMap PU.render

theorem renderU_cons (u : PU) (us : List PU) : renderU (u :: us) = u.render ++ renderU us := List.flatMap_cons

theorem renderU_append (a b : List PU) : renderU (a ++ b) = renderU a ++ renderU b := List.flatMap_append

theorem ofList_isEmpty (l : List Char) : (String.ofList l).isEmpty = l.isEmpty := by
  cases l <;> simp [String.isEmpty_iff]

theorem renderU_isEmpty (us : List PU) : (renderU us).isEmpty = us.isEmpty := by
  cases us with
  | nil => rfl
  | cons u rest => cases u <;> rfl

/-- `f` reads a raw path unit by unit: a literal octet other than `%`, and an escape of two hex digits, is each treated
on its own, by `step` (what `f` makes of a `%` that starts no escape is left open) -/
structure ByUnit {β : Type} (f : List Char → β) (step : PU → β → β) : Prop where
  lit : ∀ {c : Char}, c ≠ '%' → ∀ t, f (c :: t) = step (.lit c) (f t)
  esc : ∀ a b, isHex a = true → isHex b = true → ∀ t, f ('%' :: a :: b :: t) = step (.esc a b) (f t)

namespace ByUnit
variable {β : Type} {f : List Char → β} {step : PU → β → β} (hf : ByUnit f step)
include hf

theorem unit {u : PU} (hu : u.wf) (t : List Char) : f (u.render ++ t) = step u (f t) := by
  cases u with
  | lit c => exact hf.lit hu t
  | esc a b => exact hf.esc a b hu.1 hu.2 t

/-- the closed form on a rendering: any `g` that goes through the units by the same `step` -/
theorem render (g : List PU → β) (hnil : f [] = g []) (hcons : ∀ u us, g (u :: us) = step u (g us)) (us : List PU)
    (hwf : ∀ u ∈ us, u.wf) : f (renderU us) = g us := by
  induction us with
  | nil => exact hnil
  | cons u us ih =>
    have h := List.forall_mem_cons.mp hwf
    rw [renderU_cons, hf.unit h.1, ih h.2, hcons]

end ByUnit

theorem normalizeL_cons_ne {c : Char} (hc : c ≠ '%') (t : List Char) : normalizeL (c :: t) = c :: normalizeL t := by
  match t with
  | [] => simp [normalizeL]
  | [a] => simp [normalizeL]
  | a :: b :: rest => simp [normalizeL, hc]

theorem normalizeL_no_percent : ∀ l : List Char, (∀ c ∈ l, c ≠ '%') → normalizeL l = l
  | [], _ => by simp [normalizeL]
  | c :: t, h => by
    rw [normalizeL_cons_ne (h c (by simp)), normalizeL_no_percent t (fun x hx => h x (List.mem_cons_of_mem _ hx))]

theorem normalizeL_esc (a b : Char) (ha : isHex a = true) (hb : isHex b = true) (rest : List Char) :
    normalizeL ('%' :: a :: b :: rest) =
      if isUnreserved (octet a b) then octet a b :: normalizeL rest else '%' :: a :: b :: normalizeL rest := by
  rw [normalizeL]
  by_cases hu : isUnreserved (octet a b)
  · simp [ha, hb, hu]
  · simp only [ha, hb, hu, Bool.and_false, Bool.false_eq_true, if_false]
    rw [normalizeL_cons_ne (isHex_ne_percent ha), normalizeL_cons_ne (isHex_ne_percent hb)]

def PU.isSlash : PU → Bool
  | .esc a b => a = '2' && (b = 'F' || b = 'f')
  | .lit _ => false

theorem containsEncodedSlashL_cons_ne {c : Char} (hc : c ≠ '%') (t : List Char) :
    containsEncodedSlashL (c :: t) = containsEncodedSlashL t := by
  simp [containsEncodedSlashL, hc]

theorem containsEncodedSlashL_byUnit : ByUnit containsEncodedSlashL fun u r => u.isSlash || r :=
  ⟨containsEncodedSlashL_cons_ne, fun a b ha hb t => by
    rw [containsEncodedSlashL, containsEncodedSlashL_cons_ne (isHex_ne_percent ha),
      containsEncodedSlashL_cons_ne (isHex_ne_percent hb), decide_eq_true rfl, Bool.true_and]
    rfl⟩

theorem containsEncodedSlashL_render (us : List PU) (hwf : ∀ u ∈ us, u.wf) :
    containsEncodedSlashL (renderU us) = us.any PU.isSlash :=
  containsEncodedSlashL_byUnit.render (List.any · PU.isSlash) rfl (fun _ _ => rfl) us hwf

/-- decoding of one unit by `url.PathUnescape` -/
def PU.dec : PU → Char
  | .lit c => c
  | .esc a b => octet a b

theorem pathUnescapeL_cons_ne {c : Char} (hc : c ≠ '%') (t : List Char) :
    pathUnescapeL (c :: t) = (pathUnescapeL t).map (c :: ·) := by
  rcases t with _ | ⟨a, _ | ⟨b, r⟩⟩ <;> simp [pathUnescapeL, hc]

theorem pathUnescapeL_esc (a b : Char) (ha : isHex a = true) (hb : isHex b = true) (rest : List Char) :
    pathUnescapeL ('%' :: a :: b :: rest) = (pathUnescapeL rest).map (octet a b :: ·) := by
  simp [pathUnescapeL, ha, hb]

theorem pathUnescapeL_byUnit : ByUnit pathUnescapeL fun u r => r.map (u.dec :: ·) :=
  ⟨pathUnescapeL_cons_ne, pathUnescapeL_esc⟩

theorem pathUnescapeL_render (us : List PU) (hwf : ∀ u ∈ us, u.wf) :
    pathUnescapeL (renderU us) = some (us.map PU.dec) :=
  pathUnescapeL_byUnit.render (fun us => some (us.map PU.dec)) rfl (fun _ _ => rfl) us hwf

/-- the parsing direction: a string `url.PathUnescape` accepts is the rendering of well-formed units, and its decoding is
theirs — so a statement about every decodable string is a statement about `renderU us` -/
theorem exists_units : ∀ {s d : List Char}, pathUnescapeL s = some d →
    ∃ us : List PU, (∀ u ∈ us, u.wf) ∧ renderU us = s ∧ us.map PU.dec = d
  | [], d, h => ⟨[], fun _ hu => (nomatch hu), rfl, by cases h; rfl⟩
  | c :: t, d, h => by
    by_cases hc : c = '%'
    · subst hc
      match t, h with
      | a :: b :: rest, h =>
        by_cases hh : isHex a = true ∧ isHex b = true
        · rw [pathUnescapeL_esc a b hh.1 hh.2] at h
          obtain ⟨r, hr, rfl⟩ := Option.map_eq_some_iff.mp h
          obtain ⟨us, hwf, rfl, rfl⟩ := exists_units hr
          exact ⟨.esc a b :: us, List.forall_mem_cons.mpr ⟨hh, hwf⟩, rfl, rfl⟩
        · simp [pathUnescapeL, hh] at h
      | [], h => simp [pathUnescapeL] at h
      | [_], h => simp [pathUnescapeL] at h
    · rw [pathUnescapeL_cons_ne hc] at h
      obtain ⟨r, hr, rfl⟩ := Option.map_eq_some_iff.mp h
      obtain ⟨us, hwf, rfl, rfl⟩ := exists_units hr
      exact ⟨.lit c :: us, List.forall_mem_cons.mpr ⟨hc, hwf⟩, rfl, rfl⟩

theorem PU.dec_of_isSlash {u : PU} (h : u.isSlash = true) : u.dec = '/' := by
  cases u with
  | lit c => cases h
  | esc a b =>
    simp only [PU.isSlash, Bool.and_eq_true, Bool.or_eq_true, decide_eq_true_eq] at h
    obtain ⟨rfl, rfl | rfl⟩ := h
    · exact octet_2F
    · exact octet_2f

/-- decoding of one unit when encoded slashes are kept -/
def PU.decKeep : PU → List Char
  | .lit c => [c]
  | .esc a b => if a = '2' && (b = 'F' || b = 'f') then ['%', a, b] else [octet a b]

theorem PU.decKeep_esc (a b : Char) :
    PU.decKeep (.esc a b) = if PU.isSlash (.esc a b) then ['%', a, b] else [octet a b] := rfl

theorem unescapeKeepSlashL_cons_ne {c : Char} (hc : c ≠ '%') (t : List Char) :
    unescapeKeepSlashL (c :: t) = (unescapeKeepSlashL t).map (c :: ·) := by
  rcases t with _ | ⟨a, _ | ⟨b, r⟩⟩ <;> simp [unescapeKeepSlashL, hc]

theorem unescapeKeepSlashL_esc (a b : Char) (ha : isHex a = true) (hb : isHex b = true) (rest : List Char) :
    unescapeKeepSlashL ('%' :: a :: b :: rest) = (unescapeKeepSlashL rest).map (PU.decKeep (.esc a b) ++ ·) := by
  rw [PU.decKeep]
  split
  · next h => simp [unescapeKeepSlashL, h]
  · next h => simp [unescapeKeepSlashL, ha, hb, h]

theorem unescapeKeepSlashL_byUnit : ByUnit unescapeKeepSlashL fun u r => r.map (u.decKeep ++ ·) :=
  ⟨unescapeKeepSlashL_cons_ne, unescapeKeepSlashL_esc⟩

theorem unescapeKeepSlashL_render (us : List PU) (hwf : ∀ u ∈ us, u.wf) :
    unescapeKeepSlashL (renderU us) = some (us.flatMap PU.decKeep) :=
  unescapeKeepSlashL_byUnit.render (fun us => some (us.flatMap PU.decKeep)) rfl (fun _ _ => rfl) us hwf

theorem flatMap_decKeep (us : List PU) (hs : us.any PU.isSlash = false) : us.flatMap PU.decKeep = us.map PU.dec := by
  induction us with
  | nil => rfl
  | cons u us ih =>
    rw [List.any_cons, Bool.or_eq_false_iff] at hs
    rw [List.flatMap_cons, List.map_cons, ih hs.2]
    cases u with
    | lit c => rfl
    | esc a b =>
      rw [PU.decKeep_esc, if_neg (ne_true_of_eq_false hs.1)]
      rfl

/-- `us'` spells the same path as `us`, with some unreserved octets percent-encoded (either hex case) -/
inductive Reenc : List PU → List PU → Prop
  | nil : Reenc [] []
  | keep (u : PU) {us us' : List PU} : Reenc us us' → Reenc (u :: us) (u :: us')
  | enc (c a b : Char) {us us' : List PU} : isUnreserved c = true → isHex a = true → isHex b = true →
      octet a b = c → Reenc us us' → Reenc (.lit c :: us) (.esc a b :: us')

/-- a property of units that every escape has carries over to a re-spelling -/
theorem Reenc.forall_mem {P : PU → Prop} (hP : ∀ a b, isHex a = true → isHex b = true → P (.esc a b))
    {us us' : List PU} (h : Reenc us us') (hs : ∀ u ∈ us, P u) : ∀ u ∈ us', P u := by
  induction h with
  | nil => exact hs
  | keep u _ ih =>
    have h := List.forall_mem_cons.mp hs
    exact List.forall_mem_cons.mpr ⟨h.1, ih h.2⟩
  | enc c a b _ ha hb _ _ ih => exact List.forall_mem_cons.mpr ⟨hP a b ha hb, ih (List.forall_mem_cons.mp hs).2⟩

theorem Reenc.wf {us us' : List PU} (h : Reenc us us') (hwf : ∀ u ∈ us, u.wf) : ∀ u ∈ us', u.wf :=
  h.forall_mem (fun _ _ ha hb => ⟨ha, hb⟩) hwf

theorem not_unreserved_slash : isUnreserved '/' = false := by decide

theorem Reenc.dec_eq {us us' : List PU} (h : Reenc us us') : us'.map PU.dec = us.map PU.dec := by
  induction h with
  | nil => rfl
  | keep u _ ih => simp [ih]
  | enc c a b _ _ _ ho _ ih => simp [PU.dec, ho, ih]

theorem pathUnescapeL_reenc (us us' : List PU) (hwf : ∀ u ∈ us, u.wf) (h : Reenc us us') :
    pathUnescapeL (renderU us') = pathUnescapeL (renderU us) := by
  rw [pathUnescapeL_render us hwf, pathUnescapeL_render us' (h.wf hwf), h.dec_eq]

theorem Reenc.ne_nil {us us' : List PU} (h : Reenc us us') (hne : us ≠ []) : us' ≠ [] := by
  cases h with
  | nil => exact absurd rfl hne
  | keep u _ => simp
  | enc c a b _ _ _ _ _ => simp

theorem Reenc.refl (us : List PU) : Reenc us us := by
  induction us with
  | nil => exact .nil
  | cons u rest ih => exact .keep u ih

theorem Reenc.append_left (ps : List PU) {us us' : List PU} (h : Reenc us us') : Reenc (ps ++ us) (ps ++ us') := by
  induction ps with
  | nil => exact h
  | cons p rest ih => exact .keep p ih

theorem Reenc.append_right {us us' : List PU} (h : Reenc us us') (post : List PU) : Reenc (us ++ post) (us' ++ post) := by
  induction h with
  | nil => exact Reenc.refl _
  | keep u _ ih => exact .keep u ih
  | enc c a b hc ha hb ho _ ih => exact .enc c a b hc ha hb ho ih

/-! ### The spelling `extractURL` keeps: the received path with the octets a path may not contain encoded -/

/-- the escape `%XY` (upper-case hex) that `receivedPathL` and `escape` write for an octet -/
def PU.ofOctet (c : Char) : PU := .esc (hexDigitUpper (c.toNat / 16 % 16)) (hexDigitUpper (c.toNat % 16))

theorem PU.ofOctet_wf (c : Char) : (PU.ofOctet c).wf :=
  ⟨isHex_hexDigitUpper ⟨_, Nat.mod_lt _ (by decide)⟩, isHex_hexDigitUpper ⟨_, Nat.mod_lt _ (by decide)⟩⟩

theorem PU.ofOctet_dec {c : Char} (hb : c.toNat < 256) : (PU.ofOctet c).dec = c := by
  have hi : unhex (hexDigitUpper (c.toNat / 16 % 16)) = c.toNat / 16 % 16 :=
    unhex_hexDigitUpper ⟨_, Nat.mod_lt _ (by decide)⟩
  have lo : unhex (hexDigitUpper (c.toNat % 16)) = c.toNat % 16 := unhex_hexDigitUpper ⟨_, Nat.mod_lt _ (by decide)⟩
  show Char.ofNat (16 * unhex _ + unhex _) = c
  rw [hi, lo]
  rw [Nat.mod_eq_of_lt (show c.toNat / 16 < 16 by omega), Nat.div_add_mod]
  exact Char.ofNat_toNat c

/-- the escape written for an octet is `%2F` only for the octet `/` -/
theorem PU.ofOctet_not_slash {c : Char} (hb : c.toNat < 256) (hc : c ≠ '/') : (PU.ofOctet c).isSlash = false :=
  Bool.eq_false_iff.mpr fun hs => hc (by rw [← PU.ofOctet_dec hb]; exact PU.dec_of_isSlash hs)

/-! ### Escapers

The functions of the model that go through a string octet by octet and either keep the octet or write its escape `%XY`
(`receivedPathL`, `Upstream.escapePathL`, `ProxyFwd.escapePath`, `ProxyFwd.escapeInvalid`) differ only in the set `keep` of
octets they keep.  With `keep '%' = false` such a function encodes decoded octets (`escape(s, encodePath)` of `net/url`);
with `%` and the hex digits kept it repairs a received spelling (`ReceivedPath` of `extract_url.go`): the escapes of the
client stay as written. -/

/-- the unit-level form of an escaper: a literal octet that is not kept becomes its escape -/
def encUnit (keep : Char → Bool) : PU → PU
  | .lit c => if keep c then .lit c else PU.ofOctet c
  | .esc a b => .esc a b

/-- `f` keeps the octets of `keep` and writes `%XY` (upper-case hex) for every other one -/
structure IsEscaper (keep : Char → Bool) (f : List Char → List Char) : Prop where
  nil : f [] = []
  cons : ∀ c t, f (c :: t) = (encUnit keep (.lit c)).render ++ f t

section
variable {keep : Char → Bool}

theorem encUnit_wf {u : PU} (hu : u.wf) : (encUnit keep u).wf := by
  cases u with
  | esc a b => exact hu
  | lit c =>
    rw [encUnit]
    split
    · exact hu
    · exact PU.ofOctet_wf c

theorem encUnit_lit_wf (hp : keep '%' = false) (c : Char) : (encUnit keep (.lit c)).wf := by
  rw [encUnit]
  split
  · next hc => exact fun e => by rw [e, hp] at hc; cases hc
  · exact PU.ofOctet_wf c

theorem encUnit_eq_lit {c x : Char} (h : encUnit keep (.lit c) = .lit x) : keep x = true := by
  rw [encUnit] at h
  split at h
  · next hk => cases h; exact hk
  · cases h

/-- what is escaped is an octet (`hb`): decoding gives it back -/
theorem encUnit_dec {u : PU} (hb : ∀ c, u = .lit c → keep c = false → c.toNat < 256) : (encUnit keep u).dec = u.dec := by
  cases u with
  | esc a b => rfl
  | lit c =>
    rw [encUnit]
    split
    · rfl
    · next hc => exact PU.ofOctet_dec (hb c rfl (Bool.not_eq_true _ ▸ hc))

/-- `/` is kept: no escape written is an encoded slash -/
theorem encUnit_isSlash (hs : keep '/' = true) {u : PU} (hb : ∀ c, u = .lit c → keep c = false → c.toNat < 256) :
    (encUnit keep u).isSlash = u.isSlash := by
  cases u with
  | esc a b => rfl
  | lit c =>
    rw [encUnit]
    split
    · rfl
    · next hc => exact PU.ofOctet_not_slash (hb c rfl (Bool.not_eq_true _ ▸ hc)) fun e => hc (e ▸ hs)

/-- every character of a rendering is `%`, a hex digit, or a literal of the sequence -/
theorem all_render {q : Char → Bool} (hq : q '%' = true) (hh : ∀ a, isHex a = true → q a = true) (us : List PU)
    (h : ∀ u ∈ us, u.wf ∧ ∀ c, u = .lit c → q c = true) : (renderU us).all q = true := by
  refine List.all_eq_true.mpr fun c hc => ?_
  obtain ⟨u, hu, hcu⟩ := List.mem_flatMap.mp hc
  cases u with
  | lit x => rw [List.mem_singleton.mp hcu]; exact (h _ hu).2 x rfl
  | esc a b =>
    simp only [PU.render, List.mem_cons, List.not_mem_nil, or_false] at hcu
    rcases hcu with rfl | rfl | rfl
    · exact hq
    · exact hh _ (h _ hu).1.1
    · exact hh _ (h _ hu).1.2

namespace IsEscaper
variable {f : List Char → List Char} (hf : IsEscaper keep f)
include hf

/-- on octets (a decoded path): every octet becomes one unit -/
theorem eq_render (p : List Char) : f p = renderU (p.map fun c => encUnit keep (.lit c)) := by
  induction p with
  | nil => exact hf.nil
  | cons c t ih => rw [hf.cons, ih, List.map_cons, renderU_cons]

theorem eq_self (p : List Char) (h : p.all keep = true) : f p = p := by
  induction p with
  | nil => exact hf.nil
  | cons c t ih =>
    rw [List.all_cons, Bool.and_eq_true] at h
    rw [hf.cons, ih h.2, encUnit, if_pos h.1]
    rfl

/-- `%` is escaped: decoding what was written gives the octets back -/
theorem pathUnescapeL_octets (hp : keep '%' = false) (p : List Char) (hb : ∀ c ∈ p, keep c = false → c.toNat < 256) :
    pathUnescapeL (f p) = some p := by
  rw [hf.eq_render, pathUnescapeL_render _ (List.forall_mem_map.mpr fun c _ => encUnit_lit_wf hp c), List.map_map]
  exact congrArg some ((List.map_congr_left fun c hc =>
    encUnit_dec fun _ e h => by cases e; exact hb c hc h).trans (List.map_id p))

/-- `%` is escaped: what was written consists of `%`, hex digits and kept octets -/
theorem all_octets (hp : keep '%' = false) {q : Char → Bool} (hq : q '%' = true) (hh : ∀ a, isHex a = true → q a = true)
    (hk : ∀ c, keep c = true → q c = true) (p : List Char) : (f p).all q = true := by
  rw [hf.eq_render]
  exact all_render hq hh _ (List.forall_mem_map.mpr fun c _ => ⟨encUnit_lit_wf hp c, fun x e => hk x (encUnit_eq_lit e)⟩)

variable (hp : keep '%' = true) (hh : ∀ a, isHex a = true → keep a = true)
include hp hh

/-- `%` and the hex digits are kept, the argument is a raw path: the escapes of the client stay as written -/
theorem render (us : List PU) (hwf : ∀ u ∈ us, u.wf) : f (renderU us) = renderU (us.map (encUnit keep)) :=
  ByUnit.render (step := fun u r => (encUnit keep u).render ++ r)
    ⟨fun _ t => hf.cons _ t, fun a b ha hb t => by
      rw [hf.cons, hf.cons, hf.cons, encUnit, encUnit, encUnit, if_pos hp, if_pos (hh a ha), if_pos (hh b hb)]
      rfl⟩
    (fun us => renderU (us.map (encUnit keep))) hf.nil (fun _ _ => rfl) us hwf

/-- a repair keeps the decoding … -/
theorem pathUnescapeL_repair (hb : ∀ c, keep c = false → c.toNat < 256) {s d : List Char}
    (h : pathUnescapeL s = some d) : pathUnescapeL (f s) = some d := by
  obtain ⟨us, hwf, rfl, rfl⟩ := exists_units h
  rw [hf.render hp hh us hwf, pathUnescapeL_render _ (List.forall_mem_map.mpr fun u hu => encUnit_wf (hwf u hu)),
    List.map_map]
  exact congrArg some (List.map_congr_left fun u _ => encUnit_dec fun c _ => hb c)

/-- … and neither creates nor removes an encoded slash -/
theorem containsEncodedSlashL_repair (hs : keep '/' = true) (hb : ∀ c, keep c = false → c.toNat < 256)
    {s d : List Char} (h : pathUnescapeL s = some d) : containsEncodedSlashL (f s) = containsEncodedSlashL s := by
  obtain ⟨us, hwf, rfl, rfl⟩ := exists_units h
  rw [hf.render hp hh us hwf, containsEncodedSlashL_render _ hwf,
    containsEncodedSlashL_render _ (List.forall_mem_map.mpr fun u hu => encUnit_wf (hwf u hu)), List.any_map]
  exact congrArg us.any (funext fun u => encUnit_isSlash hs fun c _ => hb c)

/-- what a repair writes consists of kept octets -/
theorem all_repair (p : List Char) : (f p).all keep = true := by
  induction p with
  | nil => rw [hf.nil]; rfl
  | cons c t ih =>
    rw [hf.cons, List.all_append, ih, Bool.and_true, encUnit]
    split
    · next h => simp [PU.render, h]
    · simp [PU.render, PU.ofOctet, hp, hh _ (PU.ofOctet_wf c).1, hh _ (PU.ofOctet_wf c).2]

end IsEscaper
end

/-- the unit-level form of `receivedPathL`: a literal octet that may not stand in a path becomes its escape -/
def receivedUnit : PU → PU
  | .lit c => if pathOctetAllowed c then .lit c
              else .esc (hexDigitUpper (c.toNat / 16 % 16)) (hexDigitUpper (c.toNat % 16))
  | .esc a b => .esc a b

theorem receivedUnit_lit (c : Char) : receivedUnit (.lit c) = if pathOctetAllowed c then .lit c else PU.ofOctet c := rfl

theorem receivedUnit_eq : receivedUnit = encUnit pathOctetAllowed := by
  funext u; cases u <;> rfl

theorem receivedPathL_isEscaper : IsEscaper pathOctetAllowed receivedPathL :=
  ⟨rfl, fun c t => by rw [receivedPathL, encUnit]; split <;> rfl⟩

theorem receivedPathL_render (us : List PU) (hwf : ∀ u ∈ us, u.wf) :
    receivedPathL (renderU us) = renderU (us.map receivedUnit) :=
  receivedUnit_eq ▸ receivedPathL_isEscaper.render percent_allowed isHex_allowed us hwf

/-- octets of a request line -/
def PU.byte : PU → Prop
  | .lit c => c.toNat < 256
  | .esc _ _ => True

theorem receivedUnit_dec (u : PU) (hb : u.byte) : (receivedUnit u).dec = u.dec :=
  receivedUnit_eq ▸ encUnit_dec fun _ e _ => by subst e; exact hb

theorem receivedUnit_isSlash (u : PU) (hb : u.byte) : (receivedUnit u).isSlash = u.isSlash :=
  receivedUnit_eq ▸ encUnit_isSlash slash_allowed fun _ e _ => by subst e; exact hb

theorem receivedU_slash (us : List PU) (hb : ∀ u ∈ us, u.byte) :
    (us.map receivedUnit).any PU.isSlash = us.any PU.isSlash := by
  induction us with
  | nil => rfl
  | cons u us ih =>
    have h := List.forall_mem_cons.mp hb
    rw [List.map_cons, List.any_cons, List.any_cons, receivedUnit_isSlash u h.1, ih h.2]

theorem receivedU_dec (us : List PU) (hb : ∀ u ∈ us, u.byte) :
    (us.map receivedUnit).map PU.dec = us.map PU.dec := by
  rw [List.map_map]
  exact List.map_congr_left fun u hu => receivedUnit_dec u (hb u hu)

end Heimdall
