import HeimdallModel.Spec.Pipeline
import HeimdallModel.Lemmas.Basic
/-!
# Lemmas for C01

One lemma per loop of the model says what it returns in terms of the specification (`createSubject_spec`,
`runHandlers_spec`, `runErrorHandlers_cases`, `execute_spec`); `answerOf` is the answer of an entry point as a function of
what rule execution did, and `answer_dichotomy` — the accept answer of a completed pipeline, or a refusal (`Refused`) — is
what the theorems of `Props/C01.lean` rest on.
-/
namespace Heimdall.Pipeline

theorem fellBackB_iff (a : Authenticator) : a.fellBackB = true ↔ a.fellBack := by
  unfold Authenticator.fellBackB Authenticator.fellBack
  cases a.out <;> simp

theorem authenticated_cons (a : Authenticator) (as : List Authenticator) (s : String) :
    Authenticated (a :: as) s ↔ a.out = .ok s ∨ (a.fellBack ∧ Authenticated as s) := by
  constructor
  · rintro ⟨_ | ⟨b, pre⟩, a', post, h, hok, hpre⟩ <;> cases h
    · exact .inl hok
    · exact .inr ⟨hpre a (List.mem_cons_self ..), pre, a', post, rfl, hok,
        fun x hx => hpre x (List.mem_cons_of_mem _ hx)⟩
  · rintro (h | ⟨hfb, pre, a', post, rfl, hok, hpre⟩)
    · exact ⟨[], a, as, rfl, h, nofun⟩
    · exact ⟨a :: pre, a', post, rfl, hok, fun x hx => (List.mem_cons.mp hx).elim (· ▸ hfb) (hpre x)⟩

theorem authenticatedB_ok {a : Authenticator} {s : String} (h : a.out = .ok s) (as : List Authenticator) :
    authenticatedB (a :: as) = some s := by
  unfold authenticatedB; simp only [h]

theorem authenticatedB_panic {a : Authenticator} {v : List Kind} (h : a.out = .panic v)
    (as : List Authenticator) : authenticatedB (a :: as) = none := by
  unfold authenticatedB; simp [h, Authenticator.fellBackB]

theorem authenticatedB_err {a : Authenticator} {ks : List Kind} (h : a.out = .err ks)
    (as : List Authenticator) :
    authenticatedB (a :: as) = if a.fellBackB then authenticatedB as else none := by
  rw [authenticatedB]; simp only [h]

theorem authenticatedB_iff (as : List Authenticator) (s : String) :
    authenticatedB as = some s ↔ Authenticated as s := by
  induction as with
  | nil => simp [authenticatedB, Authenticated]
  | cons a as ih =>
    rw [authenticated_cons, ← ih, ← fellBackB_iff]
    cases hout : a.out with
    | ok s' => simp [authenticatedB_ok hout, Authenticator.fellBackB, hout]
    | panic v => simp [authenticatedB_panic hout, Authenticator.fellBackB, hout]
    | err ks => rw [authenticatedB_err hout]; cases a.fellBackB <;> simp

theorem passedB_iff (h : Handler) (s : String) : h.passedB s = true ↔ h.passed s := by
  unfold Handler.passedB Handler.passed
  cases h.continueOnError <;> cases h.out <;> simp

theorem completedB_iff (r : Rule) : completedB r = true ↔ Completed r := by
  unfold completedB Completed
  cases ha : authenticatedB r.authenticators with
  | none => simp [← authenticatedB_iff, ha]
  | some s => simp [← authenticatedB_iff, ha, passedB_iff]

theorem not_completed {r : Rule} (h : completedB r = false) : ¬ Completed r :=
  fun hc => Bool.eq_false_iff.mp h ((completedB_iff r).mpr hc)

@[simp] theorem visit_pipelineErr (c : Ctx) (id : String) : (c.visit id).pipelineErr = c.pipelineErr := rfl

theorem createSubject_ok {a : Authenticator} {s : String} (h : a.out = .ok s) (rest : List Authenticator)
    (c : Ctx) : createSubject a rest c = .done (.ok s) (c.visit a.id) := by
  unfold createSubject; simp only [h]

theorem createSubject_panic {a : Authenticator} {v : List Kind} (h : a.out = .panic v)
    (rest : List Authenticator) (c : Ctx) : createSubject a rest c = .panic v (c.visit a.id) := by
  unfold createSubject; simp only [h]

theorem createSubject_err_nil {a : Authenticator} {ks : List Kind} (h : a.out = .err ks) (c : Ctx) :
    createSubject a [] c = .done (.error (.ofKinds ks)) (c.visit a.id) := by
  unfold createSubject; simp only [h]; split <;> rfl

theorem createSubject_err_cons {a : Authenticator} {ks : List Kind} (h : a.out = .err ks) (b : Authenticator)
    (bs : List Authenticator) (c : Ctx) :
    createSubject a (b :: bs) c =
      if a.fellBackB then createSubject b bs (c.visit a.id) else .done (.error (.ofKinds ks)) (c.visit a.id) := by
  rw [createSubject]; simp only [h, Authenticator.fellBackB]

/-- `compositeSubjectCreator.Execute` returns the subject `authenticatedB` names and leaves the pipeline error alone;
where there is none it panics or returns the error of an authenticator -/
theorem createSubject_spec (a : Authenticator) (rest : List Authenticator) (c : Ctx) :
    (∃ s c', authenticatedB (a :: rest) = some s ∧ createSubject a rest c = .done (.ok s) c' ∧
      c'.pipelineErr = c.pipelineErr) ∨
    (authenticatedB (a :: rest) = none ∧
      ((∃ v c', createSubject a rest c = .panic v c') ∨
        ∃ ks c', createSubject a rest c = .done (.error (.ofKinds ks)) c')) := by
  cases hout : a.out with
  | ok s => exact .inl ⟨s, _, authenticatedB_ok hout _, createSubject_ok hout _ _, rfl⟩
  | panic v => exact .inr ⟨authenticatedB_panic hout _, .inl ⟨v, _, createSubject_panic hout _ _⟩⟩
  | err ks =>
    rw [authenticatedB_err hout]
    match rest with
    | [] => exact .inr ⟨by split <;> rfl, .inr ⟨ks, _, createSubject_err_nil hout c⟩⟩
    | b :: bs =>
      rw [createSubject_err_cons hout]
      split
      · exact createSubject_spec b bs (c.visit a.id)
      · exact .inr ⟨rfl, .inr ⟨ks, _, rfl⟩⟩

/-- one conditional handler in front of a stage: it lets the stage go on — it returned nil, or an error that is
ignored — or it ends the stage with a panic or an error that is not ignored -/
theorem runHandlers_cons (x : Handler) (xs : List Handler) (s : String) (c : Ctx) :
    (x.passedB s = true ∧
      ∃ c', runHandlers (x :: xs) s c = runHandlers xs s c' ∧ c'.pipelineErr = c.pipelineErr) ∨
    (x.passedB s = false ∧
      ((∃ v c', runHandlers (x :: xs) s c = .panic v c') ∨
        ∃ e c', runHandlers (x :: xs) s c = .done (some e) c' ∧ e.redirect = none)) := by
  rw [runHandlers]
  unfold Handler.passedB Handler.execute
  cases x.cond.onSubject s with
  | no => exact .inl ⟨by simp, c, rfl, rfl⟩
  | fails =>
    cases x.continueOnError with
    | true => exact .inl ⟨rfl, c, rfl, rfl⟩
    | false => exact .inr ⟨rfl, .inr ⟨_, c, rfl, rfl⟩⟩
  | yes =>
    cases x.out with
    | ok => exact .inl ⟨by simp, _, rfl, rfl⟩
    | panic v => exact .inr ⟨by simp, .inl ⟨v, _, rfl⟩⟩
    | err ks =>
      cases x.continueOnError with
      | true => exact .inl ⟨rfl, _, rfl, rfl⟩
      | false => exact .inr ⟨rfl, .inr ⟨_, _, rfl, rfl⟩⟩

/-- `compositeSubjectHandler.Execute`: a stage all of whose steps pass returns nil and leaves the pipeline error alone;
any other stage panics or returns an error of a step (never a redirect) -/
theorem runHandlers_spec (hs : List Handler) (s : String) (c : Ctx) :
    (hs.all (·.passedB s) = true ∧
      ∃ c', runHandlers hs s c = .done none c' ∧ c'.pipelineErr = c.pipelineErr) ∨
    (hs.all (·.passedB s) = false ∧
      ((∃ v c', runHandlers hs s c = .panic v c') ∨
        ∃ e c', runHandlers hs s c = .done (some e) c' ∧ e.redirect = none)) := by
  induction hs generalizing c with
  | nil => exact .inl ⟨rfl, c, rfl, rfl⟩
  | cons x xs ih =>
    rw [List.all_cons]
    rcases runHandlers_cons x xs s c with ⟨hx, c₁, h1, p1⟩ | ⟨hx, hfail⟩
    · rw [hx, h1, Bool.true_and]
      rcases ih c₁ with ⟨hxs, c', h2, p2⟩ | hfail
      · exact .inl ⟨hxs, c', h2, p2.trans p1⟩
      · exact .inr hfail
    · rw [hx]; exact .inr ⟨rfl, hfail⟩

/-- an error that can be recorded as pipeline error by the error pipeline `ehs`: it carries no redirect, or the
redirect of one of the redirect error handlers of `ehs` -/
def Recordable (ehs : List ErrorHandler) (e : Err) : Prop :=
  e.redirect = none ∨
  ∃ h ∈ ehs, ∃ ok code, h.kind = .redirect ok code ∧ e.redirect = some (redirectCode code)

/-- the error pipeline either returns an error (the cause, or one without redirect) and leaves the context alone, or
reports success *and* has recorded a pipeline error (the cause, or a recordable one) -/
theorem runErrorHandlers_cases (ehs : List ErrorHandler) (cause : Err) (c : Ctx) :
    (∃ x, runErrorHandlers ehs cause c = (some x, c) ∧ (x = cause ∨ x.redirect = none)) ∨
    (∃ pe, runErrorHandlers ehs cause c = (none, c.setPipelineError pe) ∧ (pe = cause ∨ Recordable ehs pe)) := by
  induction ehs with
  | nil => exact .inl ⟨cause, rfl, .inl rfl⟩
  | cons h hs ih =>
    rw [runErrorHandlers]
    cases h.cond.onError cause with
    | fails => exact .inl ⟨.foreign, rfl, .inr rfl⟩
    | no =>
      rcases ih with hx | ⟨pe, hpe, hr⟩
      · exact .inl hx
      · exact .inr ⟨pe, hpe, hr.imp_right (.imp_right fun ⟨x, hx, w⟩ => ⟨x, List.mem_cons_of_mem _ hx, w⟩)⟩
    | yes =>
      cases hk : h.kind with
      | default => exact .inr ⟨cause, rfl, .inl rfl⟩
      | wwwAuthenticate => exact .inr ⟨.ofKind .authentication, rfl, .inr (.inl rfl)⟩
      | redirect to code =>
        cases to with
        | fails => exact .inl ⟨.ofKind .internal, rfl, .inr rfl⟩
        | value s =>
          exact .inr ⟨⟨[], some (redirectCode code)⟩, rfl,
            .inr (.inr ⟨h, List.mem_cons_self .., .value s, code, hk, rfl⟩)⟩

/-- the value a redirect handler rendered does not reach the result of the error pipeline -/
theorem runErrorHandlers_rendered (pre post : List ErrorHandler) (cond : Cond) (code : Nat) (s s' : String)
    (cause : Err) (c : Ctx) :
    runErrorHandlers (pre ++ ⟨cond, .redirect (.value s) code⟩ :: post) cause c =
    runErrorHandlers (pre ++ ⟨cond, .redirect (.value s') code⟩ :: post) cause c := by
  induction pre with
  | nil =>
    simp only [List.nil_append, runErrorHandlers]
    cases cond.onError cause <;> rfl
  | cons x xs ih =>
    simp only [List.cons_append, runErrorHandlers, ih]

/-- rule execution sees the error handlers only through `runErrorHandlers` -/
theorem execute_congr_errorHandlers (r : Rule) (ehs ehs' : List ErrorHandler)
    (h : ∀ e c, runErrorHandlers ehs e c = runErrorHandlers ehs' e c) (c : Ctx) :
    ({ r with errorHandlers := ehs } : Rule).execute c = ({ r with errorHandlers := ehs' } : Rule).execute c := by
  simp only [Rule.execute, Rule.onError, h]

/-- the answer an entry point gives for an error: HTTP error translator or gRPC error translator -/
def errorAnswer (ep : EntryPoint) (cfg : Cfg) (e : Err) : Response :=
  match ep with
  | .envoy => cfg.deny e
  | _ => cfg.httpError e

/-- the answer an entry point gives once the rule returned without error and no pipeline error is recorded: the
accepted status, the upstream's answer (the proxy needs an upstream to forward to), the OK check response -/
def acceptAnswer (ep : EntryPoint) (cfg : Cfg) (up : Nat) (backend : Bool) : Response :=
  match ep with
  | .decision => .http cfg.acceptedCode false
  | .proxy => if backend then .http up true else errorAnswer .proxy cfg (.ofKind .configuration)
  | .envoy => .checkOk

/-- the answer of an entry point as a function of what `ruleExecutor.Execute` did: a panic is recovered (HTTP) or
fails the RPC (Envoy); a returned error is translated; so is a recorded pipeline error; otherwise the request is
accepted -/
def answerOf (ep : EntryPoint) (cfg : Cfg) (up : Nat) : Run ExecOut → Response
  | .panic v _ =>
    match ep with
    | .envoy => .rpcError 13
    | _ => errorAnswer ep cfg (recovered v)
  | .done out c =>
    match out.err, c.pipelineErr with
    | some e, _ => errorAnswer ep cfg e
    | none, some e => errorAnswer ep cfg e
    | none, none => acceptAnswer ep cfg up out.backend

theorem answer_eq (ep : EntryPoint) (cfg : Cfg) (view : ReqView) (up : Nat) (found : Option Rule) :
    answer ep cfg view up found = answerOf ep cfg up (execute found {}) := by
  cases ep <;> simp only [answer, serve, serveHTTP, serveEnvoy] <;>
    cases execute found {} with
    | panic v c => rfl
    | done out c =>
      obtain ⟨b, _ | e⟩ := out
      · obtain ⟨_ | pe, tr⟩ := c <;> cases b <;> rfl
      · rfl

/-- what an entry point answers when no rule applies or the pipeline did not complete: the translation of an error
that carries no redirect or the redirect of one of the rule's own redirect handlers, or — Envoy, on a panic — the
failed RPC -/
def Refused (ep : EntryPoint) (cfg : Cfg) (found : Option Rule) (resp : Response) : Prop :=
  (∃ e, Recordable (found.elim [] (·.errorHandlers)) e ∧ resp = errorAnswer ep cfg e) ∨
  (ep = .envoy ∧ resp = .rpcError 13)

theorem Refused.panic {ep : EntryPoint} {cfg : Cfg} {found : Option Rule} {up : Nat} {v : List Kind} {c : Ctx} :
    Refused ep cfg found (answerOf ep cfg up (.panic v c)) := by
  cases ep
  · exact .inl ⟨recovered v, .inl rfl, rfl⟩
  · exact .inl ⟨recovered v, .inl rfl, rfl⟩
  · exact .inr ⟨rfl, rfl⟩

/-- the error pipeline turns the error of a stage into a refusal: it returns an error, or it has recorded one -/
theorem Refused.onError {ep : EntryPoint} {cfg : Cfg} {up : Nat} {r : Rule} {e : Err} {c : Ctx}
    (he : e.redirect = none) : Refused ep cfg (some r) (answerOf ep cfg up (r.onError e c)) := by
  unfold Rule.onError
  rcases runErrorHandlers_cases r.errorHandlers e c with ⟨x, hx, hr⟩ | ⟨pe, hpe, hr⟩
  · rw [hx]; exact .inl ⟨x, .inl (hr.elim (· ▸ he) id), rfl⟩
  · rw [hpe]; exact .inl ⟨pe, hr.elim (fun h => .inl (h ▸ he)) id, rfl⟩

/-- `ruleImpl.Execute` in terms of the specification: a completed pipeline returns the backend, no error, and leaves
the pipeline error alone; any other ends in a panic or in the error pipeline, hence in a refusal -/
theorem execute_spec (ep : EntryPoint) (cfg : Cfg) (up : Nat) (r : Rule) (c : Ctx) :
    (completedB r = true ∧
      ∃ c', r.execute c = .done ⟨r.hasBackend, none⟩ c' ∧ c'.pipelineErr = c.pipelineErr) ∨
    (completedB r = false ∧ Refused ep cfg (some r) (answerOf ep cfg up (r.execute c))) := by
  unfold completedB Rule.execute Rule.authenticators
  rcases createSubject_spec r.auth r.auths c with ⟨s, c₁, ha, h1, p1⟩ | ⟨ha, ⟨v, c₁, h1⟩ | ⟨ks, c₁, h1⟩⟩
  · rw [ha, h1]; dsimp only
    rcases runHandlers_spec r.handlers s c₁ with ⟨hh, c₂, h2, p2⟩ | ⟨hh, ⟨v, c₂, h2⟩ | ⟨e, c₂, h2, he⟩⟩
    · rw [hh, h2]; dsimp only
      rcases runHandlers_spec r.finalizers s c₂ with ⟨hf, c₃, h3, p3⟩ | ⟨hf, ⟨v, c₃, h3⟩ | ⟨e, c₃, h3, he⟩⟩
      · rw [hf, h3]; exact .inl ⟨rfl, c₃, rfl, p3.trans (p2.trans p1)⟩
      · rw [hf, h3]; exact .inr ⟨rfl, .panic⟩
      · rw [hf, h3]; exact .inr ⟨rfl, .onError he⟩
    · rw [hh, h2]; exact .inr ⟨rfl, .panic⟩
    · rw [hh, h2]; exact .inr ⟨rfl, .onError he⟩
  · rw [ha, h1]; exact .inr ⟨rfl, .panic⟩
  · rw [ha, h1]; exact .inr ⟨rfl, .onError rfl⟩

/-- **every answer is the accept answer of a completed pipeline, or a refusal** -/
theorem answer_dichotomy (ep : EntryPoint) (cfg : Cfg) (view : ReqView) (up : Nat) (found : Option Rule) :
    (∃ r, found = some r ∧ Completed r ∧ answer ep cfg view up found = acceptAnswer ep cfg up r.hasBackend) ∨
    ((∀ r, found = some r → ¬ Completed r) ∧ Refused ep cfg found (answer ep cfg view up found)) := by
  rw [answer_eq]
  cases found with
  | none => exact .inr ⟨nofun, .inl ⟨_, .inl rfl, rfl⟩⟩
  | some r =>
    rcases execute_spec ep cfg up r {} with ⟨hc, c', h1, p1⟩ | ⟨hc, href⟩
    · refine .inl ⟨r, rfl, (completedB_iff r).mp hc, ?_⟩
      simp only [execute, h1, answerOf, show c'.pipelineErr = none from p1]
    · exact .inr ⟨fun _ h => Option.some.inj h ▸ not_completed hc, href⟩

theorem errorAnswer_not_forwarded (ep : EntryPoint) (cfg : Cfg) (e : Err) :
    (errorAnswer ep cfg e).forwarded = false := by
  cases ep
  · rfl
  · rfl
  · show (cfg.deny e).forwarded = false
    unfold Cfg.deny
    cases classify e <;> rfl

/-- the gRPC translator never produces an OK check response, whatever the configuration: no class has code 0 -/
theorem deny_not_success (cfg : Cfg) (e : Err) : (cfg.deny e).success = false := by
  unfold Cfg.deny
  cases classify e <;> rfl

theorem override_nonSuccess {code dflt : Nat} (hc : nonSuccessOverride code = true)
    (hd : isSuccessStatus dflt = false) : isSuccessStatus (override code dflt) = false := by
  unfold override
  split
  · exact hd
  · rename_i hne
    unfold nonSuccessOverride at hc
    simp only [Bool.or_eq_true, beq_iff_eq, Bool.not_eq_true'] at hc
    exact hc.resolve_left hne

/-- an `if` whose first branch is not the result took the second -/
theorem eq_of_ite_eq {α : Type} {p : Prop} [Decidable p] {a b c : α} (h : (if p then a else b) = c) (hne : a ≠ c) :
    b = c :=
  (ite_eq_cases h).elim (fun x => absurd x.2 hne) (·.2)

/-- only an error that carries a redirect is classified as one: none of the five `if`s on the sentinels that `classify`
goes through first answers with a redirect -/
theorem classify_redirect {e : Err} {code : Nat} (h : classify e = .redirect code) : e.redirect = some code := by
  unfold classify at h
  have h := eq_of_ite_eq (eq_of_ite_eq (eq_of_ite_eq (eq_of_ite_eq (eq_of_ite_eq h nofun) nofun) nofun) nofun) nofun
  cases hr : e.redirect with
  | none => rw [hr] at h; cases h
  | some c => rw [hr] at h; rw [Class.redirect.inj h]

/-- the HTTP translator writes a non-success status for every error, provided no error class is overridden with a
2xx status and the error carries no 2xx redirect -/
theorem httpStatus_nonSuccess (cfg : Cfg) (hcfg : cfg.errorCodesNonSuccess = true) (e : Err)
    (he : ∀ code, e.redirect = some code → isSuccessStatus code = false) :
    isSuccessStatus (cfg.httpStatus (classify e)) = false := by
  simp only [Cfg.errorCodesNonSuccess, Bool.and_eq_true] at hcfg
  obtain ⟨⟨⟨⟨⟨h1, h2⟩, h3⟩, h4⟩, h5⟩, h6⟩ := hcfg
  cases hcl : classify e with
  | authn => exact override_nonSuccess h2 (by decide)
  | authz => exact override_nonSuccess h3 (by decide)
  | comm => exact override_nonSuccess h4 (by decide)
  | precondition => exact override_nonSuccess h1 (by decide)
  | noRule => exact override_nonSuccess h6 (by decide)
  | redirect code => exact he code (classify_redirect hcl)
  | internal => exact override_nonSuccess h5 (by decide)

theorem recordable_redirect (ehs : List ErrorHandler) (hr : ehs.all (·.redirectNonSuccess) = true) (e : Err)
    (hrec : Recordable ehs e) : ∀ code, e.redirect = some code → isSuccessStatus code = false := by
  intro code hcode
  rcases hrec with hnone | ⟨h, hmem, ok, c, hk, he⟩
  · rw [hnone] at hcode; cases hcode
  · have := List.all_eq_true.mp hr h hmem
    unfold ErrorHandler.redirectNonSuccess at this
    simp only [hk, Bool.not_eq_true'] at this
    rw [he] at hcode
    cases hcode
    exact this

theorem errorAnswer_not_success (ep : EntryPoint) (cfg : Cfg) (hcfg : cfg.errorCodesNonSuccess = true) (e : Err)
    (he : ∀ code, e.redirect = some code → isSuccessStatus code = false) :
    (errorAnswer ep cfg e).success = false := by
  cases ep
  · exact httpStatus_nonSuccess cfg hcfg e he
  · exact httpStatus_nonSuccess cfg hcfg e he
  · exact deny_not_success cfg e

theorem Refused.not_forwarded {ep : EntryPoint} {cfg : Cfg} {found : Option Rule} {resp : Response}
    (h : Refused ep cfg found resp) : resp.forwarded = false := by
  rcases h with ⟨e, _, rfl⟩ | ⟨_, rfl⟩
  · exact errorAnswer_not_forwarded ep cfg e
  · rfl

theorem Refused.envoy_not_success {cfg : Cfg} {found : Option Rule} {resp : Response}
    (h : Refused .envoy cfg found resp) : resp.success = false := by
  rcases h with ⟨e, _, rfl⟩ | ⟨_, rfl⟩
  · exact deny_not_success cfg e
  · rfl

theorem Refused.not_positive {ep : EntryPoint} {cfg : Cfg} {found : Option Rule} {resp : Response}
    (h : Refused ep cfg found resp) (hcfg : cfg.errorCodesNonSuccess = true)
    (hred : redirectsNonSuccess found = true) : resp.positive = false := by
  rcases h with ⟨e, hrec, rfl⟩ | ⟨_, rfl⟩
  · rw [Response.positive, errorAnswer_not_forwarded,
      errorAnswer_not_success ep cfg hcfg e (recordable_redirect _ (by cases found <;> exact hred) e hrec)]
    rfl
  · rfl

/-- only the proxy forwards, and only to an upstream -/
theorem acceptAnswer_forwarded {ep : EntryPoint} {cfg : Cfg} {up : Nat} {backend : Bool}
    (h : (acceptAnswer ep cfg up backend).forwarded = true) : ep = .proxy ∧ backend = true := by
  cases ep <;> cases backend <;> first | exact ⟨rfl, rfl⟩ | cases h

/-- with a 2xx accepted status the accept answer is positive, except that of a proxy without upstream -/
theorem acceptAnswer_positive (ep : EntryPoint) (cfg : Cfg) (up : Nat) (backend : Bool)
    (hcfg : cfg.errorCodesNonSuccess = true) (hacc : isSuccessStatus cfg.acceptedCode = true) :
    (acceptAnswer ep cfg up backend).positive = (ep != .proxy || backend) := by
  cases ep with
  | decision => simp only [acceptAnswer, Response.positive, Response.success, hacc]; rfl
  | envoy => rfl
  | proxy =>
    cases backend with
    | true => simp only [acceptAnswer, Response.positive, Response.forwarded, if_true, Bool.or_true]
    | false =>
      simp only [acceptAnswer, Response.positive, errorAnswer_not_forwarded, Bool.false_eq_true, if_false]
      rw [errorAnswer_not_success .proxy cfg hcfg _ (fun _ h => by cases h)]; rfl

/-- the status written for a class depends on the six configured codes only -/
theorem httpStatus_congr {cfg cfg' : Cfg} (h1 : cfg'.argument = cfg.argument) (h2 : cfg'.authn = cfg.authn)
    (h3 : cfg'.authz = cfg.authz) (h4 : cfg'.comm = cfg.comm) (h5 : cfg'.internal = cfg.internal)
    (h6 : cfg'.noRule = cfg.noRule) : cfg'.httpStatus = cfg.httpStatus := by
  funext cl; cases cl <;> simp only [Cfg.httpStatus, h1, h2, h3, h4, h5, h6]

theorem errorAnswer_congr {cfg cfg' : Cfg} (hs : cfg'.httpStatus = cfg.httpStatus) (ep : EntryPoint) (e : Err) :
    errorAnswer ep cfg' e = errorAnswer ep cfg e := by
  cases ep <;> simp only [errorAnswer, Cfg.httpError, Cfg.deny, hs]

/-- the answer depends on the configuration through the status codes only, and not on the request view:
verbosity and the `Accept` header do not reach it -/
theorem answer_congr (cfg cfg' : Cfg) (hs : cfg'.httpStatus = cfg.httpStatus) (ha : cfg'.accepted = cfg.accepted)
    (ep : EntryPoint) (view view' : ReqView) (up : Nat) (found : Option Rule) :
    answer ep cfg' view' up found = answer ep cfg view up found := by
  rw [answer_eq, answer_eq]
  unfold answerOf acceptAnswer
  simp only [errorAnswer_congr hs, Cfg.acceptedCode, ha]

theorem writeError_congr {cfg cfg' : Cfg} {view view' : ReqView} (hs : cfg'.httpStatus = cfg.httpStatus)
    (hv : cfg'.verbose = cfg.verbose) (hn : view'.negotiable = view.negotiable) :
    cfg'.writeError view' = cfg.writeError view := by
  funext e; simp only [Cfg.writeError, Cfg.httpError, hs, hv, hn]

theorem denyReply_congr {cfg cfg' : Cfg} (hs : cfg'.httpStatus = cfg.httpStatus) (hv : cfg'.verbose = cfg.verbose) :
    cfg'.denyReply = cfg.denyReply := by
  funext e; simp only [Cfg.denyReply, Cfg.deny, hs, hv]

/-- the whole reply (answer, error body) and the executed mechanisms depend on configuration and request through the
status codes, `respond.verbose` and the negotiability of the `Accept` header only: not on the log level, the CORS
block, the `Origin` header, the method -/
theorem serve_congr (cfg cfg' : Cfg) {view view' : ReqView} (hs : cfg'.httpStatus = cfg.httpStatus)
    (ha : cfg'.accepted = cfg.accepted) (hv : cfg'.verbose = cfg.verbose) (hn : view'.negotiable = view.negotiable)
    (ep : EntryPoint) (up : Nat) (found : Option Rule) :
    serve ep cfg' view' up found = serve ep cfg view up found := by
  cases ep <;>
    simp only [serve, serveHTTP, serveEnvoy, finalizeHTTP, finalizeEnvoy, writeError_congr hs hv hn,
      denyReply_congr hs hv, Cfg.acceptedCode, ha]

/-! ## concrete witnesses used by the non-vacuity examples of `Props/C01.lean` (mirrored in `corpus/C01/`) -/
namespace Witness

/-- fallback over two failing authenticators to a third, a skipped authorizer, an ignored contextualizer error,
an authorizer that fails for this subject, and an error pipeline whose second handler applies -/
def failing : Rule :=
  { auth := ⟨"anon", .err [.argument], false⟩
    auths := [⟨"jwt", .err [.authentication], true⟩, ⟨"basic", .ok "alice", false⟩]
    handlers := [⟨"opa", .lit false, .err [.authorization], false⟩,
                 ⟨"hydrate", .always, .err [.communication], true⟩,
                 ⟨"acl", .subjectIs "alice", .err [.authorization], false⟩]
    finalizers := [⟨"jwt-out", .always, .ok, false⟩]
    errorHandlers := [⟨.errorIs .authentication, .wwwAuthenticate⟩, ⟨.errorIs .authorization, .redirect (.value "https://login.example.com/") 303⟩]
    hasBackend := true }

/-- the same rule without the failing authorizer -/
def completing : Rule := { failing with handlers := failing.handlers.take 2 }

/-- overrides that keep every error class outside 2xx -/
def cfg : Cfg := { authn := 418, internal := 503, accepted := 202 }

/-- an operator who asks for `200` on authorization errors -/
def cfgAuthzOk : Cfg := { authz := 200 }

/-- a redirect error handler configured with a 2xx code (rejected by the schema, accepted by the decoder) -/
def redirect200 : Rule := { failing with errorHandlers := [⟨.always, .redirect (.value "https://login.example.com/") 200⟩] }

/-- a panic in a step marked continue-on-error -/
def panicking : Rule := { completing with finalizers := [⟨"hdr", .always, .panic [], true⟩] }

def dfltDoc : RuleDoc :=
  { auth := [⟨"d-anon", .ok "anon", false⟩], handlers := [⟨"d-deny", .always, .err [.authorization], false⟩],
    finalizers := [], errorHandlers := [⟨.always, .default⟩], hasBackend := false }

/-- a rule that only names a finalizer: authenticators, authorizers and error handlers come from the default -/
def inheritingDoc : RuleDoc :=
  { auth := [], handlers := [], finalizers := [⟨"hdr", .always, .ok, false⟩], errorHandlers := [],
    hasBackend := true }

end Witness

end Heimdall.Pipeline
