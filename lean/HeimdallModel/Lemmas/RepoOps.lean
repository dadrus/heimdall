import HeimdallModel.Model.Repo
/-!
The shape the three changes of the repository share: a creation appends to the known rules what `addRules` accepted,
a deletion keeps the rules of the other sources, and an update is a deletion followed by a creation.  What `findRule`
answers, read off the lookup in the tree.
-/
namespace Heimdall

theorem Repo.apply_add (s : Repo) (src : String) (rules : List RuleCfg) :
    s.apply (.add src rules) = s.addRuleSet src rules := rfl

theorem Repo.apply_upd (s : Repo) (src : String) (rules : List RuleCfg) :
    s.apply (.upd src rules) = s.updateRuleSet src rules := rfl

theorem Repo.apply_del (s : Repo) (src : String) : s.apply (.del src) = s.deleteRuleSet src := rfl

theorem addRuleSet_eq_some {s s' : Repo} {src : String} {rules : List RuleCfg} :
    s.addRuleSet src rules = some s' ↔
      ∃ t, addRules s.index (rules.map (Rule.mk src)) = some t ∧ s' = ⟨s.known ++ rules.map (Rule.mk src), t⟩ := by
  simp only [Repo.addRuleSet]
  cases addRules s.index (rules.map (Rule.mk src)) <;> simp [eq_comm]

theorem deleteRuleSet_eq_some {s s' : Repo} {src : String} :
    s.deleteRuleSet src = some s' ↔
      ∃ t, removeRules s.index [] (s.known.filter (·.src == src)) = some t ∧
        s' = ⟨s.known.filter (·.src != src), t⟩ := by
  simp only [Repo.deleteRuleSet]
  cases removeRules s.index [] (s.known.filter (·.src == src)) <;> simp [eq_comm]

theorem updateRuleSet_eq (s : Repo) (src : String) (rules : List RuleCfg) :
    s.updateRuleSet src rules = (s.deleteRuleSet src).bind (·.addRuleSet src rules) := by
  simp only [Repo.updateRuleSet, Repo.deleteRuleSet, Repo.addRuleSet]
  cases removeRules s.index [] (s.known.filter (·.src == src)) with
  | none => rfl
  | some t₁ => simp only [Option.bind_some]; cases addRules t₁ (rules.map (Rule.mk src)) <;> rfl

theorem updateRuleSet_eq_some {s s' : Repo} {src : String} {rules : List RuleCfg} :
    s.updateRuleSet src rules = some s' ↔
      ∃ s₁, s.deleteRuleSet src = some s₁ ∧ s₁.addRuleSet src rules = some s' := by
  rw [updateRuleSet_eq, Option.bind_eq_some_iff]

theorem addRuleSet_isSome (s : Repo) (src : String) (rules : List RuleCfg) :
    (s.addRuleSet src rules).isSome = (addRules s.index (rules.map (Rule.mk src))).isSome := by
  simp only [Repo.addRuleSet]
  cases addRules s.index (rules.map (Rule.mk src)) <;> rfl

theorem addRules_append (t : Table RVal) (a b : List Rule) :
    addRules t (a ++ b) = (addRules t a).bind (addRules · b) := by
  induction a generalizing t with
  | nil => rfl
  | cons r rest ih =>
    simp only [List.cons_append, addRules]
    cases addRoutes t r r.cfg.routes with
    | none => rfl
    | some t' => exact ih t'

/-- the rules a rule set consists of all carry its source -/
theorem filter_map_mk (p : String → Bool) (x : String) (rs : List RuleCfg) :
    (rs.map (Rule.mk x)).filter (fun r => p r.src) = if p x then rs.map (Rule.mk x) else [] := by
  cases hp : p x with
  | false =>
    refine List.filter_eq_nil_iff.mpr fun r hr => ?_
    obtain ⟨c, _, rfl⟩ := List.mem_map.mp hr
    exact hp ▸ Bool.false_ne_true
  | true =>
    refine List.filter_eq_self.mpr fun r hr => ?_
    obtain ⟨c, _, rfl⟩ := List.mem_map.mp hr
    exact hp

theorem known_addRuleSet {s s' : Repo} {x : String} {rules : List RuleCfg} (h : s.addRuleSet x rules = some s')
    (src : String) :
    s'.known.filter (·.src == src) =
      s.known.filter (·.src == src) ++ if x = src then rules.map (Rule.mk x) else [] := by
  obtain ⟨t, _, rfl⟩ := addRuleSet_eq_some.mp h
  rw [List.filter_append, filter_map_mk (· == src)]
  by_cases hx : x = src
  · rw [if_pos hx, if_pos (beq_iff_eq.mpr hx)]
  · rw [if_neg hx, if_neg (mt beq_iff_eq.mp hx)]

theorem known_deleteRuleSet {s s' : Repo} {x : String} (h : s.deleteRuleSet x = some s') (src : String) :
    s'.known.filter (·.src == src) = if x = src then [] else s.known.filter (·.src == src) := by
  obtain ⟨t, _, rfl⟩ := deleteRuleSet_eq_some.mp h
  rw [List.filter_filter]
  by_cases hx : x = src
  · rw [if_pos hx, hx]
    exact List.filter_eq_nil_iff.mpr fun a _ => Bool.and_not_self (a.src == src) ▸ Bool.false_ne_true
  · rw [if_neg hx]
    refine List.filter_congr fun a _ => ?_
    cases ha : a.src == src with
    | false => rfl
    | true => rw [Bool.true_and, eq_of_beq ha]; exact bne_iff_ne.mpr (Ne.symm hx)

theorem step_induction {P : Repo → Prop} {s : Repo} {op : RepoOp} (h : P s)
    (happ : ∀ s', s.apply op = some s' → P s') : P (s.step op) := by
  unfold Repo.step
  cases ha : s.apply op with
  | none => exact h
  | some s' => exact happ s' ha

theorem run_induction {P : Repo → Prop} (ops : List RepoOp) (h0 : P Repo.empty)
    (hstep : ∀ s, ∀ op ∈ ops, P s → P (s.step op)) : P (Repo.run ops) :=
  List.foldlRecOn ops Repo.step h0 fun s hs op ho => hstep s op ho hs

theorem run_concat (ops : List RepoOp) (op : RepoOp) : Repo.run (ops ++ [op]) = (Repo.run ops).step op := by
  unfold Repo.run
  rw [List.foldl_append]
  rfl

/-- the repository answers with a rule exactly when the lookup in the tree does -/
theorem findRule_eq_rule {s : Repo} {hasDefault : Bool} {q : ReqView} {v : RVal} {ps : List (String × String)} :
    s.findRule hasDefault q = .rule v ps ↔ lookup (repoMatcher q) s.index (lookupPath q) = some (v, ps) := by
  unfold Repo.findRule
  cases lookup (repoMatcher q) s.index (lookupPath q) with
  | none => cases hasDefault <;> simp
  | some vp => simp [Prod.ext_iff]

/-- without an answer from the tree the default rule answers, if there is one -/
theorem findRule_of_none {s : Repo} {hasDefault : Bool} {q : ReqView}
    (h : lookup (repoMatcher q) s.index (lookupPath q) = none) :
    s.findRule hasDefault q = if hasDefault then .default else .none := by
  unfold Repo.findRule
  rw [h]

end Heimdall
