import HeimdallModel.Lemmas.RepoDel
import HeimdallModel.Lemmas.RepoOps
/-!
The repository invariant: the index holds exactly the routes of the known rules (every entry of the index is the entry
of a route of a known rule, and conversely).  It is kept by every applied operation; it implies that a fresh load of
the known rules succeeds and yields the same nodes, and that further rules are accepted iff they are accepted after such
a fresh load.  Under the invariant the removal of a rule set never fails, provided two route texts of one rule id that
denote the same node are textually equal (`NoAlias`).
-/
namespace Heimdall

/-- the index holds exactly the routes of the known rules, consistently -/
def RepoInv (s : Repo) : Prop :=
  ∃ items : List Item, allItems s.known = items.map some ∧ Holds s.index items ∧ NodupPats s.index ∧
    Compatible items

theorem inv_empty : RepoInv Repo.empty := ⟨[], rfl, indexes_empty⟩

theorem RepoInv.indexes {s : Repo} (h : RepoInv s) :
    ∃ items, allItems s.known = items.map some ∧ Indexes s.index items := h

theorem RepoInv.nodup {s : Repo} (h : RepoInv s) : NodupPats s.index := h.indexes.elim fun _ hi => hi.2.nodup

/-- under the invariant every entry of the index is the entry of a route of a known rule, and its node carries the
parsed expression of that route and its wildcard names -/
theorem inv_entry_origin {s : Repo} (h : RepoInv s) {n : Node RVal} (hn : n ∈ s.index) {v : RVal}
    (hv : v ∈ n.values) :
    ∃ r ∈ s.known, ∃ rt ∈ r.cfg.routes, parsePat rt.1 = .ok (n.pat, n.keys) ∧
      v = ⟨r.cfg.id, r.src, r.cfg.esh, rt.2, r.cfg.ver⟩ := by
  obtain ⟨items, hk, hi⟩ := h.indexes
  have he := (hi.holds n.pat).symm.trans (getNode_of_mem hi.nodup hn)
  obtain ⟨j, hj, hjp, rfl⟩ := (expected_values he).2 v hv
  obtain ⟨r, hr, rt, hrt, hmk⟩ := item_origin hk hj
  obtain ⟨hp, hv, _⟩ := mkItem_eq_some.mp hmk
  exact ⟨r, hr, rt, hrt, by rw [hp, hjp, expected_keys hi.compat he hj hjp], hv⟩

/-- under the invariant every route of a known rule has its entry in the node of its expression -/
theorem inv_route_entry {s : Repo} (h : RepoInv s) {r : Rule} (hr : r ∈ s.known) {rt : String × RouteM}
    (hrt : rt ∈ r.cfg.routes) :
    ∃ n, getNode s.index (parseDel rt.1) = some n ∧
      (⟨r.cfg.id, r.src, r.cfg.esh, rt.2, r.cfg.ver⟩ : RVal) ∈ n.values := by
  obtain ⟨items, hk, hi⟩ := h.indexes
  have hmem : mkItem r rt ∈ allItems s.known := List.mem_flatMap.mpr ⟨r, hr, List.mem_map.mpr ⟨rt, hrt, rfl⟩⟩
  rw [hk] at hmem
  obtain ⟨j, hj, hje⟩ := List.mem_map.mp hmem
  obtain ⟨hp, hv, _⟩ := mkItem_eq_some.mp hje.symm
  obtain ⟨n, hn, hjv⟩ := expected_of_mem hj
  exact ⟨n, by rw [parseDel_of_parsePat hp, hi.holds]; exact hn, hv ▸ hjv⟩

theorem inv_addRuleSet {s s' : Repo} {src : String} {rules : List RuleCfg} (h : RepoInv s)
    (ha : s.addRuleSet src rules = some s') : RepoInv s' := by
  obtain ⟨items, hk, hi⟩ := h.indexes
  obtain ⟨t, ht, rfl⟩ := addRuleSet_eq_some.mp ha
  obtain ⟨is, he, hi'⟩ := indexes_addItems hi (addRules_eq _ _ ▸ ht)
  exact ⟨items ++ is, by rw [allItems_append, hk, he, List.map_append], hi'⟩

/-- after a deletion the invariant holds again, and no entry of the deleted rule set is left in the index -/
theorem inv_deleteRuleSet {s s' : Repo} {src : String} (h : RepoInv s) (ha : s.deleteRuleSet src = some s') :
    RepoInv s' ∧ ∀ n ∈ s'.index, ∀ v ∈ n.values, v.src ≠ src := by
  obtain ⟨items, hk, hi⟩ := h.indexes
  obtain ⟨t, ht, rfl⟩ := deleteRuleSet_eq_some.mp ha
  have hinv : RepoInv ⟨s.known.filter (·.src != src), t⟩ :=
    ⟨_, allItems_filter hk (· != src), indexes_removeRules src hk hi ht⟩
  refine ⟨hinv, fun n hn v hv => ?_⟩
  obtain ⟨r, hr, _, _, _, rfl⟩ := inv_entry_origin hinv hn hv
  exact bne_iff_ne.mp (List.mem_filter.mp hr).2

theorem inv_apply (s s' : Repo) (op : RepoOp) (h : RepoInv s) (ha : s.apply op = some s') : RepoInv s' := by
  cases op with
  | add src rules => exact inv_addRuleSet h ha
  | upd src rules =>
    obtain ⟨s₁, h₁, h₂⟩ := updateRuleSet_eq_some.mp ha
    exact inv_addRuleSet (inv_deleteRuleSet h h₁).1 h₂
  | del src => exact (inv_deleteRuleSet h ha).1

theorem inv_step (s : Repo) (op : RepoOp) (h : RepoInv s) : RepoInv (s.step op) :=
  step_induction h fun s' => inv_apply s s' op h

/-- **Invariant of every history.** -/
theorem inv_run (ops : List RepoOp) : RepoInv (Repo.run ops) :=
  run_induction ops inv_empty fun s op _ => inv_step s op

theorem fresh_indexes {known : List Rule} {items : List Item} (hk : allItems known = items.map some)
    (hc : Compatible items) : ∃ t, addRules [] known = some t ∧ Indexes t items := by
  rw [addRules_eq, hk]
  exact addItems_ok indexes_empty items hc

/-- **A fresh load succeeds and yields the same nodes.** Loading the currently known rules into an empty
repository succeeds, and the resulting index has, expression by expression, the same node as the index reached
through the history (same values in the same order, same wildcard names, same backtracking flag). -/
theorem fresh_of_inv (s : Repo) (h : RepoInv s) :
    ∃ t, addRules [] s.known = some t ∧ ∀ p, getNode t p = getNode s.index p := by
  obtain ⟨items, hk, hi⟩ := h.indexes
  obtain ⟨t, ht, hi'⟩ := fresh_indexes hk hi.compat
  exact ⟨t, ht, fun p => (hi'.holds p).trans (hi.holds p).symm⟩

/-- adding rules to a state that satisfies the invariant succeeds iff the fresh load of its known rules followed by
the new ones succeeds: both indexes hold the same routes, and acceptance depends on the registered routes only -/
theorem add_accept_iff_fresh_of_inv (s : Repo) (hinv : RepoInv s) (src : String) (rules : List RuleCfg) :
    (addRules s.index (rules.map (Rule.mk src))).isSome =
      (addRules [] (s.known ++ rules.map (Rule.mk src))).isSome := by
  obtain ⟨items, hk, hi⟩ := hinv.indexes
  obtain ⟨t, ht, hi'⟩ := fresh_indexes hk hi.compat
  rw [addRules_append, ht, Option.bind_some, Bool.eq_iff_iff, addRules_isSome_iff hi, addRules_isSome_iff hi']

/-- **Removal never fails** for a repository satisfying the invariant, under `NoAlias` -/
theorem removeRules_succeeds (src : String) (s : Repo) (h : RepoInv s)
    (hna : NoAlias (targets (s.known.filter (·.src == src)))) :
    ∃ t', removeRules s.index [] (s.known.filter (·.src == src)) = some t' := by
  have hsrcs : ∀ r ∈ s.known.filter (·.src == src), r.src = src := fun r hr => eq_of_beq (List.mem_filter.mp hr).2
  rw [removeRules_eq src s.index [] _ hsrcs]
  have hsrc : ∀ x ∈ targets (s.known.filter (·.src == src)),
      ∃ v n₀, getNode s.index (parseDel x.2) = some n₀ ∧ v ∈ n₀.values ∧ v.rid = x.1 ∧ v.src = src := by
    intro x hx
    obtain ⟨r, hr, hm⟩ := List.mem_flatMap.mp hx
    obtain ⟨rt, hrt, rfl⟩ := List.mem_map.mp hm
    obtain ⟨n, hn, hv⟩ := inv_route_entry h (List.mem_filter.mp hr).1 hrt
    exact ⟨_, n, hn, hv, rfl, hsrcs r hr⟩
  obtain ⟨items, _, hi⟩ := h.indexes
  obtain ⟨r, hr⟩ := removeFlat_succeeds (loopInv_init src hi) (fun _ hx => nomatch hx) (fun _ hx => hx) hna hsrc
  exact ⟨r.1, by rw [hr]; rfl⟩

end Heimdall
