import HeimdallModel.Spec.CacheReuse
import HeimdallModel.Spec.CacheWitness
import HeimdallModel.Lemmas.CacheKey
/-!
# Lemmas about caching mechanisms: `step` case by case, the store invariant behind transparency, survival of a live entry
-/
namespace Heimdall.CacheExec
open Heimdall.CacheKey

variable {Req Resp : Type}

theorem get_eq_some {st : Store Resp} {k : Bytes} {t : Nat} {v : Resp} :
    st.get k t = some v ↔ ∃ e, st k = some e ∧ t < e.exp ∧ e.val = v := by
  unfold Store.get
  cases st k with
  | none => simp
  | some e => by_cases h : t < e.exp <;> simp [h]

theorem direct_eq_ok {m : Mech Req Resp} {r : Req} {v : Resp} :
    direct m r = .ok v ↔ m.fresh r = some v ∧ m.accept r v = true := by
  unfold direct
  cases m.fresh r with
  | none => simp
  | some w =>
    refine ⟨fun h => ?_, fun ⟨hw, ha⟩ => by cases hw; exact if_pos ha⟩
    dsimp only at h
    split at h
    · cases h; exact ⟨rfl, ‹_›⟩
    · cases h

/-- `step`, case by case. A hit: the stored value, decoded and validated again if the mechanism does so, the store as
it was. A miss: one remote call, the uncached decision, stored if it is `ok` and caching is in force. -/
theorem step_cases (m : Mech Req Resp) (st : Store Resp) (t : Nat) (r : Req) :
    (∃ v, m.enabled r = true ∧ st.get (m.key r) t = some v ∧
      step m st t r = ⟨st, if m.recheck && !m.accept r (m.recode v) then .rejected else .ok (m.recode v), 0, true⟩) ∨
    ((m.enabled r = true → st.get (m.key r) t = none) ∧
      step m st t r = ⟨match direct m r with
        | .ok v => if m.enabled r && m.ttl r v > 0 then st.set (m.key r) v (t + m.ttl r v) else st
        | _ => st, direct m r, 1, false⟩) := by
  unfold step direct
  cases hg : (if m.enabled r = true then st.get (m.key r) t else none) with
  | some v =>
    rcases ite_eq_cases hg with ⟨hen, hget⟩ | ⟨_, h⟩
    · refine Or.inl ⟨v, hen, hget, ?_⟩
      dsimp only
      split <;> rfl
    · cases h
  | none =>
    refine Or.inr ⟨fun hen => by rwa [if_pos hen] at hg, ?_⟩
    cases m.fresh r with
    | none => rfl
    | some v => dsimp only; split <;> rfl

/-- a step leaves the store as it was, or adds under the key of the request a fresh, accepted value -/
theorem step_store_cases (m : Mech Req Resp) (st : Store Resp) (t : Nat) (r : Req) :
    (step m st t r).store = st ∨ ∃ v, st.get (m.key r) t = none ∧ m.fresh r = some v ∧ m.accept r v = true ∧
      (step m st t r).store = st.set (m.key r) v (t + m.ttl r v) := by
  rcases step_cases m st t r with ⟨v, _, _, hs⟩ | ⟨hmiss, hs⟩ <;> rw [hs]
  · exact Or.inl rfl
  · dsimp only
    split
    · rename_i v hd
      split
      · rename_i hc
        exact Or.inr ⟨v, hmiss (Bool.and_eq_true_iff.mp hc).1, (direct_eq_ok.mp hd).1, (direct_eq_ok.mp hd).2, rfl⟩
      · exact Or.inl rfl
    · exact Or.inl rfl

theorem step_empty (m : Mech Req Resp) (t : Nat) (r : Req) :
    (step m Store.empty t r).out = direct m r ∧ (step m Store.empty t r).calls = 1 ∧
      (step m Store.empty t r).hit = false := by
  rcases step_cases m Store.empty t r with ⟨_, _, hg, _⟩ | ⟨_, hs⟩
  · cases hg
  · rw [hs]; exact ⟨rfl, rfl, rfl⟩

/-- a request mapped to the key of a live entry is answered with that entry -/
theorem step_live (m : Mech Req Resp) (st : Store Resp) {k : Bytes} {e : Entry Resp} (hk : st k = some e)
    {t : Nat} (ht : t < e.exp) (r : Req) (hkey : m.key r = k) (hen : m.enabled r = true) :
    step m st t r =
      ⟨st, if m.recheck && !m.accept r (m.recode e.val) then .rejected else .ok (m.recode e.val), 0, true⟩ := by
  have hg : st.get (m.key r) t = some e.val := get_eq_some.mpr ⟨e, hkey ▸ hk, ht, rfl⟩
  rcases step_cases m st t r with ⟨v, _, hg', hs⟩ | ⟨hmiss, _⟩
  · rw [hs, Option.some.inj (hg'.symm.trans hg)]
  · cases (hmiss hen).symm.trans hg

/-- the decision on a hit is `ok` if the cache returns what was stored and the value passes the request's validation
where that is repeated -/
theorem hit_ok (m : Mech Req Resp) (r : Req) {v : Resp} (hl : Lossless m)
    (hpass : m.recheck = false ∨ m.accept r v = true) :
    (if m.recheck && !m.accept r (m.recode v) then Outcome.rejected else .ok (m.recode v)) = .ok v := by
  rw [hl v]
  rcases hpass with h | h <;> simp [h]

/-! ## the store invariant behind transparency -/

/-- every entry was produced by a fresh evaluation of a request with that key, and accepted under that request's rule -/
def StoreSound (m : Mech Req Resp) (rs : List Req) (st : Store Resp) : Prop :=
  ∀ k e, st k = some e → ∃ r₀ ∈ rs, m.key r₀ = k ∧ m.fresh r₀ = some e.val ∧ m.accept r₀ e.val = true

theorem storeSound_empty (m : Mech Req Resp) (rs : List Req) : StoreSound m rs Store.empty := nofun

theorem step_sound (m : Mech Req Resp) (hl : Lossless m) (rs : List Req) (hs : KeySoundOn m rs) (st : Store Resp)
    (hi : StoreSound m rs st) (t : Nat) (r : Req) (hr : r ∈ rs) :
    (step m st t r).out = direct m r ∧ StoreSound m rs (step m st t r).store := by
  refine ⟨?_, ?_⟩
  · rcases step_cases m st t r with ⟨v, _, hg, hs'⟩ | ⟨_, hs'⟩ <;> rw [hs']
    obtain ⟨e, hk, _, rfl⟩ := get_eq_some.mp hg
    obtain ⟨r₀, hr₀, hkey, hfresh, hacc⟩ := hi _ e hk
    obtain ⟨hf, hp⟩ := hs r hr r₀ hr₀ hkey.symm
    -- the entry is what a fresh evaluation of `r` yields; it passes `r`'s validation if that is not repeated
    have ha : m.recheck = false → m.accept r e.val = true := fun hre =>
      (hp.resolve_left (by simp [hre]) e.val).trans hacc
    simp only [direct, hf, hfresh, hl e.val]
    cases hac : m.accept r e.val
    · cases hre : m.recheck
      · exact absurd (ha hre) (by simp [hac])
      · rfl
    · simp
  · rcases step_store_cases m st t r with h | ⟨v, _, hf, ha, h⟩ <;> rw [h]
    · exact hi
    · intro k e hke
      unfold Store.set at hke
      split at hke
      · cases hke; exact ⟨r, hr, by simp [*], hf, ha⟩
      · exact hi k e hke

/-- with a sound key every request of every history observes its own uncached decision -/
theorem run_sound (m : Mech Req Resp) (hl : Lossless m) (rs : List Req) (hs : KeySoundOn m rs)
    (h : List (Nat × Req)) (st : Store Resp) (hi : StoreSound m rs st) (hm : ∀ tr ∈ h, tr.2 ∈ rs) :
    (run m st h).map (·.out) = h.map fun tr => direct m tr.2 := by
  induction h generalizing st with
  | nil => rfl
  | cons tr h ih =>
    obtain ⟨hr, hm⟩ := List.forall_mem_cons.mp hm
    obtain ⟨ho, hi'⟩ := step_sound m hl rs hs st hi tr.1 tr.2 hr
    simp only [run, List.map_cons, ho, ih _ hi' hm]

/-! ## a live entry answers every request mapped to its key -/

theorem step_keeps (m : Mech Req Resp) (st : Store Resp) {k : Bytes} {e : Entry Resp} (hk : st k = some e)
    (t : Nat) (ht : t < e.exp) (r : Req) : (step m st t r).store k = some e := by
  rcases step_store_cases m st t r with h | ⟨v, hmiss, _, _, h⟩ <;> rw [h]
  · exact hk
  · have hne : k ≠ m.key r := fun hkey => by
      cases hmiss.symm.trans (get_eq_some.mpr ⟨e, hkey ▸ hk, ht, rfl⟩)
    simp only [Store.set, if_neg hne, hk]

theorem run_keeps (m : Mech Req Resp) {k : Bytes} {e : Entry Resp} (h : List (Nat × Req)) (st : Store Resp)
    (hk : st k = some e) (ht : ∀ tr ∈ h, tr.1 < e.exp) :
    ∀ x ∈ (run m st h).zip h, m.key x.2.2 = k → m.enabled x.2.2 = true → x.1.calls = 0 ∧ x.1.hit = true := by
  induction h generalizing st with
  | nil => exact fun _ hx => nomatch hx
  | cons tr h ih =>
    obtain ⟨htr, ht⟩ := List.forall_mem_cons.mp ht
    intro x hx
    rcases List.mem_cons.mp hx with rfl | hx
    · intro hkey hen
      rw [step_live m st hk htr _ hkey hen]
      exact ⟨rfl, rfl⟩
    · exact ih _ (step_keeps m st hk _ htr _) ht x hx

theorem step_stores (m : Mech Req Resp) (st : Store Resp) (t : Nat) (r : Req) {v : Resp}
    (hmiss : (step m st t r).hit = false) (hok : (step m st t r).out = .ok v)
    (hen : m.enabled r = true) (httl : m.ttl r v > 0) :
    (step m st t r).store (m.key r) = some ⟨v, t + m.ttl r v⟩ := by
  rcases step_cases m st t r with ⟨_, _, _, hs⟩ | ⟨_, hs⟩ <;> rw [hs] at hmiss hok ⊢
  · cases hmiss
  · simp only at hok
    simp [hok, hen, httl, Store.set]

/-! ## mechanisms keyed by a field list -/

theorem keyed_lossless {Resp : Type} {H : Bytes → Bytes} {fs : List Field} {deps : List Dep}
    {remote : List View → Option Resp} {accepts : Nat → Resp → Bool} {recheck : Bool} :
    Lossless (keyed H fs deps remote accepts recheck) := fun _ => rfl

/-- the key of a delimited field list that covers what the remote evaluation reads is sound; the requests are given as
the image `xs.map f` of any list -/
theorem keyed_sound {α Resp : Type} (H : Bytes → Bytes) (fs : List Field) (deps : List Dep)
    (remote : List View → Option Resp) (accepts : Nat → Resp → Bool) (recheck : Bool) (xs : List α) (f : α → KReq)
    (hd : delimited fs = true) (hc : covers deps fs = true) (hw : ∀ x ∈ xs, wt fs (f x).env = true)
    (hH : NoCollisionOn H (xs.map fun x => encode fs (f x).env))
    (hp : recheck = true ∨ ∀ p p' v, accepts p v = accepts p' v) :
    KeySoundOn (keyed H fs deps remote accepts recheck) (xs.map f) := by
  intro r hr r' hr' hk
  obtain ⟨x, hx, rfl⟩ := List.mem_map.mp hr
  obtain ⟨x', hx', rfl⟩ := List.mem_map.mp hr'
  have he := hH _ (List.mem_map_of_mem hx) _ (List.mem_map_of_mem hx') hk
  exact ⟨congrArg remote (deps_of_encode_eq hd hc (hw x hx) (hw x' hx') he), hp.imp id fun hp v => hp _ _ v⟩

/-- the key of the witness `demo` (the token in unary) determines the token, hence the fresh result -/
theorem Witness.demo_fresh_of_key {b : Bool} {r r' : Nat × Nat} (hk : (Witness.demo b).key r = (Witness.demo b).key r') :
    (Witness.demo b).fresh r = (Witness.demo b).fresh r' := by
  have : r.1 = r'.1 := by simpa [Witness.demo] using congrArg List.length hk
  simp [Witness.demo, this]

end Heimdall.CacheExec
