import HeimdallModel.Lemmas.Factory
import HeimdallModel.Model.FactoryProbe
/-!
# Lemmas about the executed trace (C14): where the source of an error comes from

`Model/FactoryProbe.lean` says which mechanism an error of a probe request names as its source (`Trace.src`, what
`Error.Source` is for the conditions of `on_error`).  These lemmas locate that mechanism in the pipelines of the
effective rule; `Props/C14.lean` combines them with the stage-wise inheritance.
-/
namespace Heimdall.Factory

theorem reached_snd (fl : Flavours) (den : Refusing) (p : Probe) : ∀ ms : List Mech,
    (reached fl den p ms).2 = ms.find? (·.refuses fl den p) := by
  intro ms
  induction ms with
  | nil => rfl
  | cons x xs ih => unfold reached; rw [List.find?_cons]; split <;> simp [*]

/-- the mechanism that refuses a request is the first one of the stage that does: everything in front of it ran
through -/
theorem reached_some_iff (fl : Flavours) (den : Refusing) (p : Probe) (m : Mech) (ms : List Mech) :
    (reached fl den p ms).2 = some m ↔
      ∃ pre post, ms = pre ++ m :: post ∧ (∀ x ∈ pre, x.refuses fl den p = false) ∧ m.refuses fl den p = true := by
  simp only [reached_snd, List.find?_eq_some_iff_append, Bool.not_eq_true']
  exact ⟨fun ⟨hm, pre, post, h, hp⟩ => ⟨pre, post, h, hp, hm⟩, fun ⟨pre, post, h, hp, hm⟩ => ⟨hm, pre, post, h, hp⟩⟩

theorem reached_some_mem {fl : Flavours} {den : Refusing} {p : Probe} {m : Mech} {ms : List Mech}
    (h : (reached fl den p ms).2 = some m) : m ∈ ms ∧ m.refuses fl den p = true := by
  rw [reached_snd] at h
  exact ⟨List.mem_of_find?_eq_some h, List.find?_some h⟩

theorem authnBlame_mem (sh : Showing) (fl : Flavours) (p : Probe) : ∀ ms : List Mech,
    authnBlame sh fl p ms = "" ∨ ∃ m ∈ ms, m.id = authnBlame sh fl p ms := by
  intro ms
  induction ms with
  | nil => exact Or.inl rfl
  | cons x xs ih =>
    unfold authnBlame
    by_cases h1 : (fl .authn x.id == .constant) = true
    · simp [h1]
    · simp only [h1, Bool.false_eq_true, if_false]
      by_cases h2 : p.authnOk = true
      · simp [h2]
      · simp only [h2, Bool.false_eq_true, if_false]
        by_cases h3 : (!(sh x).fallback) = true
        · simp only [h3, if_true]
          exact Or.inr ⟨x, by simp, rfl⟩
        · simp only [h3, Bool.false_eq_true, if_false]
          by_cases h4 : xs.isEmpty = true
          · simp only [h4, if_true]
            exact Or.inr ⟨x, by simp, rfl⟩
          · simp only [h4, Bool.false_eq_true, if_false]
            rcases ih with h | ⟨m, hm, hid⟩
            · exact Or.inl h
            · exact Or.inr ⟨m, List.mem_cons_of_mem _ hm, hid⟩

/-- the error pipeline either keeps the source of the error or drops it; it never invents one -/
theorem errorStage_src (sh : Showing) (fl : Flavours) (p : Probe) (kind source : String) : ∀ eh : List Mech,
    (errorStage sh fl p kind source eh).src = "" ∨ (errorStage sh fl p kind source eh).src = source := by
  intro eh
  induction eh with
  | nil => exact Or.inr rfl
  | cons x xs ih =>
    unfold errorStage
    by_cases h1 : (!x.runs p) = true
    · simp only [h1, if_true]; exact ih
    · simp only [h1, Bool.false_eq_true, if_false]
      by_cases h2 : (fl .eh x.id == .passthrough) = true
      · simp [h2]
      · simp only [h2, Bool.false_eq_true, if_false]
        by_cases h3 : (fl .eh x.id == .challenge) = true
        · simp [h3]
        · simp [h3]

theorem errorStage_nil_src (sh : Showing) (fl : Flavours) (p : Probe) (kind source : String) :
    (errorStage sh fl p kind source []).src = source := rfl

/-- **Where the source of a trace comes from**: it is empty, or names an authenticator of the effective
authentication stage, or the mechanism of the effective authorization/contextualization stage that refused the
request. -/
theorem execute_src (sh : Showing) (fl : Flavours) (den : Refusing) (e : Effective) (p : Probe) :
    (execute sh fl den e p).src = "" ∨ (∃ m ∈ e.authn, m.id = (execute sh fl den e p).src) ∨
      (∃ m ∈ e.sh, m.refuses fl den p = true ∧ m.id = (execute sh fl den e p).src) := by
  unfold execute
  rcases ha : authnStage sh fl p e.authn with ⟨calls, sub⟩
  cases sub with
  | none =>
    simp only
    rcases errorStage_src sh fl p "communication" (authnBlame sh fl p e.authn) e.eh with h | h
    · exact Or.inl h
    · rw [h]
      rcases authnBlame_mem sh fl p e.authn with h' | ⟨m, hm, hid⟩
      · exact Or.inl h'
      · exact Or.inr (Or.inl ⟨m, hm, hid⟩)
  | some s =>
    simp only
    rcases hr : reached fl den p e.sh with ⟨ran, ref⟩
    cases ref with
    | none => exact Or.inl rfl
    | some m =>
      simp only
      have hm := reached_some_mem (by rw [hr] : (reached fl den p e.sh).2 = some m)
      rcases errorStage_src sh fl p "authorization" m.id e.eh with h | h
      · exact Or.inl h
      · exact Or.inr (Or.inr ⟨m, hm.1, hm.2, h.symm⟩)

end Heimdall.Factory
