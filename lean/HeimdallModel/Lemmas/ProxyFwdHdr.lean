import HeimdallModel.Model.ProxyFwd
/-!
Header maps as flat lists of lines: the values of a name (`values h k`) after each operation the model performs on a
header map, up to the two composite ones — `rewriteHeaders` (what `rewriteRequest` leaves in the outgoing header) and
`wireHeaders` (what `http.Transport` writes of it).  Everything downstream reasons about `values` only.
-/
namespace Heimdall.ProxyFwd
open Heimdall

theorem values_nil (k : Bytes) : values [] k = [] := rfl

theorem values_cons (x : Bytes × Bytes) (l : Hdrs) (k : Bytes) :
    values (x :: l) k = if x.1 = k then x.2 :: values l k else values l k := by
  unfold values
  by_cases h : x.1 = k <;> simp [h]

theorem values_append (a b : Hdrs) (k : Bytes) : values (a ++ b) k = values a k ++ values b k := by
  simp [values, List.filter_append]

theorem values_filter (p : Bytes → Bool) (h : Hdrs) (k : Bytes) :
    values (h.filter fun x => p x.1) k = if p k then values h k else [] := by
  induction h with
  | nil => cases p k <;> rfl
  | cons x l ih =>
    by_cases hx : x.1 = k
    · subst hx
      cases hp : p x.1 <;> simp [values_cons, hp, ih]
    · cases hp : p x.1 <;> simp [values_cons, hx, hp, ih]

theorem values_del (k' : Bytes) (h : Hdrs) (k : Bytes) :
    values (del k' h) k = if k = k' then [] else values h k := by
  unfold del
  rw [values_filter (fun n => n ≠ k')]
  by_cases hk : k = k' <;> simp [hk]

theorem values_set (k' v : Bytes) (h : Hdrs) (k : Bytes) :
    values (set k' v h) k = if k = k' then [v] else values h k := by
  unfold set
  rw [values_append, values_del, values_cons, values_nil]
  by_cases hk : k = k'
  · simp [hk]
  · simp [hk, Ne.symm hk]

theorem get_set (k' v : Bytes) (h : Hdrs) (k : Bytes) : get (set k' v h) k = if k = k' then v else get h k := by
  unfold get
  rw [values_set]
  by_cases hk : k = k' <;> simp [hk]

theorem get_del (k' : Bytes) (h : Hdrs) (k : Bytes) : get (del k' h) k = if k = k' then [] else get h k := by
  unfold get
  rw [values_del]
  by_cases hk : k = k' <;> simp [hk]

theorem values_foldr_del (ks : List Bytes) (h : Hdrs) (k : Bytes) :
    values (ks.foldr del h) k = if ks.contains k then [] else values h k := by
  induction ks with
  | nil => rfl
  | cons a ks ih =>
    rw [List.foldr_cons, values_del, ih, List.contains_cons]
    by_cases hk : k = a <;> simp [hk]

theorem values_mapValue (f : Bytes → Bytes) (h : Hdrs) (k : Bytes) :
    values (h.map fun x => (x.1, f x.2)) k = (values h k).map f := by
  unfold values
  rw [List.filter_map, List.map_map, List.map_map]
  rfl

theorem values_canonHeaders (h : Hdrs) (k : Bytes) :
    values (canonHeaders h) k = (h.filter fun x => canonicalKey x.1 = k).map (·.2) := by
  unfold values canonHeaders
  rw [List.filter_map, List.map_map]
  rfl

theorem values_trustStrip (t : Bool) (h : Hdrs) (k : Bytes) :
    values (trustStrip t h) k = if t || !untrustedHeaders.contains k then values h k else [] := by
  unfold trustStrip
  cases t with
  | true => rfl
  | false => exact values_filter (fun n => !untrustedHeaders.contains n) h k

/-! ### sorting by name keeps the values of every name in order -/

theorem ltBytes_irrefl (a : Bytes) : ltBytes a a = false := by
  induction a with
  | nil => rfl
  | cons c t ih => simp [ltBytes, ih]

/-- stable insertion: the new line goes in front of the lines of its own name -/
theorem values_insertByKey (x : Bytes × Bytes) (l : Hdrs) (k : Bytes) :
    values (insertByKey x l) k = values (x :: l) k := by
  induction l with
  | nil => rfl
  | cons y l ih =>
    unfold insertByKey
    split
    · next hlt =>
      have hne : ¬ (x.1 = k ∧ y.1 = k) := fun ⟨e1, e2⟩ => by
        rw [e1, e2, ltBytes_irrefl] at hlt
        cases hlt
      rw [values_cons, ih, values_cons, values_cons, values_cons]
      by_cases hx : x.1 = k <;> by_cases hy : y.1 = k <;> simp_all
    · rfl

theorem values_sortByKey (l : Hdrs) (k : Bytes) : values (sortByKey l) k = values l k := by
  induction l with
  | nil => rfl
  | cons x l ih => rw [sortByKey, values_insertByKey, values_cons, values_cons, ih]

/-! ### the pipeline loop: `for k := range uh { Out.Header.Set(k, uh.Get(k)) }` -/

def oneOr (o : Option Bytes) (d : List Bytes) : List Bytes :=
  match o with
  | some v => [v]
  | none => d

theorem values_firstOfEach (l : Hdrs) (k : Bytes) : values (firstOfEach l) k = (values l k).head?.toList := by
  induction l with
  | nil => rfl
  | cons x l ih =>
    rw [firstOfEach, values_cons, values_filter (fun n => n ≠ x.1), ih, values_cons]
    by_cases hx : x.1 = k
    · simp [hx]
    · simp [hx, Ne.symm hx]

theorem get_firstOfEach (l : Hdrs) (k : Bytes) : get (firstOfEach l) k = get l k := by
  unfold get
  rw [values_firstOfEach]
  cases (values l k).head? <;> rfl

theorem values_foldl_set (l : Hdrs) (h : Hdrs) (k : Bytes) :
    values (l.foldl (fun h kv => set kv.1 kv.2 h) h) k = oneOr (values l k).getLast? (values h k) := by
  induction l generalizing h with
  | nil => rfl
  | cons x l ih =>
    rw [List.foldl_cons, ih, values_set, values_cons]
    by_cases hx : x.1 = k
    · subst hx
      rw [if_pos rfl, if_pos rfl, List.getLast?_cons]
      cases (values l x.1).getLast? <;> rfl
    · rw [if_neg hx, if_neg (Ne.symm hx)]

/-- after the loop a name carries the first value the pipeline produced for it, other names are untouched -/
theorem values_pipe (ph : Hdrs) (h : Hdrs) (k : Bytes) :
    values ((firstOfEach ph).foldl (fun h kv => set kv.1 kv.2 h) h) k = oneOr (values ph k).head? (values h k) := by
  rw [values_foldl_set, values_firstOfEach]
  cases (values ph k).head? <;> rfl

/-! ### the cookie loop touches `Cookie` only -/

theorem values_cookies (cs : List (Bytes × Bytes)) (h : Hdrs) (k : Bytes) (hk : k ≠ hCookie ∨ cs = []) :
    values ((cookieMap cs).foldl addCookie h) k = values h k := by
  rcases hk with hk | rfl
  · induction cookieMap cs generalizing h with
    | nil => rfl
    | cons c cs ih =>
      rw [List.foldl_cons, ih, addCookie]
      split <;> rw [values_set, if_neg hk]
  · rfl

/-! ### `httputil.ReverseProxy` before `Rewrite`, and `rewriteRequest` -/

/-- what `Rewrite` finds in the outgoing header map under a name the proxy library does not manage itself -/
theorem values_proxyOutHeaders (inH : Hdrs) (k : Bytes) (h1 : k ≠ hTe) (h2 : k ≠ hConnection) (h3 : k ≠ hUpgrade) :
    values (proxyOutHeaders inH) k =
      if [hXFProto, hXFHost, hXFFor, hForwarded].contains k || isHop inH k then [] else values inH k := by
  have e : ∀ h : Hdrs, (h |> del hForwarded |> del hXFFor |> del hXFHost |> del hXFProto) =
      [hXFProto, hXFHost, hXFFor, hForwarded].foldr del h := fun _ => rfl
  simp only [proxyOutHeaders, e]
  rw [values_foldr_del]
  simp only [apply_ite (fun h : Hdrs => values h k), values_set, if_neg h1, if_neg h2, if_neg h3, ite_self,
    values_filter (fun n => !isHop inH n)]
  cases [hXFProto, hXFHost, hXFFor, hForwarded].contains k <;> cases isHop inH k <;> rfl

/-- … and after `rewriteRequest` has removed `X-Forwarded-Method`, `-Uri` and `-Path` as well: nothing under any of the
forwarding names, nothing hop-by-hop -/
theorem values_stripped (inH : Hdrs) (k : Bytes) (h1 : k ≠ hTe) (h2 : k ≠ hConnection) (h3 : k ≠ hUpgrade) :
    values (proxyOutHeaders inH |> del hXFMethod |> del hXFUri |> del hXFPath) k =
      if untrustedHeaders.contains k || isHop inH k then [] else values inH k := by
  have e : ∀ h : Hdrs, (h |> del hXFMethod |> del hXFUri |> del hXFPath) = [hXFPath, hXFUri, hXFMethod].foldr del h :=
    fun _ => rfl
  rw [e, values_foldr_del, values_proxyOutHeaders inH k h1 h2 h3]
  have : untrustedHeaders.contains k =
      ([hXFPath, hXFUri, hXFMethod].contains k || [hXFProto, hXFHost, hXFFor, hForwarded].contains k) := by
    rw [← List.contains_append]
    exact List.Perm.contains_eq (by decide +kernel)
  rw [this]
  cases [hXFPath, hXFUri, hXFMethod].contains k <;> rfl

/-- a trusted peer used the `X-Forwarded-*` family -/
def xFam (inH : Hdrs) : Bool :=
  commaJoin (values inH hXFFor) ≠ [] || get inH hXFProto ≠ [] || get inH hXFHost ≠ []

/-- the list-valued header `prior` continued by the element `x` -/
def appendElem (prior x : Bytes) : Bytes := if prior = [] then x else prior ++ b!", " ++ x

/-- The outgoing header map under a name other than `Host`, `Te`, `Connection`, `Upgrade` (and `Cookie` when there are
pipeline cookies): the forwarding headers heimdall continues carry what it computes; any other name carries the first
value the pipeline produced for it, else the client's lines unless the name is a forwarding header or hop-by-hop. -/
theorem values_rewriteHeaders (inH : Hdrs) (p : Pipe) (peer inHost fwdHost proto k : Bytes)
    (hH : k ≠ hHost) (hC : k ≠ hCookie ∨ p.cookies = [])
    (h1 : k ≠ hTe) (h2 : k ≠ hConnection) (h3 : k ≠ hUpgrade) :
    values (rewriteHeaders inH p peer inHost fwdHost proto).2 k =
      if xFam inH then
        if k = hXFHost then [if get inH hXFHost = [] then inHost else get inH hXFHost]
        else if k = hXFProto then [if get inH hXFProto = [] then proto else get inH hXFProto]
        else if k = hXFFor then [appendElem (commaJoin (values inH hXFFor)) peer]
        else oneOr (values (canonHeaders p.headers) k).head?
          (if untrustedHeaders.contains k || isHop inH k then [] else values inH k)
      else if k = hForwarded then [appendElem (commaJoin (values inH hForwarded)) (forwardedElem peer inHost proto)]
      else oneOr (values (canonHeaders p.headers) k).head?
        (if untrustedHeaders.contains k || isHop inH k then [] else values inH k) := by
  have hdel : ∀ h : Hdrs, values (del hHost h) k = values h k := fun h => by rw [values_del, if_neg hH]
  unfold rewriteHeaders xFam appendElem pipeFirst
  simp only [apply_ite (fun h : Hdrs => values h k), values_set, values_cookies _ _ k hC, hdel, ite_self, values_pipe,
    values_stripped inH k h1 h2 h3]

/-- the `Host` of the outgoing request: a non-empty `Host` header of the pipeline, else `forward_to.host` -/
theorem host_rewriteHeaders (inH : Hdrs) (p : Pipe) (peer inHost fwdHost proto : Bytes) :
    (rewriteHeaders inH p peer inHost fwdHost proto).1 =
      if get (canonHeaders p.headers) hHost ≠ [] then get (canonHeaders p.headers) hHost else fwdHost := by
  unfold rewriteHeaders pipeFirst
  simp only [get_firstOfEach]

/-! ### what `http.Transport` writes of the header map -/

/-- the `User-Agent` line: written from the first value, and only when that is not empty -/
def uaRead (vs : List Bytes) : List Bytes :=
  match vs with
  | v :: _ => if v = [] then [] else [wireValue v]
  | [] => []

theorem values_uaLine (h : Hdrs) (k : Bytes) :
    values (uaLine h) k = if k = hUserAgent then uaRead (values h hUserAgent) else [] := by
  unfold uaLine uaRead
  cases values h hUserAgent with
  | nil => by_cases hk : k = hUserAgent <;> simp [hk, values_nil]
  | cons v _ =>
    by_cases hv : v = []
    · simp [hv, values_nil]
    · by_cases hk : k = hUserAgent
      · simp [hv, hk, values_cons, values_nil]
      · simp [hv, hk, Ne.symm hk, values_cons, values_nil]

theorem values_gzipLine (m : Bytes) (h : Hdrs) (k : Bytes) (hk : k ≠ hAcceptEncoding ∨ get h hAcceptEncoding ≠ []) :
    values (gzipLine m h) k = [] := by
  unfold gzipLine
  rcases hk with hk | hk
  · split
    · rw [values_cons, if_neg (Ne.symm hk)]; rfl
    · rfl
  · simp [hk, values_nil]

theorem values_gzipLine_mem (m : Bytes) (h : Hdrs) (k w : Bytes) (hw : w ∈ values (gzipLine m h) k) :
    k = hAcceptEncoding ∧ w = b!"gzip" := by
  unfold gzipLine at hw
  split at hw
  · rw [values_cons, values_nil] at hw
    split at hw
    · next e => exact ⟨e.symm, List.mem_singleton.mp hw⟩
    · cases hw
  · cases hw

/-- The lines the upstream reads under any name: the `User-Agent` line, then every value of the header map that is
written from it — in order, without surrounding blanks — then the line the HTTP client may add itself. -/
theorem values_wireHeaders_all (m : Bytes) (h : Hdrs) (k : Bytes) :
    values (wireHeaders m h) k =
      (if k = hUserAgent then uaRead (values h hUserAgent) else []) ++
        (if !notWritten k then values h k else []).map wireValue ++ values (gzipLine m h) k := by
  unfold wireHeaders sortHdrs
  rw [values_sortByKey, values_append, values_append, values_uaLine, values_mapValue,
    values_filter (fun n => !notWritten n)]

theorem values_wireHeaders (m : Bytes) (h : Hdrs) (k : Bytes) (hk : notWritten k = false) :
    values (wireHeaders m h) k = (values h k).map wireValue ++ values (gzipLine m h) k := by
  have hua : k ≠ hUserAgent := fun e => by rw [e] at hk; revert hk; decide
  rw [values_wireHeaders_all, if_neg hua, hk]
  rfl

theorem values_wireHeaders_ua (m : Bytes) (h : Hdrs) :
    values (wireHeaders m h) hUserAgent = uaRead (values h hUserAgent) := by
  rw [values_wireHeaders_all, if_pos rfl, values_gzipLine m h _ (Or.inl (by decide))]
  simp [show notWritten hUserAgent = true by decide]

end Heimdall.ProxyFwd
