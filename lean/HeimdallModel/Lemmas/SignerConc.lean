import HeimdallModel.Model.SignerProtocol
/-!
# The invariant of the signer machine (C16)

`Inv good c`: a global part (read/write exclusion, the three guarded fields name one generation whenever no loader
holds the lock, the phases of the loader that holds it) and a part per thread (`ThreadOk`).  `good` is any predicate
on generations that the initial generation and every loader's parse result satisfy.
-/
namespace Heimdall.SignerConc
open Heimdall.SignerProtocol

variable {S : Type}

theorem upd_same {α : Type} (f : Nat → α) (i : Nat) (v : α) : upd f i v i = v := by simp [upd]

theorem upd_other {α : Type} (f : Nat → α) (i j : Nat) (v : α) (h : j ≠ i) : upd f i v j = f j := by simp [upd, h]

def LPc.locked : LPc → Bool
  | .wHeld | .wroteJwk | .wroteKey | .wrotePub => true
  | _ => false

/-- what is known about thread `i` in state `t`, given the read holders, the published generation, the commit log
and the write holder -/
def ThreadOk (good : S → Prop) (rset : List Nat) (pub : S) (log : List S) (w : Option Nat) (i : Nat) :
    Thread S → Prop
  | .signer .idle _ _ _ => w ≠ some i
  | .signer .rHeld _ _ _ => w ≠ some i ∧ i ∈ rset
  | .signer .gotJwk a _ n => w ≠ some i ∧ i ∈ rset ∧ a = some pub ∧ n = log.length
  | .signer .gotKey a b n => w ≠ some i ∧ i ∈ rset ∧ a = some pub ∧ b = some pub ∧ n = log.length
  | .signer .done a b n => w ≠ some i ∧ ∃ s, a = some s ∧ b = some s ∧ (log.take n).getLast? = some s ∧ n ≤ log.length
  | .reader .idle _ _ => w ≠ some i
  | .reader .rHeld _ _ => w ≠ some i ∧ i ∈ rset
  | .reader .got p n => w ≠ some i ∧ i ∈ rset ∧ p = some pub ∧ n = log.length
  | .reader .done p n => w ≠ some i ∧ ∃ s, p = some s ∧ (log.take n).getLast? = some s ∧ n ≤ log.length
  | .loader new pc => good new ∧ (pc.locked = true ↔ w = some i)

/-- the guarded fields during the critical section of the loader that holds the lock -/
def Phase (jwk key pub : S) (log : List S) (new : S) : LPc → Prop
  | .wHeld => jwk = pub ∧ key = pub ∧ log.getLast? = some pub
  | .wroteJwk => jwk = new ∧ key = pub ∧ log.getLast? = some pub
  | .wroteKey => jwk = new ∧ key = new ∧ log.getLast? = some pub
  | .wrotePub => jwk = new ∧ key = new ∧ pub = new ∧ log.getLast? = some new
  | _ => False

structure Global (good : S → Prop) (c : Config S) : Prop where
  goodLog : ∀ s ∈ c.log, good s
  excl    : ∀ i, c.writer = some i → c.rset = []
  quiet   : c.writer = none → c.jwk = c.pub ∧ c.key = c.pub ∧ c.log.getLast? = some c.pub
  held    : ∀ i, c.writer = some i → ∃ new pc, c.threads i = .loader new pc ∧ Phase c.jwk c.key c.pub c.log new pc

def Inv (good : S → Prop) (c : Config S) : Prop :=
  Global good c ∧ ∀ j, ThreadOk good c.rset c.pub c.log c.writer j (c.threads j)

variable {good : S → Prop} {c : Config S} {rset rset' : List Nat} {pub new : S} {log : List S} {w w' : Option Nat}
  {i j : Nat} {t : Thread S} {pc : LPc}

/-- What other threads do to the shared state does not disturb what is known about thread `j`: `ThreadOk` sees of the
write holder only whether it is `j` itself; while `j` holds the read lock nobody commits (published generation and log
stay) and `j` stays a read holder; otherwise the log may grow — a thread that is through keeps what it read, as a
prefix of the longer log. -/
theorem ThreadOk.stable {pub' : S} {log' : List S} (hw : w' = some j ↔ w = some j)
    (hr : j ∈ rset → j ∈ rset' ∧ pub' = pub ∧ log' = log) (hl : ∃ ext, log' = log ++ ext)
    (h : ThreadOk good rset pub log w j t) : ThreadOk good rset' pub' log' w' j t := by
  have hn : w ≠ some j → w' ≠ some j := mt hw.mp
  have grow : ∀ {n s}, (log.take n).getLast? = some s ∧ n ≤ log.length →
      (log'.take n).getLast? = some s ∧ n ≤ log'.length := fun ⟨hs, hle⟩ => by
    obtain ⟨ext, rfl⟩ := hl
    exact ⟨by rw [List.take_append_of_le_length hle]; exact hs,
      by rw [List.length_append]; exact Nat.le_add_right_of_le hle⟩
  cases t with
  | signer pc a b n =>
    cases pc
    · exact hn h
    · exact ⟨hn h.1, (hr h.2).1⟩
    · obtain ⟨hm, rfl, rfl⟩ := hr h.2.1
      exact ⟨hn h.1, hm, h.2.2⟩
    · obtain ⟨hm, rfl, rfl⟩ := hr h.2.1
      exact ⟨hn h.1, hm, h.2.2⟩
    · obtain ⟨hni, s, ha, hb, hs⟩ := h
      exact ⟨hn hni, s, ha, hb, grow hs⟩
  | reader pc p n =>
    cases pc
    · exact hn h
    · exact ⟨hn h.1, (hr h.2).1⟩
    · obtain ⟨hm, rfl, rfl⟩ := hr h.2.1
      exact ⟨hn h.1, hm, h.2.2⟩
    · obtain ⟨hni, s, hp, hs⟩ := h
      exact ⟨hn hni, s, hp, grow hs⟩
  | loader new pc => exact ⟨h.1, h.2.trans hw.symm⟩

/-- the case of read-lock traffic and of the write lock changing hands among the others -/
theorem ThreadOk.mono (hr : j ∈ rset → j ∈ rset') (hw : w' = some j ↔ w = some j)
    (h : ThreadOk good rset pub log w j t) : ThreadOk good rset' pub log w' j t :=
  h.stable hw (fun hm => ⟨hr hm, rfl, rfl⟩) ⟨[], (List.append_nil _).symm⟩

theorem threads_upd {thr : Nat → Thread S} {t' : Thread S}
    (hi : ThreadOk good rset pub log w i t') (ho : ∀ j, j ≠ i → ThreadOk good rset pub log w j (thr j)) (j : Nat) :
    ThreadOk good rset pub log w j (upd thr i t' j) := by
  by_cases e : j = i
  · subst e; rw [upd_same]; exact hi
  · rw [upd_other _ _ _ _ e]; exact ho j e

theorem Global.of_unlocked (hw : c.writer = none) (hlog : ∀ s ∈ c.log, good s)
    (hq : c.jwk = c.pub ∧ c.key = c.pub ∧ c.log.getLast? = some c.pub) : Global good c :=
  ⟨hlog, fun _ hi => (nomatch hw.symm.trans hi), fun _ => hq, fun _ hi => (nomatch hw.symm.trans hi)⟩

theorem Global.of_writer (hw : c.writer = some i)
    (hr : c.rset = []) (hlog : ∀ s ∈ c.log, good s) (ht : c.threads i = .loader new pc)
    (hp : Phase c.jwk c.key c.pub c.log new pc) : Global good c :=
  ⟨hlog, fun _ _ => hr, fun h => (nomatch hw.symm.trans h), fun k hk => by
    cases hw.symm.trans hk; exact ⟨new, pc, ht, hp⟩⟩

theorem Global.frame_unlocked (G : Global good c) (hw : c.writer = none)
    (rset : List Nat) (thr : Nat → Thread S) : Global good { c with rset := rset, threads := thr } :=
  .of_unlocked hw G.goodLog (G.quiet hw)

theorem Global.frame_thread (G : Global good c) (hni : c.writer ≠ some i)
    (t : Thread S) : Global good { c with threads := upd c.threads i t } :=
  ⟨G.goodLog, G.excl, G.quiet, fun k hk => by
    obtain ⟨new, pc, ht, hp⟩ := G.held k hk
    exact ⟨new, pc, (upd_other _ _ _ _ fun e : k = i => hni (e ▸ hk)).trans ht, hp⟩⟩

theorem Global.phase (G : Global good c)
    (hl : c.writer = some i) (h : c.threads i = .loader new pc) : Phase c.jwk c.key c.pub c.log new pc := by
  obtain ⟨_, _, ht, hp⟩ := G.held i hl
  cases h.symm.trans ht
  exact hp

theorem no_writer_of_reader (G : Global good c) (hm : i ∈ c.rset) :
    c.writer = none := by
  cases hw : c.writer with
  | none => rfl
  | some k => exact (List.not_mem_nil (G.excl k hw ▸ hm)).elim

theorem inv_init (good : S → Prop) (s0 : S) (c : Config S) (h0 : good s0)
    (hg : ∀ i new pc, c.threads i = .loader new pc → good new) (hi : Initial s0 c) : Inv good c := by
  obtain ⟨hj, hk, hp, hw, hr, hl, ht⟩ := hi
  refine ⟨.of_unlocked hw (by rw [hl]; intro s hs; cases List.mem_singleton.mp hs; exact h0)
    (by rw [hj, hk, hp, hl]; exact ⟨rfl, rfl, rfl⟩), fun j => ?_⟩
  rw [hw]
  rcases ht j with h | h | ⟨new, h⟩ <;> rw [h]
  · exact nofun
  · exact nofun
  · exact ⟨hg j new _ h, nofun, nofun⟩

theorem inv_step (good : S → Prop) (c c' : Config S) (hinv : Inv good c) (hs : Step c c') : Inv good c' := by
  obtain ⟨G, T⟩ := hinv
  cases hs with
  | sLock i h free | rLock i h free =>
    have Ti := h ▸ T i
    exact ⟨G.frame_unlocked free _ _,
      threads_upd ⟨Ti, List.mem_cons_self ..⟩ fun j _ => (T j).mono (List.mem_cons_of_mem _) .rfl⟩
  | sReadJwk i h =>
    have Ti := h ▸ T i
    have hw := no_writer_of_reader G Ti.2
    exact ⟨G.frame_unlocked hw _ _,
      threads_upd ⟨Ti.1, Ti.2, congrArg some (G.quiet hw).1, rfl⟩ fun j _ => T j⟩
  | sReadKey i a n h =>
    have Ti := h ▸ T i
    have hw := no_writer_of_reader G Ti.2.1
    exact ⟨G.frame_unlocked hw _ _,
      threads_upd ⟨Ti.1, Ti.2.1, Ti.2.2.1, congrArg some (G.quiet hw).2.1, Ti.2.2.2⟩ fun j _ => T j⟩
  | sUnlock i a b n h =>
    obtain ⟨hni, hm, ha, hb, hn⟩ := h ▸ T i
    have hw := no_writer_of_reader G hm
    refine ⟨G.frame_unlocked hw _ _, threads_upd ⟨hni, c.pub, ha, hb, ?_, Nat.le_of_eq hn⟩
      fun j hj => (T j).mono (List.mem_erase_of_ne hj).mpr .rfl⟩
    rw [hn, List.take_length]; exact (G.quiet hw).2.2
  | rRead i h =>
    have Ti := h ▸ T i
    have hw := no_writer_of_reader G Ti.2
    exact ⟨G.frame_unlocked hw _ _, threads_upd ⟨Ti.1, Ti.2, rfl, rfl⟩ fun j _ => T j⟩
  | rUnlock i p n h =>
    obtain ⟨hni, hm, hp, hn⟩ := h ▸ T i
    have hw := no_writer_of_reader G hm
    refine ⟨G.frame_unlocked hw _ _, threads_upd ⟨hni, c.pub, hp, ?_, Nat.le_of_eq hn⟩
      fun j hj => (T j).mono (List.mem_erase_of_ne hj).mpr .rfl⟩
    rw [hn, List.take_length]; exact (G.quiet hw).2.2
  | lFail i new h | lParse i new h =>
    have Ti := h ▸ T i
    have hni : c.writer ≠ some i := fun e => nomatch (Ti.2.mpr e)
    exact ⟨G.frame_thread hni _, threads_upd ⟨Ti.1, nofun, fun e => absurd e hni⟩ fun j _ => T j⟩
  | lLock i new h free nor =>
    have Ti := h ▸ T i
    exact ⟨.of_writer rfl nor G.goodLog (upd_same ..) (G.quiet free),
      threads_upd ⟨Ti.1, fun _ => rfl, fun _ => rfl⟩ fun j hj => (T j).mono id (by simp [free, Ne.symm hj])⟩
  | lWriteJwk i new h hl =>
    have Ti := h ▸ T i
    have hp := G.phase hl h
    exact ⟨.of_writer hl (G.excl i hl) G.goodLog (upd_same ..) ⟨rfl, hp.2⟩,
      threads_upd ⟨Ti.1, fun _ => hl, fun _ => rfl⟩ fun j _ => T j⟩
  | lWriteKey i new h hl =>
    have Ti := h ▸ T i
    have hp := G.phase hl h
    exact ⟨.of_writer hl (G.excl i hl) G.goodLog (upd_same ..) ⟨hp.1, rfl, hp.2.2⟩,
      threads_upd ⟨Ti.1, fun _ => hl, fun _ => rfl⟩ fun j _ => T j⟩
  | lWritePub i new h hl =>
    have Ti := h ▸ T i
    have hp := G.phase hl h
    have hr := G.excl i hl
    have hlog : ∀ s ∈ c.log ++ [new], good s := fun s hs =>
      (List.mem_append.mp hs).elim (G.goodLog s) fun hs => List.mem_singleton.mp hs ▸ Ti.1
    refine ⟨.of_writer hl hr hlog (upd_same ..) ⟨hp.1, hp.2.1, rfl, List.getLast?_concat ..⟩,
      threads_upd ⟨Ti.1, fun _ => hl, fun _ => rfl⟩ fun j _ => ?_⟩
    -- a commit happens while nobody holds the read lock
    exact (T j).stable .rfl (fun hm => (List.not_mem_nil (hr ▸ hm)).elim) ⟨[new], rfl⟩
  | lUnlock i new h hl =>
    have Ti := h ▸ T i
    have hp := G.phase hl h
    obtain ⟨hj, hk, rfl, hlast⟩ := hp
    exact ⟨.of_unlocked rfl G.goodLog ⟨hj, hk, hlast⟩,
      threads_upd ⟨Ti.1, nofun, nofun⟩ fun j hj => (T j).mono id (by simp [hl, Ne.symm hj])⟩

theorem inv_reachable (good : S → Prop) (s0 : S) (c0 c : Config S) (h0 : good s0) (hi : Initial s0 c0)
    (hg : ∀ i new pc, c0.threads i = .loader new pc → good new)
    (hr : Reachable c0 c) : Inv good c := by
  induction hr with
  | init => exact inv_init good s0 c0 h0 hg hi
  | step c c' _ hs ih => exact inv_step good c c' ih hs

theorem inv_reachable_true {s0 : S} {c0 c : Config S} (hi : Initial s0 c0) (hr : Reachable c0 c) :
    Inv (fun _ => True) c := inv_reachable _ s0 c0 c trivial hi (fun _ _ _ _ => trivial) hr

/-- what a thread is doing, without its data -/
inductive Where where
  | signer (pc : SPc) | reader (pc : RPc) | loader (pc : LPc)
deriving DecidableEq, Repr

def Thread.where_ : Thread S → Where
  | .signer pc _ _ _ => .signer pc
  | .reader pc _ _ => .reader pc
  | .loader _ pc => .loader pc

/-- the edge lists as one relation on thread positions -/
def edge (x y : Where) : Prop :=
  match x, y with
  | .signer p, .signer q => ∃ ev, (p, ev, q) ∈ signerEdges
  | .reader p, .reader q => ∃ ev, (p, ev, q) ∈ readerEdges
  | .loader p, .loader q => ∃ ev, (p, ev, q) ∈ loaderEdges
  | _, _ => False

theorem exists_label_iff {α β γ : Type} (l : List (α × β × γ)) (p : α) (q : γ) :
    (∃ ev, (p, ev, q) ∈ l) ↔ ∃ e ∈ l, e.1 = p ∧ e.2.2 = q :=
  ⟨fun ⟨_, h⟩ => ⟨_, h, rfl, rfl⟩, fun ⟨⟨_, ev, _⟩, h, rfl, rfl⟩ => ⟨ev, h⟩⟩

/-- `edge` is a lookup in the three tables -/
instance (x y : Where) : Decidable (edge x y) := by
  unfold edge
  split
  · exact decidable_of_iff _ (exists_label_iff ..).symm
  · exact decidable_of_iff _ (exists_label_iff ..).symm
  · exact decidable_of_iff _ (exists_label_iff ..).symm
  · exact instDecidableFalse

theorem upd_where {thr : Nat → Thread S} {told t' : Thread S} (i : Nat) (hj : thr j = told)
    (he : edge told.where_ t'.where_) :
    (upd thr j t' i).where_ = (thr i).where_ ∨ edge (thr i).where_ (upd thr j t' i).where_ := by
  by_cases e : i = j
  · subst e; rw [upd_same, hj]; exact Or.inr he
  · rw [upd_other _ _ _ _ e]; exact Or.inl rfl

end Heimdall.SignerConc
