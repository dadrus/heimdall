import HeimdallModel.Lemmas.Factory
import HeimdallModel.Model.FactoryOverride
/-!
# Lemmas about typed overrides (C14): the typed catalogue as an abstract catalogue, the memo, the `expressions` key
-/
namespace Heimdall.Factory

/-- a tag the typed catalogue accepts names a value (or a payload of the `legacy` table) `WithConfig` accepts -/
theorem catalogue_contains (T : Typed) (k : Kind) (id : String) {acc : List Nat}
    (h : T.catalogue k id = some acc) {n : Nat} (hn : acc.contains n = true) :
    (T.variant k id (some n)).isSome = true := by
  unfold Typed.catalogue at h
  cases hm : T.mech k id with
  | none => simp [hm] at h
  | some m =>
    simp only [hm, Option.map_some, Option.some.injEq] at h
    subst h
    have := List.contains_iff_mem.mp hn
    exact (List.mem_filter.mp this).2

/-- a tag whose value `WithConfig` refuses is not accepted -/
theorem catalogue_refuses (T : Typed) (k : Kind) (id : String) (acc : List Nat)
    (h : T.catalogue k id = some acc) (n : Nat) (hv : T.variant k id (some n) = none) :
    acc.contains n = false := by
  cases hc : acc.contains n with
  | false => rfl
  | true => have := catalogue_contains T k id h hc; simp [hv] at this

/-- whatever the typed catalogue accepts as an abstract catalogue, `Create…` builds -/
theorem variant_of_accepts (T : Typed) (k : Kind) (id : String) (cfg : Option Nat)
    (h : accepts T.catalogue k id cfg = true) : (T.variant k id cfg).isSome = true := by
  unfold accepts at h
  cases hc : T.catalogue k id with
  | none => simp [hc] at h
  | some acc =>
    cases cfg with
    | some n => exact catalogue_contains T k id hc (by simpa [hc] using h)
    | none =>
      unfold Typed.catalogue at hc
      unfold Typed.variant
      cases hm : T.mech k id with
      | none => simp [hm] at hc
      | some m => rfl

/-- a usable step of `execute` gets a mechanism built from its own override -/
theorem step_variant_of_ok (T : Typed) (s : Step) {k : Kind} {id : String} (ht : s.target = some (k, id))
    (hk : s.known T.catalogue = true) (ho : s.overrideOk T.catalogue = true) :
    (T.variant k id s.config).isSome = true := by
  have := known_overrideOk_eq_accepts T.catalogue s
  simp only [ht, hk, ho] at this
  exact variant_of_accepts T k id s.config this.symm

/-- … and so does a usable step of `on_error` -/
theorem ehStep_variant_of_ok (T : Typed) (s : Step) {id : String} (hi : s.errorHandler = some id)
    (ho : s.ehOk T.catalogue = true) : (T.variant .eh id s.config).isSome = true := by
  rw [ehOk_of_handler hi, Bool.and_eq_true] at ho
  exact variant_of_accepts T .eh id s.config ho.1

/-! ## The memo -/

/-- every entry of the memo is what `Create…` gives for some value with that key -/
def MemoOk (T : Typed) (key : Val → Text) (memo : List (MemoKey × Shown)) : Prop :=
  ∀ k id t s, memoFind memo (k, id, t) = some s → ∃ v, key v = t ∧ T.create k id (some v) = some s

theorem memoOk_nil (T : Typed) (key : Val → Text) : MemoOk T key [] := by
  intro k id t s h
  simp [memoFind] at h

theorem memoCreate_spec (T : Typed) (key : Val → Text) (hinj : ∀ a b, key a = key b → a = b)
    (memo : List (MemoKey × Shown)) (hm : MemoOk T key memo) (r : Request) :
    (T.memoCreate key memo r).2 = T.create r.1 r.2.1 r.2.2 ∧ MemoOk T key (T.memoCreate key memo r).1 := by
  obtain ⟨k, id, conf⟩ := r
  unfold Typed.memoCreate Typed.create
  cases hmech : T.mech k id with
  | none => exact ⟨rfl, hm⟩
  | some m =>
    cases conf with
    | none => exact ⟨rfl, hm⟩
    | some v =>
      simp only
      cases hf : memoFind memo (k, id, key v) with
      | some s =>
        obtain ⟨v', hkey, hc⟩ := hm k id (key v) s hf
        obtain rfl := hinj v' v hkey
        simp only [Typed.create, hmech] at hc
        exact ⟨hc.symm, hm⟩
      | none =>
        cases ho : overlay T.cel m.type m.proto v with
        | none => exact ⟨rfl, hm⟩
        | some s =>
          refine ⟨rfl, fun k' id' t' s' h' => ?_⟩
          unfold memoFind at h'
          split at h'
          · rename_i heq
            cases heq; cases h'
            exact ⟨v, rfl, by simp [Typed.create, hmech, ho]⟩
          · exact hm k' id' t' s' h'

/-- a memo keyed by an injective rendering of the override is invisible -/
theorem memoAll_eq_createAll (T : Typed) (key : Val → Text) (hinj : ∀ a b, key a = key b → a = b)
    (h : List Request) : ∀ memo, MemoOk T key memo → T.memoAll key memo h = T.createAll h := by
  induction h with
  | nil => intro _ _; rfl
  | cons r rs ih =>
    intro memo hm
    obtain ⟨h1, h2⟩ := memoCreate_spec T key hinj memo hm r
    simp only [Typed.memoAll, Typed.createAll, List.map_cons]
    rw [h1]
    congr 1
    exact ih _ h2

/-! ## The `expressions` key -/

/-- an `expressions` list with the one entry `{expression: src}` decodes iff the static type of `src` is `bool` -/
theorem decExpressions_single (Γ : CelEnv) (src : Text) (hne : src ≠ []) :
    decExpressions Γ (some (.list (.cons (.obj (.cons t!"expression" (.str src) .nil)) .nil))) =
      if Γ src = some .bool then some [src] else none := by
  cases src with
  | nil => exact absurd rfl hne
  | cons c cs =>
    -- the keys of the entry are the expected ones: what is left to decide is the type of the expression
    show (if (true && ((Γ (c :: cs)).map compiles).getD false) = true then some [c :: cs] else none) = _
    cases Γ (c :: cs) with
    | none => rfl
    | some t => cases t <;> rfl

end Heimdall.Factory
