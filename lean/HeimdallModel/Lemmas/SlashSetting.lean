import HeimdallModel.Spec.SlashSetting
import HeimdallModel.Lemmas.RepoInv
/-!
Lemmas for the encoded-slash setting of routes (property C08): every entry of the index is the entry of a route of a
known rule (the repository invariant), and the rules known after a history of rules as the factory creates them are
such rules, so every entry carries the setting of its rule; two matchers that agree on the values of a table answer
every lookup alike.
-/
namespace Heimdall

variable {V : Type}

/-- every value stored in the table satisfies `P` -/
def AllVals (P : V → Prop) (t : Table V) : Prop := ∀ n ∈ t, ∀ v ∈ n.values, P v

theorem scan_congr (m₁ m₂ : V → List String → List String → Bool) (cs : List (Cand V))
    (h : ∀ c ∈ cs, tryCand m₁ c = tryCand m₂ c) : scan m₁ cs = scan m₂ cs := by
  induction cs with
  | nil => rfl
  | cons c cs ih =>
    rw [scan, scan, h c (List.mem_cons_self ..), ih fun c hc => h c (List.mem_cons_of_mem _ hc)]

/-- matchers that agree on every value stored in the table answer every search alike: the search is a scan over
candidate nodes, which are nodes of the table -/
theorem find_matcher_congr (m₁ m₂ : V → List String → List String → Bool) (toks : List Tok) (t : Table V)
    (caps : List String) (h : AllVals (fun v => ∀ keys caps, m₁ v keys caps = m₂ v keys caps) t) :
    find m₁ t toks caps = find m₂ t toks caps := by
  rw [find_eq_scan, find_eq_scan]
  refine scan_congr m₁ m₂ _ fun c hc => ?_
  unfold tryCand tryNode
  rw [find?_congr_mem (q := fun v => m₂ v c.node.keys c.caps) _ fun v hv =>
    h c.node (getNode_mem (cands_sound t toks caps c hc).1) v hv _ _]

theorem lookup_matcher_congr (m₁ m₂ : V → List String → List String → Bool) (t : Table V) (path : String)
    (h : AllVals (fun v => ∀ keys caps, m₁ v keys caps = m₂ v keys caps) t) : lookup m₁ t path = lookup m₂ t path := by
  unfold lookup
  rw [find_matcher_congr m₁ m₂ _ t [] h]

theorem coherent_addRuleSet {P : RuleCfg → Prop} {s s' : Repo} {src : String} {rules : List RuleCfg}
    (h : ∀ r ∈ s.known, P r.cfg) (hc : ∀ c ∈ rules, P c) (ha : s.addRuleSet src rules = some s') :
    ∀ r ∈ s'.known, P r.cfg := by
  obtain ⟨t, _, rfl⟩ := addRuleSet_eq_some.mp ha
  intro r hr
  rcases List.mem_append.mp hr with hr | hr
  · exact h r hr
  · obtain ⟨c, hcm, rfl⟩ := List.mem_map.mp hr
    exact hc c hcm

theorem coherent_deleteRuleSet {P : Rule → Prop} {s s' : Repo} {src : String} (h : ∀ r ∈ s.known, P r)
    (ha : s.deleteRuleSet src = some s') : ∀ r ∈ s'.known, P r := by
  obtain ⟨t, _, rfl⟩ := deleteRuleSet_eq_some.mp ha
  exact fun r hr => h r (List.mem_filter.mp hr).1

theorem coherent_apply {P : RuleCfg → Prop} {s s' : Repo} {op : RepoOp} (h : ∀ r ∈ s.known, P r.cfg)
    (hc : ∀ c ∈ op.rules, P c) (ha : s.apply op = some s') : ∀ r ∈ s'.known, P r.cfg := by
  cases op with
  | add src rules => exact coherent_addRuleSet h hc ha
  | upd src rules =>
    obtain ⟨s₁, h₁, h₂⟩ := updateRuleSet_eq_some.mp ha
    exact coherent_addRuleSet (coherent_deleteRuleSet h h₁) hc h₂
  | del src => exact coherent_deleteRuleSet h ha

/-- the rules known after a history of rules as the factory creates them are such rules -/
theorem known_coherent (ops : List RepoOp) (hc : CoherentHistory ops) : ∀ r ∈ (Repo.run ops).known, r.cfg.coherent :=
  run_induction (P := fun s => ∀ r ∈ s.known, r.cfg.coherent) ops (fun _ h => nomatch h) fun _ op ho h =>
    step_induction h fun _ => coherent_apply h (hc op ho)

theorem allVals_run (ops : List RepoOp) (hc : CoherentHistory ops) :
    AllVals RVal.coherent (Repo.run ops).index := by
  intro n hn v hv
  obtain ⟨r, hr, rt, hrt, _, rfl⟩ := inv_entry_origin (inv_run ops) hn hv
  exact known_coherent ops hc r hr rt hrt

/-- one `path_params` condition as implemented = its specification under the same setting -/
theorem ppOk_eq_ppSpec (esh : SlashHandling) (q : ReqView) (keys caps : List String) (pp : String × TM) :
    ppOk esh q keys caps pp = ppSpec esh q keys caps pp := by
  unfold ppOk ppSpec exposedValue
  cases lookupKey keys caps pp.1 with
  | none => rfl
  | some raw => cases he : q.rawPath.isEmpty <;> simp

end Heimdall
