import HeimdallModel.Model.FactoryCel
/-!
# Lemmas about the CEL type checker (C14)
-/
namespace Heimdall.Factory

/-- selecting fields from a `dyn`-typed expression stays `dyn` -/
theorem check_sel_chain (fields : List String) : ∀ e : Cel, e.check = some .dyn →
    (fields.foldl Cel.sel e).check = some .dyn := by
  induction fields with
  | nil => intro e he; exact he
  | cons f fs ih => intro e he; exact ih (.sel e f) (by simp [Cel.check, he])

end Heimdall.Factory
