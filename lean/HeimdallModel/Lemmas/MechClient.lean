import HeimdallModel.Lemmas.MechTemplate
/-!
# Executions with an effect on the object's own state (C17): the k-th object does what it does alone

`Tracked` is added to the invariant of the histories; the `Client` part at the end is about the HTTP clients of
endpoints: a table of clients per process against a client per request, and the closed forms of `callsAlone`.
-/
namespace Heimdall.Mech

variable {Inp Out S : Type}

/-- the state of every object is what its own executions so far make of it; an object that has been executed exists -/
structure Tracked (step : Entries → Inp → S → Out × S) (s₀ : S) (σ : Store Entries Override) (st : Nat → S)
    (hist : Nat → List Inp) : Prop where
  st : ∀ x, st x = stateAlone step (effective σ x) s₀ (hist x)
  live : ∀ x, hist x ≠ [] → ∃ i : Inst, σ.insts[x]? = some i

/-- what the record of an execution of the k-th object has to be, given everything handed out (`hs`), the requests
(`reqs`) and the inputs of the earlier executions per object (`past`) -/
def expected (step : Entries → Inp → S → Out × S) (σ₀ : Store Entries Override) (s₀ : S) (hs : List Handed)
    (reqs : List CreateReq) (past : Nat → List Inp) (k : Nat) (inp : Inp) : Option (Nat × Out) :=
  ((hs[k]?).bind Handed.inst).bind fun x => (reqs[k]?).bind fun r => (aloneEff σ₀ r).map fun e =>
    (x, (step e inp (stateAlone step e s₀ (past x))).1)

theorem stateAlone_snoc (step : Entries → Inp → S → Out × S) (e : Entries) (s₀ : S) (l : List Inp) (i : Inp) :
    stateAlone step e s₀ (l ++ [i]) = (step e i (stateAlone step e s₀ l)).2 := by
  simp [stateAlone, List.foldl_append]

theorem Tracked.extends {step : Entries → Inp → S → Out × S} {s₀ : S} {σ σ' : Store Entries Override} {st : Nat → S}
    {hist : Nat → List Inp} (ht : Tracked step s₀ σ st hist) (he : Extends σ σ') : Tracked step s₀ σ' st hist := by
  refine ⟨fun x => ?_, fun x hx => (ht.live x hx).imp fun i hi => he.insts x i hi⟩
  by_cases hx : hist x = []
  · rw [ht.st x, hx]; rfl
  · obtain ⟨i, hi⟩ := ht.live x hx
    rw [effective_extends he hi]
    exact ht.st x

theorem Tracked.create {step : Entries → Inp → S → Out × S} {s₀ : S} {σ σ' : Store Entries Override} {st : Nat → S}
    {hist : Nat → List Inp} (ht : Tracked step s₀ σ st hist) (p : Option Nat) (ov : Option Override) (h : Nat)
    (hcl : Closed σ) (hc : create σ p ov = .variant σ' h) : Tracked step s₀ σ' st hist :=
  ht.extends (by have := create_extends hcl p ov; rwa [hc] at this)

theorem Tracked.exec {step : Entries → Inp → S → Out × S} {s₀ : S} {σ : Store Entries Override} {st : Nat → S}
    {hist : Nat → List Inp} (ht : Tracked step s₀ σ st hist) (x : Nat) (inp : Inp) {i : Inst}
    (hi : σ.insts[x]? = some i) :
    Tracked step s₀ σ (upd st x (step (effective σ x) inp (st x)).2) (upd hist x (hist x ++ [inp])) := by
  refine ⟨fun y => ?_, fun y hy => ?_⟩
  · by_cases hyx : y = x
    · subst hyx
      rw [upd_same, upd_same, stateAlone_snoc, ← ht.st y]
    · rw [upd_other _ _ _ _ hyx, upd_other _ _ _ _ hyx]
      exact ht.st y
  · by_cases hyx : y = x
    · subst hyx; exact ⟨i, hi⟩
    · rw [upd_other _ _ _ _ hyx] at hy
      exact ht.live y hy

/-- what an answer that shows an object says about the object -/
theorem observed_inst {σ₀ σ : Store Entries Override} {h : Handed} {r : CreateReq} {x : Nat}
    (hobs : h.observed σ = createAlone σ₀ r) (hx : h.inst = some x) : aloneEff σ₀ r = some (effective σ x) := by
  rw [aloneEff, ← hobs]
  cases h <;> cases hx <;> rfl

theorem inputsOf_cons_some (x k y : Nat) (inp : Inp) (o : Out) (rest : List (Nat × Inp × Option (Nat × Out))) :
    inputsOf x ((k, inp, some (y, o)) :: rest) = if y = x then inp :: inputsOf x rest else inputsOf x rest := rfl

theorem inputsOf_cons_none (x k : Nat) (inp : Inp) (rest : List (Nat × Inp × Option (Nat × Out))) :
    inputsOf x ((k, inp, (none : Option (Nat × Out))) :: rest) = inputsOf x rest := rfl

theorem runHistSt_create (step : Entries → Inp → S → Out × S) (σ : Store Entries Override) (hs : List Handed)
    (st : Nat → S) (r : CreateReq) (rest : List (HEv Inp)) :
    runHistSt step σ hs st (.create r :: rest) =
      runHistSt step ((create σ r.1 r.2).store σ) (hs ++ [(create σ r.1 r.2).handed]) st rest := by
  rw [runHistSt]; cases create σ r.1 r.2 <;> rfl

theorem runHistSt_kth (step : Entries → Inp → S → Out × S) (σ₀ : Store Entries Override) (s₀ : S)
    (pre : List (HEv Inp)) :
    ∀ (σ : Store Entries Override) (hs : List Handed) (reqs : List CreateReq) (st : Nat → S) (hist : Nat → List Inp),
    Answers σ₀ σ hs reqs → Tracked step s₀ σ st hist → (∀ r ∈ reqsOf pre, Known σ₀ r) →
    ∀ (post : List (HEv Inp)) (k : Nat) (inp : Inp),
    (runHistSt step σ hs st (pre ++ .exec k inp :: post))[(execsOf pre).length]? =
      some (k, inp, expected step σ₀ s₀ (hs ++ (createSeq σ (reqsOf pre)).2) (reqs ++ reqsOf pre)
        (fun x => hist x ++ inputsOf x (runHistSt step σ hs st pre)) k inp) := by
  induction pre with
  | nil =>
    intro σ hs reqs st hist ha ht _ post k inp
    simp only [List.nil_append, execsOf, List.length_nil, reqsOf, createSeq, List.append_nil, runHistSt, inputsOf]
    unfold expected
    cases hx : (hs[k]?).bind Handed.inst with
    | none => simp
    | some x =>
      obtain ⟨h, hk, hx⟩ := Option.bind_eq_some_iff.mp hx
      obtain ⟨r, hr, hobs⟩ := ha.obs_at hk
      simp only [List.getElem?_cons_zero, Option.bind_some, hr, observed_inst hobs hx, Option.map_some,
        ← ht.st x]
  | cons ev pre ih =>
    intro σ hs reqs st hist ha ht hcat post k inp
    cases ev with
    | exec k' inp' =>
      have hcat' : ∀ r ∈ reqsOf pre, Known σ₀ r := fun r hr => hcat r (by simpa [reqsOf] using hr)
      cases hx : (hs[k']?).bind Handed.inst with
      | none =>
        simp only [List.cons_append, execsOf, List.length_cons, runHistSt, hx, List.getElem?_cons_succ, reqsOf,
          inputsOf_cons_none]
        exact ih σ hs reqs st hist ha ht hcat' post k inp
      | some x' =>
        simp only [List.cons_append, execsOf, List.length_cons, runHistSt, hx, List.getElem?_cons_succ, reqsOf]
        obtain ⟨h, hk, hx⟩ := Option.bind_eq_some_iff.mp hx
        obtain ⟨i, hi⟩ := ha.live h (List.mem_of_getElem? hk) x' hx
        rw [ih σ hs reqs _ _ ha (ht.exec x' inp' hi) hcat' post k inp]
        refine congrArg (fun f => some (k, inp, expected step σ₀ s₀ _ _ f k inp)) ?_
        funext x
        rw [inputsOf_cons_some]
        by_cases hxx : x' = x
        · subst hxx
          simp [upd]
        · have hxx' : ¬ x = x' := fun h => hxx h.symm
          simp [upd, hxx, hxx']
    | create r =>
      have := ih _ _ _ st hist (ha.create (hcat r (by simp [reqsOf])))
        (ht.extends (create_extends ha.ext.closed r.1 r.2)) (fun r' hr' => hcat r' (by simp [reqsOf, hr'])) post k inp
      simpa only [List.cons_append, runHistSt_create, execsOf, reqsOf, createSeq_cons, List.append_assoc,
        List.nil_append] using this

namespace Client

/-- a table of clients keyed by something that determines what a client does cannot be told from own clients, as
long as every entry of the table was built from settings it is filed under -/
theorem runMemo_eq_runOwn {K : Type} [DecidableEq K] (key : Settings × String → K) (objs : List Obj)
    (hk : ∀ a b p q, key (a, p) = key (b, q) → ∀ o st, execWith a o st = execWith b o st) (evs : List Nat) :
    ∀ (tab : List (K × Settings)) (st : Nat → St), (∀ e ∈ tab, ∃ p, e.1 = key (e.2, p)) →
      runMemo key objs tab st evs = runOwn objs st evs := by
  induction evs with
  | nil => intro tab st _; rfl
  | cons k evs ih =>
    intro tab st hh
    cases ho : objs[k]? with
    | none => simp only [runMemo, runOwn, ho]; rw [ih tab st hh]
    | some o =>
      cases hf : tab.find? (fun e => e.1 = key (o.client, o.peer)) with
      | some e =>
        obtain ⟨p, hp⟩ := hh e (List.mem_of_find?_eq_some hf)
        have hkey : e.1 = key (o.client, o.peer) := by simpa using List.find?_some hf
        have hsame : ∀ s, execWith e.2 o s = exec o s := hk e.2 o.client p o.peer (by rw [← hp, hkey]) o
        simp only [runMemo, runOwn, ho, hf, hsame]
        rw [ih tab _ hh]
      | none =>
        simp only [runMemo, runOwn, ho, hf]
        rw [ih _ _ fun e he => (List.mem_cons.mp he).elim (fun h => h ▸ ⟨o.peer, rfl⟩) (hh e)]

/-- every execution of a process of own clients: the k-th object's upstream requests are those of its own n-th
execution alone, `n` = its executions so far -/
theorem runOwn_kth (objs : List Obj) (pre : List Nat) :
    ∀ (cnt : Nat → Nat) (st : Nat → St), (∀ k o, objs[k]? = some o → st k = stAfter o (cnt k)) →
    ∀ (post : List Nat) (k : Nat),
    (runOwn objs st (pre ++ k :: post))[pre.length]? =
      some ((objs[k]?).map fun o => callsAlone o (cnt k + (pre.filter (· = k)).length)) := by
  induction pre with
  | nil =>
    intro cnt st hst post k
    cases ho : objs[k]? with
    | none => simp [runOwn, ho]
    | some o => simp [runOwn, ho, callsAlone, hst k o ho]
  | cons j pre ih =>
    intro cnt st hst post k
    cases hj : objs[j]? with
    | none =>
      simp only [List.cons_append, runOwn, hj, List.length_cons, List.getElem?_cons_succ]
      rw [ih cnt st hst post k]
      by_cases hjk : j = k
      · subst hjk; simp [hj]
      · simp [hjk]
    | some oj =>
      simp only [List.cons_append, runOwn, hj, List.length_cons, List.getElem?_cons_succ]
      rw [ih (upd cnt j (cnt j + 1)) (upd st j (exec oj (st j)).2) ?_ post k]
      · by_cases hjk : j = k
        · subst hjk
          simp [upd, Nat.add_assoc, Nat.add_comm 1]
        · have hkj : ¬ k = j := fun h => hjk h.symm
          simp [upd, hjk, hkj]
      · intro k' o' ho'
        by_cases hkj : k' = j
        · subst hkj
          rw [hj] at ho'
          cases ho'
          simp [upd, stAfter, hst k' oj hj]
        · simp [upd, hkj]
          exact hst k' o' ho'

/-- on an upstream that answers, the first execution asks once; it leaves the result iff `cache_ttl` says so, the
response iff the HTTP cache layer may keep it and `default_ttl` says for how long -/
theorem exec_first_idle (o : Obj) (hb : o.busy = false) :
    exec o {} = (1, ⟨o.mechTtl, o.client.cache && o.cacheable && positive o.client.ttl⟩) := by
  simp [exec, execWith, roundTrip, attempts, hb]

/-- … and the second one asks again unless one of the two was kept -/
theorem callsAlone_one_idle (o : Obj) (hb : o.busy = false) :
    callsAlone o 1 = if o.mechTtl || (o.client.cache && o.cacheable && positive o.client.ttl) then 0 else 1 := by
  simp only [callsAlone, stAfter, exec_first_idle o hb]
  simp only [exec, execWith, roundTrip, attempts, hb]
  cases o.mechTtl <;> cases o.client.cache && o.cacheable <;> cases positive o.client.ttl <;> rfl

/-- nothing is kept of an upstream that answers 503 -/
theorem stAfter_busy (o : Obj) (hb : o.busy = true) : ∀ n, stAfter o n = {}
  | 0 => rfl
  | n + 1 => by
    simp only [stAfter, stAfter_busy o hb n, exec, execWith, roundTrip, hb]
    simp

end Client

end Heimdall.Mech
