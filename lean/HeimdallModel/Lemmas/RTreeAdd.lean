import HeimdallModel.Lemmas.RTreeRefine
/-!
# `RTree.add` preserves well-formedness and commutes with the abstraction

`addNode` is followed once along `addNode_induct` (`addNode_abs`): the end of the path (`addLeaf`), the free wildcard
(`addLeaf` on the catch-all child), the single wildcard, and the step into a static child, fresh or existing (possibly
split at the common prefix).  The relation `AddRel` says that the result is well formed and that its table is the
node's table updated as `addPat` does; each step changes one slot of the node (`Slot`, `RTreeRefine`), and the
statement about the recursive call is lifted through that slot (`AddRel.slot`, resting on `updO_slot`).
-/
/-! ## `Option.Rel R a b`: `a` and `b` fail alike, or succeed alike with results related by `R` -/

namespace Option.Rel
variable {α β γ α' β' : Type} {R : α → β → Prop} {a : Option α} {b : Option β}

theorem map {S : α' → β' → Prop} {f : α → α'} {g : β → β'} (h : Rel R a b)
    (hi : ∀ x y, a = .some x → b = .some y → R x y → S (f x) (g y)) : Rel S (a.map f) (b.map g) := by
  cases h with
  | none => exact .none
  | some hr => exact .some (hi _ _ rfl rfl hr)

theorem imp {S : α → β → Prop} (h : Rel R a b) (hi : ∀ x y, a = .some x → b = .some y → R x y → S x y) :
    Rel S a b := by
  cases h with
  | none => exact .none
  | some hr => exact .some (hi _ _ rfl rfl hr)

theorem flip (h : Rel R a b) : Rel (fun y x => R x y) b a := by
  cases h with
  | none => exact .none
  | some hr => exact .some hr

theorem trans {S : β → γ → Prop} {c : Option γ} (h₁ : Rel R a b) (h₂ : Rel S b c) :
    Rel (fun x z => ∃ y, R x y ∧ S y z) a c := by
  cases h₁ with
  | none => cases h₂; exact .none
  | some hr => cases h₂ with | some hs => exact .some ⟨_, hr, hs⟩

theorem getD (h : Rel R a b) {x : α} {y : β} (h₀ : R x y) : R (a.getD x) (b.getD y) := by
  cases h with
  | none => exact h₀
  | some hr => exact hr

theorem some_right {y : β} (h : Rel R a (.some y)) : ∃ x, a = .some x ∧ R x y := by
  cases h with
  | some hr => exact ⟨_, rfl, hr⟩

end Option.Rel

namespace Heimdall
namespace RTree
variable {V : Type} (canAdd : List V → V → Bool) (v : V) (bt : Bool)

/-- the parent's result from the child's -/
def mapOk (g : RTree V → RTree V) : Except AddErr (RTree V) → Except AddErr (RTree V)
  | .error e => .error e
  | .ok c => .ok (g c)

theorem mapOk_ok {g : RTree V → RTree V} {r : Except AddErr (RTree V)} {n' : RTree V} (h : mapOk g r = .ok n') :
    ∃ c, r = .ok c ∧ n' = g c := by
  cases r with
  | error e => cases h
  | ok c => injection h with h; exact ⟨c, rfl, h.symm⟩

def withStatics (n : RTree V) (l : List (Char × RTree V)) : RTree V := { n with statics := l }

def bump (n : RTree V) : RTree V := { n with priority := n.priority + 1 }

theorem addNode_nil (n : RTree V) (keys : List String)
    (inStatic : Bool) : addNode canAdd v bt n [] keys inStatic = addLeaf canAdd v bt n keys := by
  rw [addNode]

theorem addNode_star (n : RTree V) (r : List Char) (keys : List String) :
    addNode canAdd v bt n ('*' :: r) keys false = addCatchAll canAdd v bt n r keys := by
  rw [addNode]; rfl

theorem addNode_colon (n : RTree V) (r : List Char) (keys : List String) :
    addNode canAdd v bt n (':' :: r) keys false =
      mapOk (setWild n) (addNode canAdd v bt (wildOf n) (afterSeg r) (keys ++ [String.ofList (segOf r)]) false) := by
  rw [addNode]; rfl

theorem addNode_static {s : Bool} {c : Char} (h : s = false → c ≠ '*' ∧ c ≠ ':') {r : List Char} {idx : Char}
    {tok : List Char} {skip : Nat} (hst : staticTok s c r = (idx, tok, skip)) (n : RTree V) (keys : List String) :
    addNode canAdd v bt n (c :: r) keys s =
      match splitAtIdx n.statics idx with
      | some (pre, child, post) =>
        if ((c :: r).drop ((splitCommonPrefix child tok).2 + skip)).length < (c :: r).length then
          mapOk (fun child' => withStatics n (bubble (idx, child') pre.reverse post))
            (addNode canAdd v bt (bump (splitCommonPrefix child tok).1)
              ((c :: r).drop ((splitCommonPrefix child tok).2 + skip)) keys (idx != '/'))
        else .error .invalidPath
      | none =>
        mapOk (fun child' => withStatics (touchBt n) (n.statics ++ [(idx, child')]))
          (addNode canAdd v bt ⟨tok, 0, [], none, none, [], [], false⟩ (remOf c r) keys (idx != '/')) := by
  have h1 : ∀ x, (x = '*' ∨ x = ':') → ¬ (!s && decide (c = x)) = true := by
    intro x hx
    cases s with
    | true => simp
    | false => rcases hx with rfl | rfl <;> simp [h rfl]
  rw [addNode, if_neg (h1 _ (Or.inl rfl)), if_neg (h1 _ (Or.inr rfl)), hst]
  simp only [dite_not]
  rfl

theorem addNode_induct {P : RTree V → List Char → List String → Bool → Prop}
    (leaf : ∀ n keys s, P n [] keys s)
    (star : ∀ n r keys, P n ('*' :: r) keys false)
    (colon : ∀ n r keys, P (wildOf n) (afterSeg r) (keys ++ [String.ofList (segOf r)]) false → P n (':' :: r) keys false)
    (static : ∀ n c r keys s, (s = false → c ≠ '*' ∧ c ≠ ':') →
      (∀ child rest s', rest.length < (c :: r).length → P child rest keys s') → P n (c :: r) keys s) :
    ∀ n path keys s, P n path keys s := by
  intro n path
  induction hk : path.length using Nat.strongRecOn generalizing n path with
  | ind k ih =>
    intro keys s
    subst hk
    match path, s with
    | [], _ => exact leaf _ _ _
    | c :: r, true => exact static n c r keys true (fun h => by cases h) (fun child rest s' hl => ih _ hl child rest rfl keys s')
    | c :: r, false =>
      by_cases h : c ≠ '*' ∧ c ≠ ':'
      · exact static n c r keys false (fun _ => h) (fun child rest s' hl => ih _ hl child rest rfl keys s')
      · have hl : (afterSeg r).length < (c :: r).length := Nat.lt_succ_of_le (afterSeg_length_le r)
        by_cases hs : c = '*'
        · subst hs; exact star _ _ _
        · have : c = ':' := Classical.byContradiction fun hc => h ⟨hs, hc⟩
          subst this
          exact colon _ _ _ (ih _ hl _ _ rfl _ _)

theorem splitAtIdx_some {l : List (Char × RTree V)} {c : Char} {pre post : List (Char × RTree V)} {ch : RTree V}
    (h : splitAtIdx l c = some (pre, ch, post)) : l = pre ++ (c, ch) :: post ∧ ∀ e ∈ pre, e.1 ≠ c := by
  induction l generalizing pre with
  | nil => cases h
  | cons e l ih =>
    obtain ⟨i, x⟩ := e
    rw [splitAtIdx] at h
    split at h
    · next hic => cases h; exact ⟨by rw [hic]; rfl, fun _ he => nomatch he⟩
    · next hic =>
      split at h
      · cases h
      · next pre' x' post' hs =>
        cases h
        obtain ⟨h1, h2⟩ := ih hs
        exact ⟨by rw [h1]; rfl, List.forall_mem_cons.mpr ⟨hic, h2⟩⟩

theorem splitAtIdx_none {l : List (Char × RTree V)} {c : Char} (h : splitAtIdx l c = none) :
    ∀ e ∈ l, e.1 ≠ c := by
  induction l with
  | nil => intro e he; cases he
  | cons e l ih =>
    obtain ⟨i, x⟩ := e
    rw [splitAtIdx] at h
    split at h
    · cases h
    · next hic =>
      split at h
      · next hs => exact List.forall_mem_cons.mpr ⟨hic, ih hs⟩
      · cases h

theorem bubble_perm (x : Char × RTree V) (revPre post : List (Char × RTree V)) :
    (bubble x revPre post).Perm (revPre.reverse ++ x :: post) := by
  induction revPre generalizing post with
  | nil => simp [bubble]
  | cons y r ih =>
    unfold bubble
    split
    · refine (ih (y :: post)).trans ?_
      simp only [List.reverse_cons, List.append_assoc, List.singleton_append]
      exact List.Perm.append_left _ (List.Perm.swap _ _ _)
    · exact List.Perm.refl _

/-- re-ordering the edges around the updated child: the same edges with `child'` in place of `child` -/
theorem bubble_perm_of_split {l pre post : List (Char × RTree V)} {idx : Char} {child : RTree V}
    (hst : l = pre ++ (idx, child) :: post) (child' : RTree V) :
    (bubble (idx, child') pre.reverse post).Perm (pre ++ (idx, child') :: post) ∧
    (∀ e ∈ bubble (idx, child') pre.reverse post, e ∈ l ∨ e = (idx, child')) := by
  have hperm := bubble_perm (idx, child') pre.reverse post
  rw [List.reverse_reverse] at hperm
  refine ⟨hperm, fun e he => ?_⟩
  rcases List.mem_append.mp (hperm.mem_iff.mp he) with h | h
  · exact Or.inl (hst ▸ List.mem_append_left _ h)
  · rcases List.mem_cons.mp h with h | h
    · exact Or.inr h
    · exact Or.inl (hst ▸ List.mem_append_right _ (List.mem_cons_of_mem _ h))

/-- `bubble` moves an edge forward: as a map it is that edge put in front -/
theorem childAt_bubble (x : Char × RTree V) (revPre post : List (Char × RTree V)) (hpre : ∀ e ∈ revPre, e.1 ≠ x.1)
    (c : Char) : childAt (bubble x revPre post) c = if c = x.1 then some x.2 else childAt (revPre.reverse ++ post) c := by
  induction revPre generalizing post with
  | nil =>
    obtain ⟨i, ch⟩ := x
    rw [bubble, childAt]
    by_cases hc : c = i
    · rw [if_pos hc.symm, if_pos hc]
    · rw [if_neg (Ne.symm hc), if_neg hc]; rfl
  | cons y r ih =>
    have hr : ∀ e ∈ r, e.1 ≠ x.1 := fun e he => hpre e (List.mem_cons_of_mem _ he)
    rw [bubble]
    split
    · rw [ih _ hr]; simp only [List.reverse_cons, List.append_assoc, List.singleton_append]
    · obtain ⟨i, ch⟩ := x
      exact childAt_split ch (fun e he => hpre e (List.mem_reverse.mp he)) c

theorem pairwise_fst_congr {α β β' : Type} {l : List (α × β)} {l' : List (α × β')} (h : l.map Prod.fst = l'.map Prod.fst)
    (hp : l.Pairwise (fun a b => a.1 ≠ b.1)) : l'.Pairwise (fun a b => a.1 ≠ b.1) := by
  have h1 : (l.map Prod.fst).Pairwise (· ≠ ·) := List.pairwise_map.mpr hp
  rw [h] at h1
  exact List.pairwise_map.mp h1

/-! ## well-formedness of the pieces -/

theorem WFNode.congr {seg : Bool} {d : Nat} {t t' : RTree V} (h : WFNode seg d t)
    (hs : t'.statics = t.statics) (hw : t'.wild = t.wild) (hc : t'.catchAll = t.catchAll)
    (hv : t'.values = t.values) (hk : t'.keys = t.keys) : WFNode seg d t' := by
  obtain ⟨h1, h2, h3, h4, h5, h6, h7, h8, h9⟩ := h
  exact ⟨by rw [hw, hc]; exact h1, by rw [hv, hk]; exact h2, by rw [hv, hk]; exact h3, by rw [hs]; exact h4,
    by rw [hs]; exact h5, by rw [hs]; exact h6, by rw [hw]; exact h7, by rw [hc]; exact h8, by rw [hw]; exact h9⟩

theorem wfAt_congr {seg : Bool} {d : Nat} {t t' : RTree V} (h : wfAt seg d t = true)
    (hs : t'.statics = t.statics) (hw : t'.wild = t.wild) (hc : t'.catchAll = t.catchAll)
    (hv : t'.values = t.values) (hk : t'.keys = t.keys) : wfAt seg d t' = true :=
  (wfAt_iff _ _ _).mpr (((wfAt_iff _ _ _).mp h).congr hs hw hc hv hk)

theorem touchBt_eq (n : RTree V) : touchBt n = { n with bt := n.values.isEmpty || n.bt } := by
  cases n
  unfold touchBt
  split <;> simp_all

theorem WFNode.touchBt {seg : Bool} {d : Nat} {n : RTree V} (W : WFNode seg d n) : WFNode seg d (touchBt n) := by
  rw [touchBt_eq]; exact W.congr rfl rfl rfl rfl rfl

theorem wfNode_newLeaf (seg : Bool) (d : Nat) (p : List Char) (k : Nat) (b : Bool) :
    WFNode seg d (⟨p, k, [], none, none, [], [], b⟩ : RTree V) :=
  ⟨fun _ => ⟨rfl, rfl⟩, fun _ => rfl, fun h => absurd rfl h, List.Pairwise.nil, fun _ h => (nomatch h),
    fun _ h => (nomatch h), fun _ h => (nomatch h), fun _ h => (nomatch h), fun _ h => (nomatch h)⟩

theorem wf_newLeaf (seg : Bool) (d : Nat) (p : List Char) (k : Nat) (b : Bool) :
    wfAt seg d (⟨p, k, [], none, none, [], [], b⟩ : RTree V) = true :=
  (wfAt_iff _ _ _).mpr (wfNode_newLeaf seg d p k b)

/-- the node with one static child added, replaced (`o = some x`) or removed (`o = none`) -/
theorem WFNode.putChild {seg : Bool} {d : Nat} {n : RTree V} (W : WFNode seg d n) {l : List (Char × RTree V)}
    {idx : Char} {o : Option (RTree V)} (hnodup : l.Pairwise (fun a b => a.1 ≠ b.1))
    (hmem : ∀ e ∈ l, e ∈ n.statics ∨ ∃ x, o = some x ∧ e = (idx, x))
    (ho : ∀ x, o = some x → edgeOk idx x = true ∧ wfAt (!(idx != '/')) d x = true) :
    WFNode seg d (withStatics n l) := by
  refine { W with hnodup := hnodup, hedge := fun e he => ?_, hst := fun e he => ?_ } <;>
    rcases hmem e he with h | ⟨x, hx, rfl⟩
  · exact W.hedge e h
  · exact (ho x hx).1
  · exact W.hst e h
  · rw [edge_seg (ho x hx).1]; exact (ho x hx).2

theorem isEscape_cons {tok : List Char} (h : isEscape tok = true) :
    ∃ c r, tok = '\\' :: c :: r ∧ (c = '*' ∨ c = ':' ∨ c = '\\') := by
  unfold isEscape at h
  split at h
  · next c r => exact ⟨c, r, rfl, by simpa [or_assoc] using h⟩
  · cases h

theorem staticTok_shape (inStatic : Bool) (token : Char) (ptail : List Char) :
    (∃ r, (staticTok inStatic token ptail).2.1 = (staticTok inStatic token ptail).1 :: r) ∧
    ((staticTok inStatic token ptail).2.1 = ['/'] ∨ '/' ∉ (staticTok inStatic token ptail).2.1) := by
  unfold staticTok
  by_cases ht : token = '/'
  · subst ht
    simp [isEscape]
  · simp only [ht, if_false]
    have hns : '/' ∉ token :: segOf ptail := by
      intro h
      rcases List.mem_cons.mp h with h | h
      · exact ht h.symm
      · exact slash_not_mem_segOf _ h
    split
    · rename_i he
      simp only [Bool.and_eq_true] at he
      obtain ⟨c, r, hcr, _⟩ := isEscape_cons he.2
      rw [hcr] at hns ⊢
      exact ⟨⟨r, rfl⟩, Or.inr fun h => hns (List.mem_cons_of_mem _ h)⟩
    · exact ⟨⟨_, rfl⟩, Or.inr hns⟩

/-! ## splitting a child's path at the common prefix with the token -/

theorem commonPrefixLen_cons (a : Char) (x y : List Char) :
    commonPrefixLen (a :: x) (a :: y) = commonPrefixLen x y + 1 := by
  simp [commonPrefixLen]

theorem mem_of_mem_take {α} {a : α} {l : List α} {n : Nat} (h : a ∈ l.take n) : a ∈ l :=
  List.mem_of_mem_take h

/-- `commonPrefixLen a b` is the length of a common prefix, and all of `a` only if `a` is a prefix of `b` -/
theorem commonPrefixLen_spec (a b : List Char) :
    b.take (commonPrefixLen a b) = a.take (commonPrefixLen a b) ∧ commonPrefixLen a b ≤ b.length ∧
      (a.drop (commonPrefixLen a b) = [] → a.isPrefixOf b = true) := by
  induction a generalizing b with
  | nil => simp [commonPrefixLen]
  | cons x a ih =>
    cases b with
    | nil => simp [commonPrefixLen]
    | cons y b =>
      unfold commonPrefixLen
      by_cases h : x = y
      · subst h
        obtain ⟨h1, h2, h3⟩ := ih b
        simp only [if_true, List.take_succ_cons, h1, List.length_cons, Nat.add_le_add_iff_right, h2,
          List.drop_succ_cons, List.isPrefixOf, beq_self_eq_true, Bool.true_and, true_and]
        exact h3
      · simp [h]

/-- `splitCommonPrefix` keeps a child whose path is a prefix of the token; otherwise it cuts the path behind the
    common prefix and hangs the child with the rest of its path below a new node -/
theorem splitCommonPrefix_cases (child : RTree V) (tok : List Char) :
    (child.path.isPrefixOf tok = true ∧ splitCommonPrefix child tok = (child, child.path.length)) ∨
    ∃ c r, ¬ child.path.isPrefixOf tok = true ∧
      child.path = tok.take (commonPrefixLen child.path tok) ++ c :: r ∧
      splitCommonPrefix child tok =
        (⟨tok.take (commonPrefixLen child.path tok), child.priority, [(c, { child with path := c :: r })],
          none, none, [], [], false⟩, commonPrefixLen child.path tok) := by
  unfold splitCommonPrefix
  by_cases hp : child.path.isPrefixOf tok = true
  · rw [if_pos hp]; exact Or.inl ⟨hp, rfl⟩
  · rw [if_neg hp]
    cases hd : child.path.drop (commonPrefixLen child.path tok) with
    | nil => exact absurd ((commonPrefixLen_spec _ _).2.2 hd) hp
    | cons c r =>
      refine Or.inr ⟨c, r, hp, ?_, by simp only [hd]⟩
      rw [(commonPrefixLen_spec _ _).1, ← hd, List.take_append_drop]

/-- the replacing node's path is the consumed prefix of the token -/
theorem splitCommonPrefix_path (child : RTree V) (tok : List Char) :
    (splitCommonPrefix child tok).1.path = tok.take (splitCommonPrefix child tok).2 ∧
      (splitCommonPrefix child tok).2 ≤ tok.length := by
  rcases splitCommonPrefix_cases child tok with ⟨hp, h⟩ | ⟨c, r, _, _, h⟩ <;> rw [h]
  · obtain ⟨t, rfl⟩ := List.isPrefixOf_iff_prefix.mp hp
    simp
  · exact ⟨rfl, (commonPrefixLen_spec _ _).2.1⟩

/-- the replacing node hangs on the same edge -/
theorem splitCommonPrefix_edge {i : Char} {child : RTree V} {tok : List Char} (he : edgeOk i child = true)
    (htok : ∃ r, tok = i :: r) :
    edgeOk i (splitCommonPrefix child tok).1 = true ∧ 0 < (splitCommonPrefix child tok).2 := by
  obtain ⟨⟨r, hr⟩, _⟩ := edge_path he
  obtain ⟨r', rfl⟩ := htok
  rcases splitCommonPrefix_cases child (i :: r') with ⟨_, h⟩ | ⟨c, r'', hnp, hpath, h⟩ <;> rw [h]
  · exact ⟨he, by rw [hr]; simp⟩
  · have hi : i ≠ '/' := by rintro rfl; rw [edge_slash he] at hnp; simp at hnp
    have hns : '/' ∉ child.path := (edge_noslash he hi).2
    rw [hr, commonPrefixLen_cons] at hpath ⊢
    refine ⟨(edgeOk_iff _ _).mpr ⟨⟨_, List.take_succ_cons⟩, Or.inr fun hm => hns ?_⟩, Nat.succ_pos _⟩
    rw [hr, hpath]; exact List.mem_append_left _ hm

theorem splitCommonPrefix_wf {i : Char} {child : RTree V} {d : Nat} {tok : List Char}
    (he : edgeOk i child = true) (hw : wfAt (child.path == ['/']) d child = true) (htok : ∃ r, tok = i :: r) :
    wfAt ((splitCommonPrefix child tok).1.path == ['/']) d (splitCommonPrefix child tok).1 = true := by
  have he1 := (splitCommonPrefix_edge he htok).1
  rcases splitCommonPrefix_cases child tok with ⟨_, h⟩ | ⟨c, r, hnp, hpath, h⟩ <;> rw [h] at he1 ⊢
  · exact hw
  · have hi : i ≠ '/' := by
      rintro rfl; obtain ⟨r', rfl⟩ := htok; rw [edge_slash he] at hnp; simp at hnp
    have hns : '/' ∉ child.path := (edge_noslash he hi).2
    have hcr : '/' ∉ c :: r := fun hm => hns (by rw [hpath]; exact List.mem_append_right _ hm)
    have hec : edgeOk c ({ child with path := c :: r } : RTree V) = true :=
      (edgeOk_iff _ _).mpr ⟨⟨r, rfl⟩, Or.inr hcr⟩
    have hc : c ≠ '/' := fun e => hcr (by simp [e])
    rw [edge_seg he, show (i != '/') = true by simpa using hi] at hw
    rw [edge_seg he1, wfAt_iff]
    refine ⟨fun _ => ⟨rfl, rfl⟩, fun _ => rfl, fun h => absurd rfl h, List.pairwise_singleton _ _, ?_, ?_,
      fun _ h => (nomatch h), fun _ h => (nomatch h), fun _ h => (nomatch h)⟩ <;>
      intro e hm <;> cases List.mem_singleton.mp hm
    · exact hec
    · rw [edge_seg hec, show (c != '/') = true by simpa using hc]
      exact wfAt_congr hw rfl rfl rfl rfl rfl

/-! ## the end of the path -/

theorem isEmpty_false_iff {α} (l : List α) : l.isEmpty = false ↔ l ≠ [] := by
  cases l <;> simp

/-- a successful `addLeaf` touches only the node's values, keys and backtracking flag -/
theorem addLeaf_ok {n n' : RTree V} {keys : List String} (h : addLeaf canAdd v bt n keys = .ok n') :
    ∃ ks b, n' = { n with keys := ks, bt := b, values := n.values ++ [v] } := by
  unfold addLeaf at h
  by_cases h1 : ¬ keys.isEmpty ∧ ¬ n.keys.isEmpty ∧ n.keys ≠ keys
  · rw [if_pos h1] at h; cases h
  · rw [if_neg h1] at h
    by_cases h2 : ¬ canAdd n.values v
    · rw [if_pos h2] at h; cases h
    · rw [if_neg h2] at h; cases h; exact ⟨_, _, rfl⟩

/-- `addLeaf` on a node whose keys, if it has values, are as many as the new ones: the closed form of `addPat` on
    the node's own entry -/
theorem addLeaf_eq {n : RTree V} {keys : List String} (h0 : n.values = [] → n.keys = [])
    (hl : n.values ≠ [] → n.keys.length = keys.length) :
    addLeaf canAdd v bt n keys =
      if n.values ≠ [] ∧ n.keys ≠ keys then .error .ambiguousKeys
      else if ¬ canAdd n.values v then .error .constraint
      else .ok { n with keys := keys, bt := bt, values := n.values ++ [v] } := by
  unfold addLeaf
  by_cases hne : n.values ≠ [] ∧ n.keys ≠ keys
  · have hlen := hl hne.1
    have hk : ¬ keys.isEmpty ∧ ¬ n.keys.isEmpty ∧ n.keys ≠ keys := by
      refine ⟨fun h => hne.2 ?_, fun h => hne.2 ?_, hne.2⟩ <;> rw [List.isEmpty_iff] at h <;> rw [h] at hlen ⊢
      · exact List.length_eq_zero_iff.mp hlen
      · exact (List.length_eq_zero_iff.mp hlen.symm).symm
    rw [if_pos hne, if_pos hk]
  · have hkeys : (if keys.isEmpty then n.keys else keys) = keys := by
      split
      · next he =>
        rw [List.isEmpty_iff] at he
        by_cases hv : n.values = []
        · rw [h0 hv, he]
        · exact Classical.not_not.mp fun hk => hne ⟨hv, hk⟩
      · rfl
    rw [if_neg hne, hkeys, if_neg]
    rintro ⟨_, h2, h3⟩
    exact hne ⟨fun hv => h2 (by rw [h0 hv]; rfl), h3⟩

theorem addLeaf_inv {n n' : RTree V} {keys : List String} (h0 : n.values = [] → n.keys = [])
    (hl : n.values ≠ [] → n.keys.length = keys.length) (h : addLeaf canAdd v bt n keys = .ok n') :
    n' = { n with keys := keys, bt := bt, values := n.values ++ [v] } := by
  rw [addLeaf_eq canAdd v bt h0 hl] at h
  split at h
  · cases h
  · split at h <;> cases h
    rfl

/-! ## the free wildcard -/

theorem segOf_of_afterSeg_nil {cs : List Char} (h : afterSeg cs = []) : segOf cs = cs := by
  have := segOf_append_afterSeg cs
  rwa [h, List.append_nil] at this

/-- `case '*'` is the end of the path on the catch-all child, whose name must be the rest of the expression -/
theorem addCatchAll_eq (n : RTree V) (ptail : List Char) (keys : List String) :
    addCatchAll canAdd v bt n ptail keys =
      if ¬ (afterSeg ptail).isEmpty then .error .invalidPath
      else if ptail ≠ (catchOf n (segOf ptail)).path then .error .ambiguousKeys
      else mapOk (setCatch n)
        (addLeaf canAdd v bt (catchOf n (segOf ptail)) (keys ++ [String.ofList (segOf ptail)])) := by
  have hne : (keys ++ [String.ofList (segOf ptail)]).isEmpty = false := by simp
  unfold addCatchAll addLeaf
  simp only [hne, Bool.false_eq_true, not_false_eq_true, true_and, if_false, apply_ite (mapOk (setCatch n)),
    mapOk.eq_1, mapOk.eq_2]

/-- a catch-all child is a well-formed node of its own, one wildcard deeper -/
theorem catchOk_wfNode {d : Nat} {ca : RTree V} (h : catchOk d ca = true) :
    WFNode true (d + 1) ca ∧ hasNoChildren ca = true := by
  obtain ⟨hv, hlen, _, hnc⟩ := (catchOk_iff d ca).mp h
  refine ⟨?_, hnc⟩
  obtain ⟨hs, hw, hc⟩ := (hasNoChildren_iff ca).mp hnc
  exact ⟨fun h => (nomatch h), fun h => (by rw [h] at hv; cases hv), fun _ => hlen, hs ▸ List.Pairwise.nil,
    hs ▸ fun _ h => (nomatch h), hs ▸ fun _ h => (nomatch h), hw ▸ fun _ h => (nomatch h),
    hc ▸ fun _ h => (nomatch h), hw ▸ fun _ h => (nomatch h)⟩

theorem catchOf_wfNode {seg : Bool} {d : Nat} {n : RTree V} (W : WFNode seg d n) (name : List Char) :
    WFNode true (d + 1) (catchOf n name) ∧ hasNoChildren (catchOf n name) = true := by
  unfold catchOf
  split
  · next ca h => exact catchOk_wfNode (W.hc ca h)
  · exact ⟨wfNode_newLeaf _ _ _ _ _, rfl⟩

theorem setCatch_wf {d : Nat} {n ca' : RTree V} (hw : wfAt true d n = true) (hc' : catchOk d ca' = true) :
    wfAt true d (setCatch n ca') = true ∧ (setCatch n ca').path = n.path := by
  have W := (wfAt_iff _ _ _).mp hw
  unfold setCatch
  split
  · exact ⟨(wfAt_iff _ _ _).mpr { W with hseg := nofun, hc := fun _ h => by cases h; exact hc' }, rfl⟩
  · exact ⟨(wfAt_iff _ _ _).mpr { W.touchBt with hseg := nofun, hc := fun _ h => by cases h; exact hc' },
      by rw [touchBt_eq]⟩

theorem addCatchAll_wf (d : Nat) (n n' : RTree V)
    (ptail : List Char) (keys : List String) (hw : wfAt true d n = true) (hk : keys.length = d)
    (h : addCatchAll canAdd v bt n ptail keys = .ok n') : wfAt true d n' = true ∧ n'.path = n.path := by
  obtain ⟨Wca, hnc⟩ := catchOf_wfNode ((wfAt_iff _ _ _).mp hw) (segOf ptail)
  rw [addCatchAll_eq] at h
  split at h
  · cases h
  · next hafter =>
    split at h
    · cases h
    · next hname =>
      obtain ⟨ca', hleaf, rfl⟩ := mapOk_ok h
      cases addLeaf_inv canAdd v bt Wca.hkeys0 (fun hv => (Wca.hkeys hv).trans (by simp [hk])) hleaf
      refine setCatch_wf hw ?_
      have hseg := segOf_of_afterSeg_nil (List.isEmpty_iff.mp (Classical.not_not.mp hafter))
      rw [hseg] at hnc hname ⊢
      exact (catchOk_iff _ _).mpr ⟨by simp, by simp [hk], by simp [← Classical.not_not.mp hname], hnc⟩

/-! ## the single wildcard -/

theorem wildOf_wf {d : Nat} {n : RTree V} (hw : wfAt true d n = true) :
    wfAt true (d + 1) (wildOf n) = true ∧ wildOk (wildOf n) = true := by
  unfold wildOf
  split
  · next w h => exact ⟨((wfAt_iff _ _ _).mp hw).hw w h, ((wfAt_iff _ _ _).mp hw).hwo w h⟩
  · exact ⟨wf_newLeaf _ _ _ _ _, rfl⟩

theorem setWild_wf {d : Nat} {n w' : RTree V} (hw : wfAt true d n = true) (hw' : wfAt true (d + 1) w' = true)
    (hwo' : wildOk w' = true) :
    wfAt true d (setWild n w') = true ∧ (setWild n w').path = n.path := by
  have W := (wfAt_iff _ _ _).mp hw
  unfold setWild
  split
  · exact ⟨(wfAt_iff _ _ _).mpr { W with
      hseg := nofun, hw := fun _ h => by cases h; exact hw', hwo := fun _ h => by cases h; exact hwo' }, rfl⟩
  · exact ⟨(wfAt_iff _ _ _).mpr { W.touchBt with
      hseg := nofun, hw := fun _ h => by cases h; exact hw', hwo := fun _ h => by cases h; exact hwo' },
      by rw [touchBt_eq]⟩

theorem staticTok_slash (inStatic : Bool) (ptail : List Char) : staticTok inStatic '/' ptail = ('/', ['/'], 0) := by
  unfold staticTok
  simp [isEscape]

/-- a node stays a proper wildcard node when its values change and `/` edges come or go -/
theorem wildOk_of_edges {n n' : RTree V} (h : wildOk n = true) (hw : n'.wild = n.wild)
    (hc : n'.catchAll = n.catchAll) (hs : ∀ e ∈ n'.statics, e ∈ n.statics ∨ e.1 = '/') : wildOk n' = true := by
  rw [wildOk_iff] at h ⊢
  exact ⟨hw ▸ h.1, hc ▸ h.2.1, fun e he => (hs e he).elim (h.2.2 e) id⟩

/-- below a single wildcard only `/` or the end of the expression follows, so `addNode` there only touches values and
    `/` edges: the node stays a proper wildcard node -/
theorem addNode_wildOk {n n' : RTree V} {path : List Char}
    {keys : List String} (hwo : wildOk n = true) (hpath : path = [] ∨ ∃ r, path = '/' :: r)
    (h : addNode canAdd v bt n path keys false = .ok n') : wildOk n' = true := by
  rcases hpath with rfl | ⟨r, rfl⟩
  · rw [addNode_nil] at h
    obtain ⟨_, _, rfl⟩ := addLeaf_ok canAdd v bt h
    exact wildOk_of_edges hwo rfl rfl fun _ => .inl
  · rw [addNode_static canAdd v bt (fun _ => by decide) (staticTok_slash _ _)] at h
    split at h
    · next pre child post hsp =>
      split at h
      · obtain ⟨c', _, rfl⟩ := mapOk_ok h
        exact wildOk_of_edges hwo rfl rfl fun e he =>
          ((bubble_perm_of_split (splitAtIdx_some hsp).1 c').2 e he).imp_right fun h => by rw [h]
      · cases h
    · obtain ⟨c', _, rfl⟩ := mapOk_ok h
      refine wildOk_of_edges hwo (by rw [touchBt_eq]; rfl) (by rw [touchBt_eq]; rfl) fun e he => ?_
      rw [touchBt_eq] at he
      exact (List.mem_append.mp he).imp_right fun h => by rw [List.mem_singleton.mp h]

theorem remOf_length_lt (token : Char) (ptail : List Char) : (remOf token ptail).length < (token :: ptail).length := by
  have := afterSeg_length_le ptail
  unfold remOf
  simp only [List.length_cons]
  split <;> omega

theorem edgeOk_congr_path {idx : Char} {ch ch' : RTree V} (hp : ch'.path = ch.path) (he : edgeOk idx ch = true) :
    edgeOk idx ch' = true := by
  unfold edgeOk at *; rw [hp]; exact he

/-! ## the expression a walk reads, seen from inside a static token -/

/-- `pre` and `kpre` put in front of a parsed expression and its wildcard names -/
def liftPat (pre : List PTok) (kpre : List String) (r : Except PatErr (List PTok × List String)) :
    Except PatErr (List PTok × List String) :=
  match r with
  | .error e => .error e
  | .ok (ps, ks) => .ok (pre ++ ps, kpre ++ ks)

theorem liftPat_nil (r : Except PatErr (List PTok × List String)) : liftPat [] [] r = r := by
  cases r with
  | error e => rfl
  | ok x => obtain ⟨a, b⟩ := x; rfl

theorem liftPat_append (a b : List PTok) (r : Except PatErr (List PTok × List String)) :
    liftPat (a ++ b) [] r = liftPat a [] (liftPat b [] r) := by
  rcases r with e | ⟨ps, ks⟩
  · rfl
  · simp [liftPat]

/-- a parser of expression tokens, as far as the static step of a walk sees it: `addNode` reads expressions with
    `parseToks`, `delNode` with `parseDelToks`; they agree in what they do with `/` and with a literal segment -/
structure LitParser (R : Type) where
  parse : List Tok → R
  /-- finished tokens in front of a parsed rest -/
  push : List PTok → R → R
  push_nil : ∀ r, push [] r = r
  push_append : ∀ a b r, push (a ++ b) r = push a (push b r)
  sep : ∀ rest, parse (.sep :: rest) = push [.lit "/"] (parse rest)
  lit : ∀ s s' rest, classifySeg s = (.lit s', none) → parse (.seg s :: rest) = push [.lit s'] (parse rest)

section
variable {R : Type} (P : LitParser R)

/-- the rest `cs` of an expression when the bytes `acc` (reversed) of the current static token have been consumed
    already -/
def patG (acc cs : List Char) : R :=
  if acc = [] then P.parse (tokenizeAux cs [])
  else P.push [.lit (String.ofList (acc.reverse ++ segOf cs))] (P.parse (tokenizeAux (afterSeg cs) []))

theorem patG_nil_eq (cs : List Char) : patG P [] cs = P.parse (tokenizeAux cs []) := if_pos rfl

theorem patG_slash (acc r : List Char) :
    patG P acc ('/' :: r) = P.push (flushP acc ++ [.lit "/"]) (patG P [] r) := by
  have htok : tokenizeAux ('/' :: r) [] = .sep :: tokenizeAux r [] := by simp [tokenizeAux, flushSeg]
  rw [patG_nil_eq]
  unfold patG
  by_cases h : acc = []
  · subst h; rw [if_pos rfl, htok, P.sep]; rfl
  · rw [if_neg h, afterSeg_slash, segOf_slash, flushP_ne h, htok, P.sep, P.push_append, List.append_nil]

theorem segOf_append_noslash (x rest : List Char) (hx : '/' ∉ x) : segOf (x ++ rest) = x ++ segOf rest :=
  List.takeWhile_append_of_pos fun _ ha => notSlash_of_ne fun e => hx (e ▸ ha)

theorem afterSeg_append_noslash (x rest : List Char) (hx : '/' ∉ x) : afterSeg (x ++ rest) = afterSeg rest :=
  List.dropWhile_append_of_pos fun _ ha => notSlash_of_ne fun e => hx (e ▸ ha)

/-- consuming bytes of the current static token does not change the expression -/
theorem patG_consume (acc x rest : List Char) (hacc : acc ≠ []) (hx : '/' ∉ x) :
    patG P acc (x ++ rest) = patG P (x.reverse ++ acc) rest := by
  unfold patG
  rw [if_neg hacc, if_neg (by simp [hacc]), segOf_append_noslash x rest hx, afterSeg_append_noslash x rest hx]
  simp

theorem afterSeg_idem (cs : List Char) : afterSeg (afterSeg cs) = afterSeg cs := by
  rcases afterSeg_cases cs with h | ⟨r, h⟩
  · rw [h]; rfl
  · rw [h, afterSeg_slash]

theorem segOf_afterSeg (cs : List Char) : segOf (afterSeg cs) = [] := by
  rcases afterSeg_cases cs with h | ⟨r, h⟩
  · rw [h]; rfl
  · rw [h, segOf_slash]

theorem patG_afterSeg (acc cs : List Char) (hacc : acc ≠ []) :
    patG P acc (afterSeg cs) =
      P.push [.lit (String.ofList acc.reverse)] (P.parse (tokenizeAux (afterSeg cs) [])) := by
  unfold patG
  rw [if_neg hacc, afterSeg_idem, segOf_afterSeg, List.append_nil]

end

theorem tokenizeAux_cons_ne {c : Char} (hc : c ≠ '/') (r : List Char) :
    tokenizeAux (c :: r) [] = .seg (String.ofList (c :: segOf r)) :: tokenizeAux (afterSeg r) [] := by
  rw [tokenizeAux_seg, tokenizeAux_flush _ _ (by rw [segOf_cons_ne hc]; simp) (afterSeg_cases _),
    segOf_cons_ne hc, afterSeg_cons_ne hc]
  simp

theorem classifySeg_wild (x : List Char) :
    classifySeg (String.ofList (':' :: x)) = (.wild, some (String.ofList x)) := by
  unfold classifySeg
  rw [String.toList_ofList]
  rfl

theorem classifySeg_catch (x : List Char) :
    classifySeg (String.ofList ('*' :: x)) = (.catchAll, some (String.ofList x)) := by
  unfold classifySeg
  rw [String.toList_ofList]
  rfl

theorem classifySeg_lit (token : Char) (x : List Char) (h1 : token ≠ ':') (h2 : token ≠ '*') :
    classifySeg (String.ofList (token :: x)) =
      (.lit (String.ofList (if isEscape (token :: x) then x else token :: x)), none) := by
  unfold classifySeg isEscape
  rw [String.toList_ofList]
  split
  · next heq => cases heq; exact absurd rfl h1
  · next heq => cases heq; exact absurd rfl h2
  · next c r heq => cases heq; simp only [Bool.or_eq_true, decide_eq_true_eq, or_assoc]; split <;> rfl
  · next hn3 =>
    split
    · next c r heq => exact absurd heq (hn3 c r)
    · rfl

theorem staticTok_true {token : Char} (ht : token ≠ '/') (ptail : List Char) :
    staticTok true token ptail = (token, token :: segOf ptail, 0) := by
  unfold staticTok
  simp [ht]

theorem staticTok_false {token : Char} (ht : token ≠ '/') (ptail : List Char) :
    staticTok false token ptail =
      if isEscape (token :: segOf ptail) then ((segOf ptail).headD token, segOf ptail, 1)
      else (token, token :: segOf ptail, 0) := by
  unfold staticTok
  simp [ht]

/-- the bytes behind the dropped backslash: the token text, then the rest of the path -/
theorem staticTok_drop (inStatic : Bool) {token : Char} (ht : token ≠ '/') (ptail : List Char) :
    (token :: ptail).drop (staticTok inStatic token ptail).2.2 =
      (staticTok inStatic token ptail).2.1 ++ afterSeg ptail := by
  have hp : token :: ptail = token :: (segOf ptail ++ afterSeg ptail) := by rw [segOf_append_afterSeg]
  cases inStatic with
  | true => rw [staticTok_true ht]; simp only [List.drop_zero]; exact hp
  | false =>
    rw [staticTok_false ht]
    split
    · simp only [List.drop_succ_cons, List.drop_zero]; exact (segOf_append_afterSeg ptail).symm
    · simp only [List.drop_zero]; exact hp

theorem staticTok_noslash (inStatic : Bool) {token : Char} (ht : token ≠ '/') (ptail : List Char) :
    '/' ∉ (staticTok inStatic token ptail).2.1 ∧ (staticTok inStatic token ptail).2.1 ≠ [] := by
  obtain ⟨⟨r, hr⟩, hs⟩ := staticTok_shape inStatic token ptail
  refine ⟨?_, by rw [hr]; simp⟩
  rcases hs with h | h
  · -- the token text is "/" only for the token '/'
    exfalso
    cases inStatic with
    | true => rw [staticTok_true ht] at h; injection h with h _; exact ht h
    | false =>
      rw [staticTok_false ht] at h
      split at h
      · have := slash_not_mem_segOf ptail
        simp only at h
        rw [h] at this; simp at this
      · injection h with h _; exact ht h
  · exact h

theorem staticTok_idx_ne (inStatic : Bool) {token : Char} (ht : token ≠ '/') (ptail : List Char) :
    (staticTok inStatic token ptail).1 ≠ '/' := by
  obtain ⟨⟨r, hr⟩, _⟩ := staticTok_shape inStatic token ptail
  obtain ⟨hns, _⟩ := staticTok_noslash inStatic ht ptail
  intro h
  apply hns
  rw [hr, h]; simp

theorem staticTok_drop_rem (inStatic : Bool) (token : Char) (ptail : List Char) :
    (token :: ptail).drop (staticTok inStatic token ptail).2.2 =
      (staticTok inStatic token ptail).2.1 ++ remOf token ptail := by
  unfold remOf
  by_cases ht : token = '/'
  · subst ht; rw [staticTok_slash, if_pos rfl]; rfl
  · rw [if_neg ht, staticTok_drop inStatic ht ptail]

/-- behind the whole static token the walk goes on with `remOf` -/
theorem staticTok_rem (inStatic : Bool) (token : Char) (ptail : List Char) :
    (token :: ptail).drop ((staticTok inStatic token ptail).2.1.length + (staticTok inStatic token ptail).2.2) =
      remOf token ptail := by
  rw [Nat.add_comm, ← List.drop_drop, staticTok_drop_rem, List.drop_left]

/-- `addNode` / `delNode` at a node with pending bytes `acc` find a static token at the head of the path -/
structure StaticStep (inStatic : Bool) (acc : List Char) (token : Char) : Prop where
  hs : inStatic = false → token ≠ '*' ∧ token ≠ ':'
  hacc0 : inStatic = false → acc = []
  hacc1 : inStatic = true → acc ≠ []

section
variable {R : Type} (P : LitParser R) {inStatic : Bool} {acc : List Char} {token : Char}
  (S : StaticStep inStatic acc token)
include S

/-- the static token at the head of the path, consumed as a whole -/
theorem patG_static (ptail : List Char) (ht : token ≠ '/') :
    patG P acc (token :: ptail) =
      patG P ((staticTok inStatic token ptail).2.1.reverse ++ acc) (afterSeg ptail) := by
  cases inStatic with
  | true =>
    rw [staticTok_true ht]
    have hp : token :: ptail = (token :: segOf ptail) ++ afterSeg ptail := by
      rw [List.cons_append, segOf_append_afterSeg]
    conv => lhs; rw [hp]
    refine patG_consume P acc _ _ (S.hacc1 rfl) ?_
    intro h
    rcases List.mem_cons.mp h with h | h
    · exact ht h.symm
    · exact slash_not_mem_segOf _ h
  | false =>
    cases S.hacc0 rfl
    obtain ⟨hc1, hc2⟩ := S.hs rfl
    obtain ⟨_, hne⟩ := staticTok_noslash false ht ptail
    rw [List.append_nil, patG_afterSeg _ _ _ (by simpa using hne), List.reverse_reverse,
      patG_nil_eq, tokenizeAux_cons_ne ht, P.lit _ _ _ (classifySeg_lit token _ hc2 hc1), staticTok_false ht]
    by_cases he : isEscape (token :: segOf ptail) = true
    · simp only [he, if_true]
    · simp only [he, Bool.false_eq_true, if_false]

/-- **the step into a static child**: the expression seen from the node = the tokens finished on the way into the
    child, then the expression seen from the child, whose path is the prefix of length `k` of the static token -/
theorem patG_step {ptail : List Char} {idx : Char} {tok : List Char} {skip : Nat}
    (hst : staticTok inStatic token ptail = (idx, tok, skip)) (ch : RTree V) (k : Nat) (hk1 : 0 < k)
    (hk2 : k ≤ tok.length) (hp : ch.path = tok.take k) :
    patG P acc (token :: ptail) =
      P.push (childPre idx acc) (patG P (childAcc idx ch acc) ((token :: ptail).drop (k + skip))) := by
  obtain ⟨rfl, rfl, rfl⟩ : idx = (staticTok inStatic token ptail).1 ∧ tok = (staticTok inStatic token ptail).2.1 ∧
      skip = (staticTok inStatic token ptail).2.2 := by rw [hst]; exact ⟨rfl, rfl, rfl⟩
  by_cases ht : token = '/'
  · subst ht
    rw [staticTok_slash] at hk2 hp ⊢
    simp only [List.length_cons, List.length_nil] at hk2
    have hk : k = 1 := by omega
    subst hk
    simp only [childPre, childAcc, if_true, Nat.add_zero, List.drop_succ_cons, List.drop_zero]
    exact patG_slash P acc ptail
  · have hi := staticTok_idx_ne inStatic ht ptail
    obtain ⟨hns, hne⟩ := staticTok_noslash inStatic ht ptail
    simp only [childPre, childAcc, if_neg hi, P.push_nil]
    rw [patG_static P S ptail ht, Nat.add_comm, ← List.drop_drop,
      staticTok_drop inStatic ht ptail, List.drop_append_of_le_length hk2, hp]
    have hx : '/' ∉ (staticTok inStatic token ptail).2.1.drop k := fun h => hns (List.mem_of_mem_drop h)
    have hacc' : ((staticTok inStatic token ptail).2.1.take k).reverse ++ acc ≠ [] := by
      cases htk : (staticTok inStatic token ptail).2.1 with
      | nil => exact absurd htk hne
      | cons a r =>
        cases k with
        | zero => omega
        | succ k => simp
    rw [patG_consume _ _ _ _ hacc' hx, ← List.append_assoc, ← List.reverse_append, List.take_append_drop]

/-- the expression starts with tokens that route it to the edge of the static token, whatever follows -/
theorem patG_routed (ptail : List Char) :
    ∃ ps r, patG P acc (token :: ptail) = P.push ps r ∧
      ∀ p, RoutedTo acc (staticTok inStatic token ptail).1 (ps ++ p) := by
  by_cases ht : token = '/'
  · subst ht
    rw [staticTok_slash, patG_slash]
    exact ⟨_, _, rfl, fun p => by rw [List.append_assoc]; exact routedTo_slash acc p⟩
  · obtain ⟨⟨tr, htr⟩, _⟩ := staticTok_shape inStatic token ptail
    obtain ⟨_, hne⟩ := staticTok_noslash inStatic ht ptail
    rw [patG_static P S ptail ht, patG_afterSeg _ _ _ (by simp [hne]), htr]
    refine ⟨_, _, rfl, fun p => ?_⟩
    simp only [List.reverse_append, List.reverse_reverse, List.singleton_append]
    exact routedTo_lit acc _ tr _

end

/-! ### the expression `addNode` walks -/

theorem parseToks_sep (rest : List Tok) :
    parseToks (.sep :: rest) = liftPat [.lit "/"] [] (parseToks rest) := by
  rw [parseToks]
  cases parseToks rest with
  | error e => rfl
  | ok r => obtain ⟨ps, ks⟩ := r; rfl

def addParser : LitParser (Except PatErr (List PTok × List String)) where
  parse := parseToks
  push ps := liftPat ps []
  push_nil := liftPat_nil
  push_append := liftPat_append
  sep := parseToks_sep
  lit s s' rest h := by
    rw [parseToks, h]
    rcases parseToks rest with e | ⟨ps, ks⟩ <;> rfl

/-- pattern and wildcard names of the rest `cs` of an expression when the bytes `acc` (reversed) of the current
    static token have been consumed already; `patOf [] e.toList = parsePat e` -/
def patOf (acc cs : List Char) : Except PatErr (List PTok × List String) := patG addParser acc cs

theorem patOf_nil_eq (cs : List Char) : patOf [] cs = parseToks (tokenizeAux cs []) := patG_nil_eq _ cs

theorem patOf_leaf (acc : List Char) : patOf acc [] = .ok (flushP acc, []) := by
  unfold patOf patG
  by_cases h : acc = []
  · subst h; rfl
  · rw [if_neg h, flushP_ne h]
    simp [afterSeg, segOf, tokenizeAux, flushSeg, parseToks, addParser, liftPat]

theorem patOf_wild (r : List Char) :
    patOf [] (':' :: r) = liftPat [.wild] [String.ofList (segOf r)] (patOf [] (afterSeg r)) := by
  rw [patOf_nil_eq, patOf_nil_eq, tokenizeAux_cons_ne (by decide), parseToks, classifySeg_wild]
  simp only
  cases parseToks (tokenizeAux (afterSeg r) []) with
  | error e => rfl
  | ok x => obtain ⟨ps, ks⟩ := x; rfl

theorem tokenizeAux_afterSeg_isEmpty (r : List Char) :
    (tokenizeAux (afterSeg r) []).isEmpty = (afterSeg r).isEmpty := by
  rcases afterSeg_cases r with h | ⟨x, h⟩
  · rw [h]; rfl
  · rw [h]; simp [tokenizeAux, flushSeg]

theorem patOf_catch (r : List Char) :
    patOf [] ('*' :: r) =
      if (afterSeg r).isEmpty then .ok ([.catchAll], [String.ofList (segOf r)])
      else .error .slashAfterFreeWildcard := by
  rw [patOf_nil_eq, tokenizeAux_cons_ne (by decide), parseToks, classifySeg_catch]
  simp only [tokenizeAux_afterSeg_isEmpty]
  rfl

/-- the expression seen from the node = the expression seen from the static child the path leads into -/
theorem patOf_step {inStatic : Bool} {acc : List Char} {token : Char} (S : StaticStep inStatic acc token)
    {ptail : List Char} {idx : Char} {tok : List Char} {skip : Nat}
    (hst : staticTok inStatic token ptail = (idx, tok, skip)) (ch : RTree V) (k : Nat) (hk1 : 0 < k)
    (hk2 : k ≤ tok.length) (hp : ch.path = tok.take k) :
    patOf acc (token :: ptail) =
      liftPat (childPre idx acc) [] (patOf (childAcc idx ch acc) ((token :: ptail).drop (k + skip))) :=
  patG_step addParser S hst ch k hk1 hk2 hp

/-- the expression of a static step belongs to the edge of its static token -/
theorem routedTo_patOf {inStatic : Bool} {acc : List Char} {token : Char} (S : StaticStep inStatic acc token)
    {ptail : List Char} {pat : List PTok} {ks : List String} (h : patOf acc (token :: ptail) = .ok (pat, ks)) :
    RoutedTo acc (staticTok inStatic token ptail).1 pat := by
  obtain ⟨ps, r, hr, hrt⟩ := patG_routed addParser S ptail
  rw [patOf, hr] at h
  rcases r with e | ⟨ps', ks'⟩
  · cases h
  · cases h; exact hrt ps'

/-! ## the specification of one `Add` on tables, in closed form -/

/-- the node at `pat` after `addPat`, or its error -/
def addSpec (T : Table V) (pat : List PTok) (keys : List String) : Except AddErr (Node V) :=
  match getNode T pat with
  | none => if canAdd [] v then .ok ⟨pat, keys, [v], bt⟩ else .error .constraint
  | some nd =>
    if nd.keys ≠ keys then .error .ambiguousKeys
    else if ¬ canAdd nd.values v then .error .constraint
    else .ok { nd with values := nd.values ++ [v], bt := bt }

/-- `x` and `y` fail alike with the same error, or succeed alike with results related by `R` -/
inductive ExRel {ε α β : Type} (R : α → β → Prop) : Except ε α → Except ε β → Prop
  | ok {a : α} {b : β} : R a b → ExRel R (.ok a) (.ok b)
  | error {e : ε} : ExRel R (.error e) (.error e)

theorem ExRel.toOption {ε α β : Type} {R : α → β → Prop} {x : Except ε α} {y : Except ε β} (h : ExRel R x y) :
    Option.Rel R x.toOption y.toOption := by
  cases h with
  | ok h => exact .some h
  | error => exact .none

theorem ExRel.ok_right {ε α β : Type} {R : α → β → Prop} {x : Except ε α} {b : β} (h : ExRel R x (.ok b)) :
    ∃ a, x = .ok a ∧ R a b := by
  generalize hy : (Except.ok b : Except ε β) = y at h
  cases h with
  | ok hr => cases hy; exact ⟨_, rfl, hr⟩
  | error => cases hy

theorem toOption_eq_some {ε α : Type} {x : Except ε α} {a : α} (h : x.toOption = some a) : x = .ok a := by
  cases x with
  | error e => cases h
  | ok b => injection h with h; rw [h]

/-- `addSpec` is the closed form of `addPat` -/
theorem addPat_spec (T : Table V) (pat : List PTok) (keys : List String) :
    ExRel (fun x T' => UpdO T T' pat (some x)) (addSpec canAdd v bt T pat keys) (addPat canAdd T pat keys v bt) := by
  have hclosed := fun T' => addPat_getNode canAdd T T' pat keys v bt
  unfold addSpec
  unfold addPat at hclosed ⊢
  cases hg : getNode T pat with
  | none =>
    rw [hg] at hclosed
    by_cases hc : canAdd [] v = true
    · simp only [hc, if_true] at hclosed ⊢; exact .ok (hclosed _ rfl)
    · simp only [hc, Bool.false_eq_true, if_false]; exact .error
  | some nd =>
    rw [hg] at hclosed
    by_cases hk : nd.keys ≠ keys
    · simp only [hk, ne_eq, not_false_eq_true, if_true]; exact .error
    · by_cases hc : canAdd nd.values v = true
      · simp only [hk, hc, not_true_eq_false, if_false] at hclosed ⊢; exact .ok (hclosed _ rfl)
      · simp only [hk, hc, not_false_eq_true, if_false, if_true, Bool.false_eq_true]; exact .error

/-- the result `r` of `addNode` on the node `n` at the position `s`, `d`, `acc`, for the expression `pr`: `addNode` and
    `addPat` on the node's table fail alike, or succeed alike, and then the new node is well formed, keeps its path and
    stands for the node's table with the new entry -/
def AddRel (r : Except AddErr (RTree V)) (n : RTree V) (s : Bool) (d : Nat)
    (pr : Except PatErr (List PTok × List String)) (keys : List String) (acc : List Char) : Prop :=
  match pr with
  | .error _ => r = .error .invalidPath
  | .ok (pat, ks) =>
    ExRel (fun x n' => (wfAt (!s) d n' = true ∧ n'.path = n.path) ∧ UpdO (absAux n acc) (absAux n' acc) pat (some x))
      (addSpec canAdd v bt (absAux n acc) pat (keys ++ ks)) r

theorem addSpec_lift (T T_c : Table V) (ps pat_c : List PTok) (keys : List String)
    (hget : getNode T (ps ++ pat_c) = (getNode T_c pat_c).map (pushAll ps)) :
    addSpec canAdd v bt T (ps ++ pat_c) keys =
      match addSpec canAdd v bt T_c pat_c keys with
      | .error e => .error e
      | .ok x => .ok (pushAll ps x) := by
  unfold addSpec
  rw [hget]
  cases getNode T_c pat_c with
  | none => simp only [Option.map_none]; split <;> rfl
  | some nd =>
    simp only [Option.map_some, pushAll]
    by_cases hk : nd.keys ≠ keys
    · rw [if_pos hk, if_pos hk]
    · rw [if_neg hk, if_neg hk]
      by_cases hc : ¬ canAdd nd.values v = true
      · rw [if_pos hc, if_pos hc]
      · rw [if_neg hc, if_neg hc]

/-- the statement about the recursive call into the child `ch` behind the slot `σ` lifted to the node: the child's
    table stands in that slot behind the tokens `ps`, and `g` puts the new child into the node, changing no other slot -/
theorem AddRel.slot {s : Bool} {d : Nat} {acc : List Char} {n : RTree V} (A : At s d acc n)
    {r_c : Except AddErr (RTree V)} {ch : RTree V} {s_c : Bool} {d_c : Nat} {acc_c : List Char}
    {pr_c : Except PatErr (List PTok × List String)} {keys kpre : List String} {ps : List PTok}
    (g : RTree V → RTree V) (σ : Slot)
    (hrel : AddRel canAdd v bt r_c ch s_c d_c pr_c (keys ++ kpre) acc_c)
    (hslot : slotTab n acc σ = (absAux ch acc_c).map (pushAll ps))
    (hσ : ∀ pat_c ks, pr_c = .ok (pat_c, ks) → slotOf acc (ps ++ pat_c) = σ)
    (hg : ∀ c', r_c = .ok c' → wfAt (!s_c) d_c c' = true → c'.path = ch.path →
      (wfAt (!s) d (g c') = true ∧ (g c').path = n.path) ∧
      (∀ τ, τ ≠ σ → slotTab (g c') acc τ = slotTab n acc τ) ∧
      slotTab (g c') acc σ = (absAux c' acc_c).map (pushAll ps)) :
    AddRel canAdd v bt (mapOk g r_c) n s d (liftPat ps kpre pr_c) keys acc := by
  have hseg : (!s) = true → acc = [] := fun h => A.acc0 (by simpa using h)
  cases pr_c with
  | error e =>
    simp only [AddRel] at hrel
    subst hrel
    simp [AddRel, liftPat, mapOk]
  | ok pk =>
    obtain ⟨pat_c, ks⟩ := pk
    have hs := hσ pat_c ks rfl
    simp only [AddRel, liftPat] at hrel ⊢
    rw [addSpec_lift canAdd v bt _ (absAux ch acc_c) ps pat_c _
      (by rw [getNode_absAux_slot A.node A.flat, hs, hslot, getNode_map_pushAll_append]), ← List.append_assoc]
    generalize addSpec canAdd v bt (absAux ch acc_c) pat_c (keys ++ kpre ++ ks) = sp at hrel ⊢
    cases hrel with
    | error => exact .error
    | ok h =>
      rename_i x c'
      obtain ⟨hwf, hsame, hat⟩ := hg c' rfl h.1.1 h.1.2
      refine .ok ⟨hwf, updO_slot A.node ((wfAt_iff _ _ _).mp hwf.1) hseg (by rw [hs]; exact hsame) ?_⟩
      rw [hs, hslot, hat]
      exact updO_map _ _ _ _ _ h.2

/-! ## structure of the abstraction under the updates of `addNode` -/

theorem absAux_congr {t t' : RTree V} (hs : t'.statics = t.statics) (hw : t'.wild = t.wild)
    (hc : t'.catchAll = t.catchAll) (hv : t'.values = t.values) (hk : t'.keys = t.keys) (hb : t'.bt = t.bt)
    (acc : List Char) : absAux t' acc = absAux t acc := by
  rw [absAux_eq, absAux_eq, hs, hw, hc]
  unfold absOwn
  rw [hv, hk, hb]

theorem absAux_newLeaf (p : List Char) (k : Nat) (b : Bool) (acc : List Char) :
    absAux (⟨p, k, [], none, none, [], [], b⟩ : RTree V) acc = [] := by
  rw [absAux_eq]
  simp [absOwn, absStatics_nil, absWild_none, absCatch]

theorem absOwn_touchBt (n : RTree V) (acc : List Char) : absOwn (touchBt n) acc = absOwn n acc := by
  unfold touchBt absOwn
  by_cases h : n.values.isEmpty = true
  · simp [h]
  · simp [h]

/-- the node taking the child's place stands for the same table -/
theorem splitCommonPrefix_abs {i : Char} {child : RTree V} (tok : List Char) (he : edgeOk i child = true)
    (hi : i ≠ '/') (acc : List Char) :
    absAux (splitCommonPrefix child tok).1 ((splitCommonPrefix child tok).1.path.reverse ++ acc) =
      absAux child (child.path.reverse ++ acc) := by
  rcases splitCommonPrefix_cases child tok with ⟨_, h⟩ | ⟨c, r, _, hpath, h⟩ <;> rw [h]
  have hne : (c :: r) ≠ ['/'] := fun e =>
    (edge_noslash he hi).2 (by rw [hpath, e]; exact List.mem_append_right _ List.mem_cons_self)
  rw [absAux_eq]
  simp only [absOwn, List.isEmpty_nil, if_true, absStatics_cons, absStatics_nil, absWild_none, absCatch,
    List.nil_append, List.append_nil]
  rw [absChild_noslash (by simpa using hne)]
  conv => rhs; rw [hpath]
  simp only [List.reverse_append, List.append_assoc]
  exact absAux_congr (t := child) (t' := { child with path := c :: r }) rfl rfl rfl rfl rfl rfl _

/-- the node `addNode` descends into stands for the same table as the child it replaces -/
theorem absChild_split {idx : Char} {child : RTree V} (he : edgeOk idx child = true) (tok : List Char)
    (htok : ∃ r, tok = idx :: r) (acc : List Char) :
    absChild (bump (splitCommonPrefix child tok).1) acc = absChild child acc := by
  have hb : ∀ ch : RTree V, absChild (bump ch) acc = absChild ch acc := fun ch => by
    have h : ∀ a, absAux (bump ch) a = absAux ch a := absAux_congr (t := ch) (t' := bump ch) rfl rfl rfl rfl rfl rfl
    unfold absChild
    rw [show (bump ch).path = ch.path from rfl, h, h]
  rw [hb]
  by_cases hi : idx = '/'
  · subst hi
    rcases splitCommonPrefix_cases child tok with ⟨_, h⟩ | ⟨c, r, hnp, _, _⟩
    · rw [h]
    · obtain ⟨r', rfl⟩ := htok; rw [edge_slash he] at hnp; simp at hnp
  · rw [absChild_noslash (edge_noslash he hi).1,
      absChild_noslash (edge_noslash (splitCommonPrefix_edge he htok).1 hi).1]
    exact splitCommonPrefix_abs tok he hi acc
/-- the node's own entry replaced by `x`, or removed -/
theorem updO_own (n : RTree V) (acc : List Char) (R : Table V) (x : Option (Node V))
    (hx : ∀ y, x = some y → y.pat = flushP acc) (hR : getNode R (flushP acc) = none) :
    UpdO (absOwn n acc ++ R) (x.toList ++ R) (flushP acc) x := by
  intro p
  rw [getNode_append, getNode_append]
  by_cases hp : p = flushP acc
  · subst hp
    cases x with
    | none => rw [if_pos rfl]; exact hR
    | some y => simp [getNode, hx y rfl]
  · have h1 : getNode x.toList p = none := by
      cases x with
      | none => rfl
      | some y => simpa [getNode, hx y rfl] using fun e => hp (Eq.symm e)
    rw [h1, getNode_absOwn_none n hp, if_neg hp]

theorem addLeaf_abs {s : Bool} {d : Nat} {n : RTree V} (W : WFNode (!s) d n) (acc : List Char)
    (hflat : acc ≠ [] → n.wild = none ∧ n.catchAll = none) (keys : List String) (hk : keys.length = d) :
    AddRel canAdd v bt (addLeaf canAdd v bt n keys) n s d (.ok (flushP acc, [])) keys acc := by
  simp only [AddRel, List.append_nil]
  unfold addSpec
  rw [addLeaf_eq canAdd v bt W.hkeys0 (fun hv => (W.hkeys hv).trans hk.symm),
    show getNode (absAux n acc) (flushP acc) = getNode (absOwn n acc) (flushP acc) by
      rw [absAux_eq, getNode_append, getNode_rest_flush W.hedge acc hflat, Option.or_none]]
  -- the new entry takes the place of the node's own one
  have hnew : (wfAt (!s) d ({ n with keys := keys, bt := bt, values := n.values ++ [v] } : RTree V) = true ∧
        n.path = n.path) ∧
      UpdO (absAux n acc) (absAux { n with keys := keys, bt := bt, values := n.values ++ [v] } acc) (flushP acc)
        (some ⟨flushP acc, keys, n.values ++ [v], bt⟩) := by
    refine ⟨⟨(wfAt_iff _ _ _).mpr { W with hkeys0 := fun hv => by simp at hv, hkeys := fun _ => hk }, rfl⟩, ?_⟩
    have hown : absOwn ({ n with keys := keys, bt := bt, values := n.values ++ [v] } : RTree V) acc =
        [⟨flushP acc, keys, n.values ++ [v], bt⟩] := by rw [absOwn, if_neg (by simp)]
    rw [absAux_eq, absAux_eq, hown]
    exact updO_own n acc _ (some _) (fun _ h => by cases h; rfl) (getNode_rest_flush W.hedge acc hflat)
  by_cases hv : n.values = []
  · rw [hv] at hnew
    rw [absOwn, hv]
    by_cases hc : canAdd [] v = true
    · simp only [getNode_nil, List.isEmpty_nil, if_true, ne_eq, not_true_eq_false, false_and, if_false, hc]
      exact .ok hnew
    · simp only [ne_eq, not_true_eq_false, false_and, if_false, hc, Bool.false_eq_true]
      exact .error
  · rw [absOwn, if_neg (by simpa using hv)]
    have hget : getNode [(⟨flushP acc, n.keys, n.values, n.bt⟩ : Node V)] (flushP acc) =
        some ⟨flushP acc, n.keys, n.values, n.bt⟩ := by simp [getNode]
    simp only [hget, hv, ne_eq, not_false_eq_true, true_and]
    by_cases hke : n.keys = keys
    · by_cases hc : canAdd n.values v = true
      · simp only [hke, hc, not_true_eq_false, if_false]
        exact .ok (hke ▸ hnew)
      · simp only [hke, hc, not_true_eq_false, if_false, Bool.false_eq_true, not_false_eq_true, if_true]
        exact .error
    · simp only [hke, not_false_eq_true, if_true]
      exact .error

theorem absAux_of_noChildren {t : RTree V} (h : hasNoChildren t = true) (acc : List Char) :
    absAux t acc = absOwn t acc := by
  obtain ⟨h1, h2, h3⟩ := (hasNoChildren_iff t).mp h
  rw [absAux_eq, h1, h2, h3, absStatics_nil, absWild_none]
  exact List.append_nil _

/-- a catch-all child contributes like a wildcard child: its own table behind the free wildcard -/
theorem absCatch_some {ca : RTree V} (h : hasNoChildren ca = true) (acc : List Char) :
    absCatch (some ca) acc = (absAux ca []).map (pushAll (flushP acc ++ [.catchAll])) := by
  rw [absAux_of_noChildren h]
  unfold absOwn
  simp only [absCatch]
  split <;> simp [pushAll, flushP_nil]

theorem absCatch_catchOf {seg : Bool} {d : Nat} {n : RTree V} (W : WFNode seg d n) (name : List Char) :
    absCatch n.catchAll [] = (absAux (catchOf n name) []).map (pushAll [.catchAll]) := by
  unfold catchOf
  split
  · next ca h => rw [h, absCatch_some (catchOk_wfNode (W.hc ca h)).2]; rfl
  · next h => rw [h, absAux_newLeaf]; rfl

theorem absWild_wildOf (n : RTree V) : absWild n.wild [] = (absAux (wildOf n) []).map (pushAll [.wild]) := by
  unfold wildOf
  cases h : n.wild with
  | none => rw [absWild_none]; simp only; rw [absAux_newLeaf]; rfl
  | some w => rw [absWild_some, flushP_nil]; rfl

/-- on a well-formed node a catch-all child with another name is rejected by `addLeaf` as well, for its keys -/
theorem addCatchAll_eq_addLeaf {d : Nat} {n : RTree V} (W : WFNode true d n) {ptail : List Char}
    (hafter : afterSeg ptail = []) {keys : List String} (hk : keys.length = d) :
    addCatchAll canAdd v bt n ptail keys =
      mapOk (setCatch n) (addLeaf canAdd v bt (catchOf n ptail) (keys ++ [String.ofList ptail])) := by
  rw [addCatchAll_eq, segOf_of_afterSeg_nil hafter, if_neg (by simp [hafter])]
  split
  · next hname =>
    obtain ⟨Wca, _⟩ := catchOf_wfNode W ptail
    rw [addLeaf_eq canAdd v bt Wca.hkeys0 (fun hv => (Wca.hkeys hv).trans (by simp [hk])), if_pos]
    · rfl
    · unfold catchOf at hname ⊢
      split at hname
      · next ca h =>
        obtain ⟨hv, _, hlast, _⟩ := (catchOk_iff d ca).mp (W.hc ca h)
        refine ⟨fun h0 => (by rw [h0] at hv; cases hv), fun hke => hname ?_⟩
        rw [hke, List.getLast?_concat] at hlast
        exact (String.ofList_injective (Option.some.inj hlast)).symm ▸ rfl
      · exact absurd rfl hname
  · rfl

theorem getNode_congr_append (A B B' : Table V) (h : ∀ p, getNode B p = getNode B' p) :
    ∀ p, getNode (A ++ B) p = getNode (A ++ B') p := by
  intro p; rw [getNode_append, getNode_append, h]

theorem getNode_congr_append_left (A A' B : Table V) (h : ∀ p, getNode A p = getNode A' p) :
    ∀ p, getNode (A ++ B) p = getNode (A' ++ B) p := by
  intro p; rw [getNode_append, getNode_append, h]

/-! ## what a step does to the slots of the node -/

theorem putStatic_bubble {n : RTree V} {pre post : List (Char × RTree V)} {idx : Char} {child : RTree V}
    (hst : n.statics = pre ++ (idx, child) :: post) (hpre : ∀ e ∈ pre, e.1 ≠ idx) (c' : RTree V) :
    PutStatic n (withStatics n (bubble (idx, c') pre.reverse post)) idx (some c') :=
  ⟨fun _ => rfl, rfl, rfl, fun c => by
    rw [hst, childAt_split child hpre]
    show childAt (bubble (idx, c') pre.reverse post) c = _
    rw [childAt_bubble _ _ _ (fun e he => hpre e (List.mem_reverse.mp he)), List.reverse_reverse]
    split <;> rfl⟩

theorem putStatic_append {n : RTree V} {idx : Char} (hnone : ∀ e ∈ n.statics, e.1 ≠ idx) (c' : RTree V) :
    PutStatic n (withStatics (touchBt n) (n.statics ++ [(idx, c')])) idx (some c') :=
  ⟨fun acc => by rw [← absOwn_touchBt n, touchBt_eq]; rfl, by rw [touchBt_eq]; rfl, by rw [touchBt_eq]; rfl,
    fun c => by
      show childAt (n.statics ++ [(idx, c')]) c = _
      rw [childAt_append, childAt, childAt]
      by_cases hc : c = idx
      · subst hc; rw [if_pos rfl, if_pos rfl, childAt_eq_none hnone]; rfl
      · rw [if_neg hc, if_neg (Ne.symm hc)]; exact Option.or_none⟩

theorem setWild_wild (n w' : RTree V) : (setWild n w').wild = some w' := by
  unfold setWild; split <;> rfl

theorem setCatch_catch (n ca' : RTree V) : (setCatch n ca').catchAll = some ca' := by
  unfold setCatch; split <;> rfl

theorem setWild_cases (n w' : RTree V) :
    setWild n w' = { touchBt n with wild := some w' } ∨ setWild n w' = { n with wild := some w' } := by
  unfold setWild; split
  · exact .inr rfl
  · exact .inl rfl

theorem setCatch_cases (n ca' : RTree V) :
    setCatch n ca' = { touchBt n with catchAll := some ca' } ∨ setCatch n ca' = { n with catchAll := some ca' } := by
  unfold setCatch; split
  · exact .inr rfl
  · exact .inl rfl

theorem setWild_same (n w' : RTree V) (acc : List Char) :
    ∀ τ, τ ≠ .wild → slotTab (setWild n w') acc τ = slotTab n acc τ := by
  intro τ hτ
  rcases setWild_cases n w' with h | h <;> rw [h]
  · cases τ with
    | own => exact absOwn_touchBt n acc
    | static c => rw [touchBt_eq]; rfl
    | wild => exact absurd rfl hτ
    | catchAll => rw [touchBt_eq]; rfl
    | nowhere => rfl
  · cases τ with
    | wild => exact absurd rfl hτ
    | _ => rfl

theorem setCatch_same (n ca' : RTree V) (acc : List Char) :
    ∀ τ, τ ≠ .catchAll → slotTab (setCatch n ca') acc τ = slotTab n acc τ := by
  intro τ hτ
  rcases setCatch_cases n ca' with h | h <;> rw [h]
  · cases τ with
    | own => exact absOwn_touchBt n acc
    | static c => rw [touchBt_eq]; rfl
    | wild => rw [touchBt_eq]; rfl
    | catchAll => exact absurd rfl hτ
    | nowhere => rfl
  · cases τ with
    | catchAll => exact absurd rfl hτ
    | _ => rfl

/-- **`add` preserves well-formedness and commutes with the abstraction** (node level): `addNode` on a well-formed node
and `addPat` on its table fail alike or succeed alike; the new node is well formed, keeps its path, and its table is the
old one with the entry of the expression replaced as `addPat` does -/
theorem addNode_abs (n : RTree V) (path : List Char) (keys : List String) (inStatic : Bool) :
    ∀ (d : Nat) (acc : List Char), At inStatic d acc n → keys.length = d →
      AddRel canAdd v bt (addNode canAdd v bt n path keys inStatic) n inStatic d (patOf acc path) keys acc := by
  induction n, path, keys, inStatic using addNode_induct with
  | leaf n keys s =>
    intro d acc A hk
    rw [addNode_nil, patOf_leaf]
    exact addLeaf_abs canAdd v bt A.node acc A.flat keys hk
  | star n r keys =>
    intro d acc A hk
    cases A.acc0 rfl
    have W := A.node
    rw [addNode_star, patOf_catch]
    by_cases hafter : (afterSeg r).isEmpty = true
    · have hafter' := List.isEmpty_iff.mp hafter
      obtain ⟨Wca, hnc⟩ := catchOf_wfNode W r
      have heq := addCatchAll_eq_addLeaf canAdd v bt W hafter' hk
      rw [if_pos hafter, segOf_of_afterSeg_nil hafter', heq]
      refine AddRel.slot canAdd v bt A (ps := [.catchAll]) (kpre := [String.ofList r]) (setCatch n) .catchAll
        (addLeaf_abs canAdd v bt (s := false) Wca [] (fun h => absurd rfl h) _ (by simp [hk]))
        (absCatch_catchOf W r) (fun _ _ h => by cases h; rfl) fun c' hc' _ _ =>
          ⟨addCatchAll_wf canAdd v bt d n _ r keys A.wf hk (by rw [heq, hc']; rfl), setCatch_same n c' [], ?_⟩
      obtain ⟨ks, b, rfl⟩ := addLeaf_ok canAdd v bt hc'
      have hnc' : hasNoChildren ({ catchOf n r with
        keys := ks, bt := b, values := (catchOf n r).values ++ [v] } : RTree V) = true := hnc
      show absCatch (setCatch n _).catchAll [] = _
      rw [setCatch_catch, absCatch_some hnc']
      rfl
    · rw [if_neg hafter, addCatchAll_eq, if_pos hafter]
      rfl
  | colon n r keys ih =>
    intro d acc A hk
    cases A.acc0 rfl
    obtain ⟨hw1, hwo1⟩ := wildOf_wf A.wf
    rw [addNode_colon, patOf_wild]
    refine AddRel.slot canAdd v bt A (setWild n) .wild
      (ih (d + 1) [] ⟨hw1, fun _ => rfl, nofun⟩ (by simp [hk])) (absWild_wildOf n) (fun _ _ _ => rfl)
      fun c' hr hw' _ => ⟨setWild_wf A.wf hw' (addNode_wildOk canAdd v bt hwo1 (afterSeg_cases r) hr),
        setWild_same n c' [], ?_⟩
    show absWild (setWild n c').wild [] = _
    rw [setWild_wild, absWild_some]
    rfl
  | static n c r keys s hs ih =>
    intro d acc A hk
    have W := A.node
    obtain ⟨htr, hts⟩ := staticTok_shape s c r
    have S : StaticStep s acc c := ⟨hs, A.acc0, A.acc1⟩
    generalize hst : staticTok s c r = st at htr hts
    obtain ⟨idx, tok, skip⟩ := st
    simp only at htr hts
    have hroute : ∀ pat ks, patOf acc (c :: r) = .ok (pat, ks) → slotOf acc pat = .static idx := fun pat ks h => by
      have := routedTo_patOf S h
      rw [hst] at this
      exact slotOf_routed this
    rw [addNode_static canAdd v bt hs hst]
    split
    · next pre child post hsp =>
      obtain ⟨hstat, hpre⟩ := splitAtIdx_some hsp
      have hmem : (idx, child) ∈ n.statics := by rw [hstat]; simp
      obtain ⟨he1, hpos⟩ : edgeOk idx (splitCommonPrefix child tok).1 = true ∧
          0 < (splitCommonPrefix child tok).2 := splitCommonPrefix_edge (W.hedge _ hmem) htr
      have hw1 := splitCommonPrefix_wf (W.hedge _ hmem) (W.hst _ hmem) htr
      rw [edge_seg he1] at hw1
      have hw2 : wfAt (!(idx != '/')) d (bump (splitCommonPrefix child tok).1) = true :=
        wfAt_congr hw1 rfl rfl rfl rfl rfl
      have he2 : edgeOk idx (bump (splitCommonPrefix child tok).1) = true := he1
      obtain ⟨hpath, hle⟩ := splitCommonPrefix_path child tok
      -- the step into an existing child consumes at least its index byte
      have hlt : ((c :: r).drop ((splitCommonPrefix child tok).2 + skip)).length < (c :: r).length := by
        rw [List.length_drop, List.length_cons]
        omega
      have hstep := patOf_step S hst (bump (splitCommonPrefix child tok).1) _ hpos hle hpath
      rw [if_pos hlt, hstep]
      refine AddRel.slot canAdd v bt A (kpre := []) _ (.static idx)
        (by rw [List.append_nil]; exact ih _ _ _ hlt d _ (At.ofEdge he2 hw2 acc) hk) ?_
        (fun _ _ hp => hroute _ _ (by rw [hstep, hp]; rfl)) fun c' _ hcw hcp => ?_
      · show slotTable (childAt n.statics idx) acc = _
        rw [hstat, childAt_split child hpre, if_pos rfl, ← absChild_eq he2]
        exact (absChild_split (W.hedge _ hmem) tok htr acc).symm
      · have hce := edgeOk_congr_path hcp he2
        have P := putStatic_bubble hstat hpre c'
        obtain ⟨hperm, hmem'⟩ := bubble_perm_of_split hstat c'
        refine ⟨⟨(wfAt_iff _ _ _).mpr (W.putChild (o := some c') ?_
          (fun e he => (hmem' e he).imp_right fun h => ⟨c', rfl, h⟩) fun _ h => by cases h; exact ⟨hce, hcw⟩), rfl⟩,
          P.same acc, ?_⟩
        · exact (hperm.pairwise_iff (fun {a b} (h : a.1 ≠ b.1) => h.symm)).mpr
            (pairwise_fst_congr (by rw [hstat]; simp) W.hnodup)
        · rw [P.slot, slotTable, absChild_eq hce, childAcc_path hcp]
    · next hsp =>
      have he0 : edgeOk idx (⟨tok, 0, [], none, none, [], [], false⟩ : RTree V) = true :=
        (edgeOk_iff _ _).mpr ⟨htr, hts⟩
      have hrem := staticTok_rem s c r
      rw [hst] at hrem
      have hstep := patOf_step S hst (⟨tok, 0, [], none, none, [], [], false⟩ : RTree V) tok.length
        (by obtain ⟨x, rfl⟩ := htr; exact Nat.succ_pos _) (Nat.le_refl _) List.take_length.symm
      rw [hrem] at hstep
      rw [hstep]
      refine AddRel.slot canAdd v bt A (kpre := []) _ (.static idx)
        (by rw [List.append_nil]
            exact ih _ _ _ (remOf_length_lt c r) d _ (At.ofEdge he0 (wf_newLeaf _ _ _ _ _) acc) hk) ?_
        (fun _ _ hp => hroute _ _ (by rw [hstep, hp]; rfl)) fun c' _ hcw hcp => ?_
      · show slotTable (childAt n.statics idx) acc = _
        rw [childAt_eq_none (splitAtIdx_none hsp), absAux_newLeaf]
        rfl
      · have hce := edgeOk_congr_path hcp he0
        have P := putStatic_append (splitAtIdx_none hsp) c'
        refine ⟨⟨(wfAt_iff _ _ _).mpr (W.touchBt.putChild (o := some c') ?_ ?_
          fun _ h => by cases h; exact ⟨hce, hcw⟩), by rw [touchBt_eq]; rfl⟩, P.same acc, ?_⟩
        · exact List.pairwise_append.mpr ⟨W.hnodup, List.pairwise_singleton _ _,
            fun a ha b hb => by cases List.mem_singleton.mp hb; exact splitAtIdx_none hsp a ha⟩
        · intro e he
          rw [touchBt_eq]
          exact (List.mem_append.mp he).imp_right fun h => ⟨c', rfl, List.mem_singleton.mp h⟩
        · rw [P.slot, slotTable, absChild_eq hce, childAcc_path hcp]

/-- `addNode_abs` at the root: `parsePat` is what `addNode` reads -/
theorem add_abs (t : RTree V) (h : t.WF) (expr : String) :
    AddRel canAdd v bt (RTree.add canAdd t expr v bt) t false 0 (parsePat expr) [] [] := by
  have hrel := addNode_abs canAdd v bt t expr.toList [] false 0 [] (At.root h) rfl
  rwa [patOf_nil_eq] at hrel

/-- **`add` preserves well-formedness.** -/
theorem add_wf (t t' : RTree V) (expr : String) (v : V) (bt : Bool)
    (h : t.WF) (hadd : add canAdd t expr v bt = .ok t') : t'.WF := by
  have hrel := add_abs canAdd v bt t h expr
  rw [hadd] at hrel
  unfold AddRel at hrel
  revert hrel
  cases parsePat expr with
  | error e => intro hrel; cases hrel
  | ok pk =>
    obtain ⟨pat, ks⟩ := pk
    intro hrel
    obtain ⟨_, _, h⟩ := hrel.ok_right
    exact h.1.1

/-- **`add` commutes with the abstraction.** `RTree.add` on a well-formed tree and `Heimdall.add` on its
abstraction fail alike (same error) or succeed alike, and then the new tree's abstraction is the new table, as a
function of the path expression. -/
theorem rtree_add_refines (canAdd : List V → V → Bool) (t : RTree V) (h : t.WF) (expr : String) (v : V)
    (bt : Bool) :
    ExRel (fun t' T' => ∀ p, getNode t'.abs p = getNode T' p) (RTree.add canAdd t expr v bt)
      (Heimdall.add canAdd t.abs expr v bt) := by
  have hrel := add_abs canAdd v bt t h expr
  unfold Heimdall.add abs
  unfold AddRel at hrel
  revert hrel
  cases parsePat expr with
  | error e => intro hrel; simp only at hrel ⊢; rw [hrel]; exact .error
  | ok pk =>
    obtain ⟨pat, ks⟩ := pk
    simp only [List.nil_append]
    have hs := addPat_spec canAdd v bt (absAux t []) pat ks
    revert hs
    generalize addSpec canAdd v bt (absAux t []) pat ks = sp, addPat canAdd (absAux t []) pat ks v bt = r,
      RTree.add canAdd t expr v bt = r'
    intro hs hrel
    cases hrel with
    | error => cases hs; exact .error
    | ok hu => cases hs with | ok hs => exact .ok fun p => (hu.2 p).trans (hs p).symm

end RTree
end Heimdall
