import HeimdallModel.Spec.ForwardedTrust
import HeimdallModel.Lemmas.Basic
/-!
# Lemmas for C09 (request view, forwarded headers, trusted proxies)

In this order: ASCII case folding and `canonKey`; `Header.Get` / `Values` on canonicalised lines and after `Del`;
`trustedPeer` against `Listed`; the view, the headers shown to mechanisms and the forwarded family sent upstream.
-/
namespace Heimdall.Fwd

theorem lowerAscii_toNat (c : Char) :
    (lowerAscii c).toNat = if 65 ≤ c.toNat ∧ c.toNat ≤ 90 then c.toNat + 32 else c.toNat := by
  unfold lowerAscii
  simp only [Bool.and_eq_true, decide_eq_true_eq, char_le_iff, show 'A'.toNat = 65 from rfl,
    show 'Z'.toNat = 90 from rfl]
  split
  · rw [toNat_ofNat_small (by omega)]
  · rfl

theorem upperAscii_toNat (c : Char) :
    (upperAscii c).toNat = if 97 ≤ c.toNat ∧ c.toNat ≤ 122 then c.toNat - 32 else c.toNat := by
  unfold upperAscii
  simp only [Bool.and_eq_true, decide_eq_true_eq, char_le_iff, show 'a'.toNat = 97 from rfl,
    show 'z'.toNat = 122 from rfl]
  split
  · rw [toNat_ofNat_small (by omega)]
  · rfl

/-- `upperAscii` leaves every character but `a`..`z` as it is; those it moves onto `A`..`Z`, and `lowerAscii` moves
    them back -/
theorem lower_upper (c : Char) : lowerAscii (upperAscii c) = lowerAscii c := by
  by_cases h : 97 ≤ c.toNat ∧ c.toNat ≤ 122
  · apply Char.toNat_inj.mp
    rw [lowerAscii_toNat, lowerAscii_toNat, upperAscii_toNat, if_pos h, if_pos (by omega), if_neg (by omega)]
    omega
  · rw [show upperAscii c = c from Char.toNat_inj.mp (by rw [upperAscii_toNat, if_neg h])]

theorem upper_lower (c : Char) : upperAscii (lowerAscii c) = upperAscii c := by
  by_cases h : 65 ≤ c.toNat ∧ c.toNat ≤ 90
  · apply Char.toNat_inj.mp
    rw [upperAscii_toNat, upperAscii_toNat, lowerAscii_toNat, if_pos h, if_pos (by omega), if_neg (by omega)]
    omega
  · rw [show lowerAscii c = c from Char.toNat_inj.mp (by rw [lowerAscii_toNat, if_neg h])]

theorem lower_lower (c : Char) : lowerAscii (lowerAscii c) = lowerAscii c := by
  rw [← lower_upper (lowerAscii c), upper_lower, lower_upper]

theorem lower_eq_dash (c : Char) : (lowerAscii c = '-') ↔ (c = '-') := by
  rw [← Char.toNat_inj, ← Char.toNat_inj, lowerAscii_toNat, show '-'.toNat = 45 from rfl]
  split <;> omega

/-- `lowerAscii` only moves `A`..`Z` to `a`..`z`, and both ranges are token characters -/
theorem isTokenChar_lower (c : Char) : isTokenChar (lowerAscii c) = isTokenChar c := by
  simp only [isTokenChar, lowerAscii_toNat]
  split
  · have hl : (decide (97 ≤ c.toNat + 32) && decide (c.toNat + 32 ≤ 122)) = true := by simp; omega
    have hu : (decide (65 ≤ c.toNat) && decide (c.toNat ≤ 90)) = true := by simp; omega
    simp only [hl, hu, Bool.true_or, Bool.or_true]
  · rfl

theorem canonChars_map_lower (up : Bool) (cs : List Char) :
    canonChars up (cs.map lowerAscii) = canonChars up cs := by
  induction cs generalizing up with
  | nil => rfl
  | cons c cs ih =>
    simp only [List.map_cons, canonChars, upper_lower, lower_lower]
    have : decide (lowerAscii c = '-') = decide (c = '-') := by simp [lower_eq_dash]
    rw [this, ih]

theorem map_lower_canonChars (up : Bool) (cs : List Char) :
    (canonChars up cs).map lowerAscii = cs.map lowerAscii := by
  induction cs generalizing up with
  | nil => rfl
  | cons c cs ih =>
    simp only [List.map_cons, canonChars, ih]
    cases up <;> simp [lower_upper, lower_lower]

theorem all_token_map_lower (cs : List Char) : (cs.map lowerAscii).all isTokenChar = cs.all isTokenChar := by
  induction cs with
  | nil => rfl
  | cons c cs ih => simp [List.all_cons, isTokenChar_lower, ih]

/-- a header line is filed under the canonical name `K` (valid, and spelt as `canonChars` spells it) exactly when its
    name equals `K` up to ASCII case -/
theorem canonKey_eq_iff (K : String) (hK : K.toList.all isTokenChar = true)
    (hc : canonChars true K.toList = K.toList) (n : String) : canonKey n = K ↔ eqIgnoreCase n K = true := by
  unfold eqIgnoreCase
  rw [beq_iff_eq]
  constructor
  · intro h
    unfold canonKey at h
    split at h
    · have : canonChars true n.toList = K.toList := by rw [← h, String.toList_ofList]
      rw [← map_lower_canonChars true n.toList, this]
    · rw [h]
  · intro h
    have hv : n.toList.all isTokenChar = true := by
      rw [← all_token_map_lower, h, all_token_map_lower]; exact hK
    unfold canonKey
    rw [if_pos hv, ← canonChars_map_lower, h, canonChars_map_lower, hc, String.ofList_toList]

theorem canonKey_beq (K : String) (hK : K.toList.all isTokenChar = true) (hc : canonChars true K.toList = K.toList)
    (n : String) : (canonKey n == K) = eqIgnoreCase n K := by
  rw [Bool.eq_iff_iff, beq_iff_eq]; exact canonKey_eq_iff K hK hc n

/-- looking a canonicalised name up in a table of valid canonical names = comparing the name as sent with the
    entries of the table up to ASCII case -/
theorem contains_canonKey (names : List String)
    (hnames : ∀ K ∈ names, K.toList.all isTokenChar = true ∧ canonChars true K.toList = K.toList) (n : String) :
    names.contains (canonKey n) = names.any (eqIgnoreCase n) := by
  induction names with
  | nil => rfl
  | cons K ks ih =>
    have ⟨⟨hv, hc⟩, hks⟩ := List.forall_mem_cons.mp hnames
    rw [List.contains_cons, List.any_cons, canonKey_beq K hv hc, ih hks]

theorem stripSet_canonical :
    ∀ K ∈ stripSet, K.toList.all isTokenChar = true ∧ canonChars true K.toList = K.toList := by
  decide +kernel

theorem stripSet_contains_canonKey (n : String) : stripSet.contains (canonKey n) = isFamilyName n :=
  contains_canonKey stripSet stripSet_canonical n

/-- deleting the family after canonicalisation = dropping the family lines (any casing) before it -/
theorem strip_canonHeaders (w : Headers) : strip stripSet (canonHeaders w) = canonHeaders (nonFamily w) := by
  have hp : ((fun kv : String × String => !stripSet.contains kv.1) ∘ fun kv : String × String => (canonKey kv.1, kv.2))
      = fun kv => !isFamilyName kv.1 := by
    funext kv; simp only [Function.comp, stripSet_contains_canonKey]
  unfold strip canonHeaders nonFamily
  rw [List.filter_map, hp]

/-- on canonicalised lines, testing for the family name `K` is testing the name as sent up to ASCII case -/
theorem beq_canonKey_comp (K : String) (hK : K ∈ stripSet) :
    ((fun kv : String × String => kv.1 == K) ∘ fun kv : String × String => (canonKey kv.1, kv.2))
      = fun kv => eqIgnoreCase kv.1 K := by
  obtain ⟨hv, hc⟩ := stripSet_canonical K hK
  funext kv
  simp only [Function.comp, canonKey_beq K hv hc]

/-- `Header.Get` on the canonicalised lines = first line with that name, any casing -/
theorem hget_canonHeaders (w : Headers) : ∀ K ∈ stripSet, hget (canonHeaders w) K = firstCI w K := by
  intro K hK
  unfold hget firstCI canonHeaders
  rw [List.find?_map, beq_canonKey_comp K hK]
  cases w.find? (fun kv => eqIgnoreCase kv.1 K) <;> rfl

/-- `Header.Values` on the canonicalised lines = the values of all lines with that name, any casing -/
theorem hvalues_canonHeaders (w : Headers) : ∀ K ∈ stripSet, hvalues (canonHeaders w) K = allCI w K := by
  intro K hK
  unfold hvalues allCI canonHeaders
  rw [List.filter_map, List.map_map, beq_canonKey_comp K hK]
  rfl

/-- `Header.Get` after `Header.Del`: nothing under a deleted name, every other name as before -/
theorem hget_strip (names : List String) (h : Headers) (k : String) :
    hget (strip names h) k = if names.contains k then "" else hget h k := by
  unfold hget strip
  cases hc : names.contains k
  · rw [find?_filter_of_imp h fun kv hkv => by rw [eq_of_beq hkv, hc]; rfl]
    rfl
  · -- every line that survives the deletion has another name
    rw [List.find?_eq_none.mpr fun kv hkv hk => by
      have := (List.mem_filter.mp hkv).2
      rw [eq_of_beq hk, hc] at this; exact Bool.false_ne_true this]
    rfl

theorem hget_strip_of_mem (names : List String) (h : Headers) (k : String) (hk : k ∈ names) :
    hget (strip names h) k = "" := by
  rw [hget_strip, if_pos (List.contains_iff_mem.mpr hk)]

theorem hget_strip_of_not_mem (names : List String) (h : Headers) (k : String) (hk : k ∉ names) :
    hget (strip names h) k = hget h k := by
  rw [hget_strip, if_neg (mt List.contains_iff_mem.mp hk)]

theorem hvalues_strip_of_mem (names : List String) (h : Headers) (k : String) (hk : k ∈ names) :
    hvalues (strip names h) k = [] := by
  unfold hvalues strip
  rw [List.filter_filter, List.map_eq_nil_iff, List.filter_eq_nil_iff]
  intro kv _ hkv
  rw [Bool.and_eq_true, beq_iff_eq] at hkv
  rw [hkv.1, List.contains_iff_mem.mpr hk] at hkv
  exact Bool.false_ne_true hkv.2

/-- lines named `K` (any casing) removed: the first line with another name `K'` is unaffected -/
theorem firstCI_filter_other (w : Headers) (K K' : String) (hne : eqIgnoreCase K K' = false) :
    firstCI (w.filter fun kv => !eqIgnoreCase kv.1 K) K' = firstCI w K' := by
  unfold firstCI
  rw [find?_filter_of_imp]
  intro kv h'
  cases h : eqIgnoreCase kv.1 K
  · rfl
  · rw [eqIgnoreCase, beq_iff_eq] at h h'
    rw [eqIgnoreCase, ← h, h', beq_self_eq_true] at hne
    cases hne

theorem div_eq_iff_range (x d q : Nat) (hd : 0 < d) : x / d = q ↔ q * d ≤ x ∧ x < (q + 1) * d := by
  rw [Nat.div_eq_iff hd, Nat.succ_mul, Nat.lt_iff_le_pred (Nat.add_pos_right _ hd)]

theorem Net.contains_iff_lists (n : Net) (a : Nat) : n.contains a = true ↔ n.lists a := by
  have hdiv : ∀ x k, x / 2 ^ k = n.pre ↔ n.pre * 2 ^ k ≤ x ∧ x < (n.pre + 1) * 2 ^ k :=
    fun x k => div_eq_iff_range x _ _ (Nat.pow_pos (by decide))
  unfold Net.contains Net.lists Net.lo Net.hi Net.bits
  cases isV4Mapped a <;> cases n.v4 <;> simp [hdiv]

theorem Entry.contains_iff_lists (e : Entry) (a : Nat) : e.contains (some a) = true ↔ e.lists a := by
  cases e with
  | single ip => simp [Entry.contains, Entry.lists]
  | net n => simp [Entry.contains, Entry.lists, Net.contains_iff_lists]

theorem trustedPeer_iff_listed (proxies : List String) (remoteAddr : String) :
    trustedPeer proxies remoteAddr = true ↔ Listed proxies remoteAddr := by
  unfold trustedPeer Listed trusted
  rw [List.any_eq_true]
  constructor
  · intro ⟨e, he, hc⟩
    cases hp : parseIP (ipFromHostPort remoteAddr) with
    | none => rw [hp] at hc; cases e <;> simp [Entry.contains] at hc
    | some a =>
      rw [hp] at hc
      obtain ⟨s, hs, hse⟩ := List.mem_filterMap.mp he
      exact ⟨a, rfl, s, hs, e, hse, (Entry.contains_iff_lists e a).mp hc⟩
  · intro ⟨a, hp, s, hs, e, hse, hl⟩
    refine ⟨e, List.mem_filterMap.mpr ⟨s, hs, hse⟩, ?_⟩
    rw [hp]
    exact (Entry.contains_iff_lists e a).mpr hl

theorem effective_of_listed (names proxies : List String) (r : Req) (h : Listed proxies r.remoteAddr) :
    effective names proxies r = canonHeaders r.wire := by
  rw [effective, if_pos ((trustedPeer_iff_listed _ _).mpr h)]

theorem effective_of_not_listed (names proxies : List String) (r : Req) (h : ¬ Listed proxies r.remoteAddr) :
    effective names proxies r = strip names (canonHeaders r.wire) := by
  rw [effective, if_neg (mt (trustedPeer_iff_listed _ _).mp h)]

theorem viewOf_of_no_read (parse : UriParse) (h : Headers) (r : Req)
    (hno : ∀ k ∈ readKeys, hget h k = "") : viewOf parse h r = actualView r := by
  simp only [readKeys, List.forall_mem_cons] at hno
  obtain ⟨h1, h2, h3, h4, h5, h6, -⟩ := hno
  simp [viewOf, actualView, extractMethod, forwardedUri, uriOffer, clientIPs, peerIP, h1, h2, h3, h4, h5, h6, orElse]

theorem viewOf_canonHeaders (parse : UriParse) (r : Req) :
    viewOf parse (canonHeaders r.wire) r = overriddenView parse r := by
  have h := hget_canonHeaders r.wire
  simp only [stripSet, List.forall_mem_cons] at h
  obtain ⟨hFwd, hFor, hProto, hHost, hUri, -, hMethod, -⟩ := h
  simp only [viewOf, overriddenView, extractMethod, forwardedUri, specUri, clientIPs, specAnnounced, peerIP,
    hFwd, hFor, hProto, hHost, hUri, hMethod]

theorem mechHeaders_keys (names : List String) (h : Headers) (r : Req) (hHost : "Host" ∉ names) :
    ∀ kv ∈ mechHeaders (strip names h) r, kv.1 ∉ names := by
  intro kv hkv
  rcases List.mem_cons.mp hkv with rfl | hm
  · exact hHost
  · obtain ⟨k, hk, rfl⟩ := List.mem_map.mp hm
    obtain ⟨kv', hkv', rfl⟩ := List.mem_map.mp (List.mem_eraseDups.mp hk)
    intro hmem
    have := (List.mem_filter.mp hkv').2
    rw [List.contains_iff_mem.mpr hmem] at this
    cases this

theorem filter_strip_comm (p : String × String → Bool) (names : List String) (h : Headers) :
    (strip names h).filter p = strip names (h.filter p) := by
  unfold strip
  rw [List.filter_filter, List.filter_filter]
  apply List.filter_congr
  intro kv _
  exact Bool.and_comm _ _

theorem family_split (k : String) (hk : stripSet.contains k = true) :
    rpStripped.contains k = true ∨ outDel.contains k = true := by
  simp only [stripSet, rpStripped, outDel, List.contains_cons, List.contains_nil, Bool.or_false, Bool.or_eq_true,
    beq_iff_eq] at *
  rcases hk with h | h | h | h | h | h | h <;> simp [h]

/-- nothing of the forwarded family survives `ReverseProxy` (Rewrite set) and the deletions of rewriteRequest -/
theorem family_gone (h : Headers) :
    (strip outDel (strip rpStripped h)).filter (fun kv => stripSet.contains kv.1) = [] := by
  rw [List.filter_eq_nil_iff]
  intro kv hkv hfam
  have h1 := List.mem_filter.mp hkv
  have h2 := List.mem_filter.mp h1.1
  rcases family_split kv.1 hfam with hc | hc
  · rw [hc] at h2; cases h2.2
  · rw [hc] at h1; cases h1.2

theorem filter_family_hset {S : List String} (x : Headers) (k v : String) (hk : S.contains k = true) :
    (hset x k v).filter (fun kv => S.contains kv.1) =
      strip [k] (x.filter fun kv => S.contains kv.1) ++ [(k, v)] := by
  unfold hset
  rw [List.filter_append, filter_strip_comm]
  simp [List.contains_iff_mem.mp hk]

/-- the forwarded family as rewriteRequest creates it from what it received: the joined `X-Forwarded-For` list `ff`,
    the `X-Forwarded-Proto` / `-Host` values `fp`, `fh`, the joined `Forwarded` list `fw` -/
def recreated (ff fp fh fw : String) (r : Req) : Headers :=
  if ff ≠ "" ∨ fp ≠ "" ∨ fh ≠ "" then
    [("X-Forwarded-For", if ff = "" then peerIP r else ff ++ ", " ++ peerIP r),
     ("X-Forwarded-Proto", orElse fp (proto r)),
     ("X-Forwarded-Host", orElse fh r.host)]
  else
    [("Forwarded", if fw = "" then ownForwarded r else fw ++ ", " ++ ownForwarded r)]

/-- the forwarded family as the upstream receives it: only what rewriteRequest creates -/
theorem upstreamFwd_eq (h : Headers) (r : Req) :
    upstreamFwd h r = recreated (joinList (hvalues h "X-Forwarded-For")) (hget h "X-Forwarded-Proto")
      (hget h "X-Forwarded-Host") (joinList (hvalues h "Forwarded")) r := by
  unfold upstreamFwd upstreamHeaders recreated ownForwarded peerIP
  simp only [Bool.or_eq_true, decide_eq_true_eq, or_assoc]
  split
  · rw [filter_family_hset _ _ _ (by simp [stripSet]), filter_family_hset _ _ _ (by simp [stripSet]),
      filter_family_hset _ _ _ (by simp [stripSet]), family_gone]
    simp [strip]
  · rw [filter_family_hset _ _ _ (by simp [stripSet]), family_gone]
    simp [strip]

/-- the upstream of a request whose lines all reach rewriteRequest (trusted peer) -/
theorem upstreamFwd_canonHeaders (r : Req) : upstreamFwd (canonHeaders r.wire) r = extendedUpstream r := by
  have hg := hget_canonHeaders r.wire
  have hv := hvalues_canonHeaders r.wire
  simp only [stripSet, List.forall_mem_cons] at hg hv
  obtain ⟨vFwd, vFor, -⟩ := hv
  obtain ⟨-, -, gProto, gHost, -⟩ := hg
  rw [upstreamFwd_eq, vFwd, vFor, gProto, gHost]
  rfl

/-- `ipFromHostPort` on the characters of the address (a string literal is `String.ofList` of its characters, and `rw`
finds it as such) -/
theorem ipFromHostPort_ofList (l : List Char) :
    ipFromHostPort (String.ofList l) =
      match splitHost l with
      | some h => String.ofList h
      | none => "" := by
  simp only [ipFromHostPort, String.toList_ofList]; rfl

end Heimdall.Fwd
