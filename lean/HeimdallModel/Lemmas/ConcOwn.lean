import HeimdallModel.Lemmas.Conc
/-! Ownership of the commit log: every successfully completed change is in the log exactly once (whatever the
release discipline, whatever number of lookups and changes panic). -/
namespace Heimdall.Conc

variable {K T Op Req Ans : Type}

def committed : Thread K T Op Req Ans → Prop
  | .writer _ pc _ => pc = .indexWritten ∨ pc = .rwReleased ∨ pc = .doneOk
  | _ => False

def opOf : Thread K T Op Req Ans → Option Op
  | .writer op _ _ => some op
  | _ => none

structure OInv (c : Config K T Op Req Ans) : Prop where
  nodup : c.owners.Nodup
  mem   : ∀ j, j ∈ c.owners ↔ committed (c.threads j)
  ops   : c.owners.map (fun j => opOf (c.threads j)) = c.log.map some

/-- a step that commits nothing and moves thread `i` between places of the same commit status -/
theorem oinv_of_eq {c c' : Config K T Op Req Ans} {i : Nat} {t : Thread K T Op Req Ans} (h : OInv c)
    (hlog : c'.log = c.log) (hown : c'.owners = c.owners) (ht : c'.threads = upd c.threads i t)
    (hcom : committed t ↔ committed (c.threads i)) (hop : opOf t = opOf (c.threads i)) :
    OInv c' := by
  refine ⟨hown ▸ h.nodup, ?_, ?_⟩
  · rw [hown, ht]
    exact forall_upd (P := fun j t => j ∈ c.owners ↔ committed t) ((h.mem i).trans hcom.symm) fun j _ => h.mem j
  · rw [hown, hlog, ← h.ops, ht]
    exact List.map_congr_left fun j _ =>
      forall_upd (P := fun j t => opOf t = opOf (c.threads j)) hop (fun _ _ => rfl) j

/-- the one edge into `indexWritten` leaves `rwHeld`; no other edge changes whether the change is published -/
theorem commit_edges : ∀ e ∈ writerEdges, (e.2.2 = .indexWritten → e.1 = .rwHeld) ∧
    (e.2.2 ≠ .indexWritten → ((e.2.2 = .indexWritten ∨ e.2.2 = .rwReleased ∨ e.2.2 = .doneOk) ↔
      (e.1 = .indexWritten ∨ e.1 = .rwReleased ∨ e.1 = .doneOk))) := by decide

theorem oinv_step (d : Discipline) (s : Seq K T Op Req Ans) (c c' : Config K T Op Req Ans)
    (ho : OInv c) (hs : Step d s c c') : OInv c' := by
  cases step_move hs with
  | @reader i rq pc a st n pc' a' st' n' ev h ht _ _ _ hlog hown =>
    exact oinv_of_eq ho hlog hown ht (by rw [h]; exact Iff.rfl) (by rw [h]; rfl)
  | @writer i op pc loc pc' loc' ev h ht he _ _ hlog =>
    rcases hlog with ⟨rfl, hlog, hown⟩ | ⟨hne, hlog, hown⟩
    · have hpc : pc = .rwHeld := (commit_edges _ he).1 rfl
      have hni : i ∉ c.owners := fun hm => by
        have := (ho.mem i).mp hm
        rw [h, hpc] at this; simp [committed] at this
      refine ⟨?_, ?_, ?_⟩
      · rw [hown]
        refine List.nodup_append.mpr ⟨ho.nodup, by simp, fun a ha b hb e => ?_⟩
        rw [List.mem_singleton.mp hb] at e; exact hni (e ▸ ha)
      · rw [hown, ht]
        exact forall_upd (P := fun j t => j ∈ c.owners ++ [i] ↔ committed t) (by simp [committed])
          fun j e => by simp [e, ho.mem j]
      · rw [hown, hlog, ht]
        simp only [List.map_append, List.map_cons, List.map_nil, upd_same]
        rw [← ho.ops]
        congr 1
        refine List.map_congr_left fun j hj => ?_
        have : j ≠ i := fun e => hni (e ▸ hj)
        rw [upd_other _ _ _ _ this]
    · exact oinv_of_eq ho hlog hown ht (by rw [h]; exact (commit_edges _ he).2 hne) (by rw [h]; rfl)

theorem oinv_initial (s : Seq K T Op Req Ans) (c : Config K T Op Req Ans) (h : Initial s c) : OInv c := by
  refine ⟨by simp [h.owners], fun j => ?_, by simp [h.log, h.owners]⟩
  rcases h.threads j with ⟨op, loc, e⟩ | ⟨rq, e⟩ <;> simp [e, h.owners, committed]

theorem oinv_reachable (d : Discipline) (s : Seq K T Op Req Ans) (c : Config K T Op Req Ans)
    (h : Reachable d s c) : OInv c :=
  h.of_step (oinv_initial s) (oinv_step d s)

end Heimdall.Conc
