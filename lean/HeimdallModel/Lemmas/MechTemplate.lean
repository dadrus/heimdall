import HeimdallModel.Lemmas.MechHistory
/-!
# Histories of creations and executions (C17): an execution renders what the object renders when created alone

`Answers` is the invariant of such a history; the `Tpl` part at the end is about the template package itself: parsing a
text from its characters, and one shared table of named templates against a table per template.
-/
namespace Heimdall.Mech

variable {Inp Out : Type}

/-- the invariant of a history on the catalogue `σ₀`: the store extends the catalogue, what has been handed out so far
answers the requests made so far as if each had been alone, and the objects handed out exist -/
structure Answers (σ₀ σ : Store Entries Override) (hs : List Handed) (reqs : List CreateReq) : Prop where
  cat : Closed σ₀
  ext : Extends σ₀ σ
  len : hs.length = reqs.length
  obs : ∀ p ∈ hs.zip reqs, p.1.observed σ = createAlone σ₀ p.2
  live : ∀ h ∈ hs, ∀ x, h.inst = some x → ∃ i : Inst, σ.insts[x]? = some i

theorem Answers.nil {σ₀ : Store Entries Override} (h : Closed σ₀) : Answers σ₀ σ₀ [] [] :=
  ⟨h, Extends.refl h, rfl, fun _ hp => (by cases hp), fun _ hh => (by cases hh)⟩

theorem Answers.obs_at {σ₀ σ : Store Entries Override} {hs : List Handed} {reqs : List CreateReq}
    (ha : Answers σ₀ σ hs reqs) {k : Nat} {h : Handed} (hk : hs[k]? = some h) :
    ∃ r, reqs[k]? = some r ∧ h.observed σ = createAlone σ₀ r := by
  have hlt : k < reqs.length := ha.len ▸ (List.getElem?_eq_some_iff.mp hk).1
  exact ⟨reqs[k], List.getElem?_eq_getElem hlt, ha.obs (h, reqs[k])
    (List.mem_of_getElem? (List.getElem?_zip_eq_some.mpr ⟨hk, List.getElem?_eq_getElem hlt⟩))⟩

/-- a creation keeps the invariant: the earlier answers are observed unchanged in the extended store, the new one is
the answer on the catalogue because the store extends the catalogue -/
theorem Answers.create {σ₀ σ : Store Entries Override} {hs : List Handed} {reqs : List CreateReq}
    (ha : Answers σ₀ σ hs reqs) {r : CreateReq} (hr : Known σ₀ r) :
    Answers σ₀ ((create σ r.1 r.2).store σ) (hs ++ [(create σ r.1 r.2).handed]) (reqs ++ [r]) := by
  have he := create_extends ha.ext.closed r.1 r.2
  refine ⟨ha.cat, ha.ext.trans he, by simp [ha.len], fun p hp => ?_, fun h' hh' => ?_⟩
  · rw [List.zip_append ha.len] at hp
    rcases List.mem_append.mp hp with hp | hp
    · exact (observed_extends he (ha.live p.1 (List.of_mem_zip hp).1)).trans (ha.obs p hp)
    · cases List.mem_singleton.mp hp
      exact (createAlone_eq σ r).symm.trans (createAlone_extends ha.ext ha.cat hr)
  · rcases List.mem_append.mp hh' with hh' | hh'
    · exact fun x hx => (ha.live h' hh' x hx).imp fun i hi => he.insts x i hi
    · cases List.mem_singleton.mp hh'; exact create_live r.2 (hr.extends ha.ext)

theorem runHist_create (ρ : Entries → Inp → Out) (σ : Store Entries Override) (hs : List Handed) (r : CreateReq)
    (rest : List (HEv Inp)) :
    runHist ρ σ hs (.create r :: rest) =
      runHist ρ ((create σ r.1 r.2).store σ) (hs ++ [(create σ r.1 r.2).handed]) rest := by
  rw [runHist]; cases create σ r.1 r.2 <;> rfl

/-- an execution renders what the object of the k-th request renders alone -/
theorem execOut_alone (ρ : Entries → Inp → Out) {σ₀ σ : Store Entries Override} {hs : List Handed}
    {reqs : List CreateReq} (ha : Answers σ₀ σ hs reqs) (k : Nat) (inp : Inp) :
    execOut ρ σ hs k inp = (reqs[k]?).bind fun r => aloneOut ρ σ₀ r inp := by
  unfold execOut
  cases hk : hs[k]? with
  | none =>
    have : reqs[k]? = none := by
      rw [List.getElem?_eq_none_iff] at hk ⊢
      rw [← ha.len]; exact hk
    simp [this]
  | some h =>
    obtain ⟨r, hr, hobs⟩ := ha.obs_at hk
    rw [hr, Option.bind_some, aloneOut, ← hobs]
    cases h <;> rfl

theorem runHist_kth (ρ : Entries → Inp → Out) (σ₀ : Store Entries Override) (pre : List (HEv Inp)) :
    ∀ (σ : Store Entries Override) (hs : List Handed) (reqs : List CreateReq), Answers σ₀ σ hs reqs →
    (∀ r ∈ reqsOf pre, Known σ₀ r) →
    ∀ (post : List (HEv Inp)) (k : Nat) (inp : Inp),
    (runHist ρ σ hs (pre ++ .exec k inp :: post))[(execsOf pre).length]? =
      some (k, inp, ((reqs ++ reqsOf pre)[k]?).bind fun r => aloneOut ρ σ₀ r inp) := by
  induction pre with
  | nil =>
    intro σ hs reqs ha _ post k inp
    simp only [List.nil_append, execsOf, List.length_nil, runHist, List.getElem?_cons_zero, reqsOf, List.append_nil]
    rw [execOut_alone ρ ha k inp]
  | cons ev pre ih =>
    intro σ hs reqs ha hcat post k inp
    cases ev with
    | exec k' inp' =>
      simp only [List.cons_append, execsOf, List.length_cons, runHist, List.getElem?_cons_succ, reqsOf]
      exact ih σ hs reqs ha (fun r hr => hcat r (by simpa [reqsOf] using hr)) post k inp
    | create r =>
      have := ih _ _ _ (ha.create (hcat r (by simp [reqsOf]))) (fun r' hr' => hcat r' (by simp [reqsOf, hr'])) post k inp
      simpa only [List.cons_append, runHist_create, execsOf, reqsOf, List.append_assoc, List.cons_append, List.nil_append] using this

namespace Tpl

/-- `parse` on the characters of the text (a string literal is `String.ofList` of its characters) -/
theorem parse_ofList (cs : List Char) :
    parse (String.ofList cs) =
      ((lex false cs []).bind fun ts => build ts none []).bind fun src => if wellFormed src then some src else none := by
  rw [parse, String.toList_ofList]
  cases (lex false cs []).bind fun ts => build ts none [] <;> rfl

/-- as long as no template declares a named template, one shared table cannot be told from own tables -/
theorem runShared_eq_runOwn_of_no_defs (evs : List TEv) : ∀ (objs : List Src),
    (∀ s ∈ objs, defsOf s = []) → (∀ s ∈ newsOf evs, defsOf s = []) → runShared [] objs evs = runOwn objs evs := by
  induction evs with
  | nil => intro objs _ _; rfl
  | cons ev evs ih =>
    intro objs ho hn
    cases ev with
    | new s =>
      have hs : defsOf s = [] := hn s (by simp [newsOf])
      simp only [runShared, runOwn, hs, List.foldl_nil]
      refine ih (objs ++ [s]) ?_ (fun s' hs' => hn s' (by simp [newsOf, hs']))
      intro s' hs'
      rcases List.mem_append.mp hs' with h | h
      · exact ho s' h
      · simp only [List.mem_singleton] at h; subst h; exact hs
    | render k inp =>
      simp only [runShared, runOwn]
      rw [ih objs ho (fun s' hs' => hn s' (by simpa [newsOf] using hs'))]
      congr 1
      cases hk : objs[k]? with
      | none => rfl
      | some s =>
        have : defsOf s = [] := ho s (List.mem_of_getElem? hk)
        simp [renderOwn, this]

end Tpl

end Heimdall.Mech
