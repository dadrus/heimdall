import HeimdallModel.Lemmas.ProvidersBlob
import HeimdallModel.Lemmas.ProvidersK8s
/-! Helper lemmas for C18: from the per-step contract to histories; `Start` of the file_system provider as a history -/
set_option linter.unusedSectionVars false

namespace Heimdall.Prov

variable {σ : Type} [DecidableEq σ]

theorem run_nil (step : St σ → ε → Out σ) (st : St σ) : run step st [] = st := rfl
theorem run_cons (step : St σ → ε → Out σ) (st : St σ) (e : ε) (es : List ε) :
    run step st (e :: es) = run step (step st e).st es := rfl

theorem run_append (step : St σ → ε → Out σ) (st : St σ) (es fs : List ε) :
    run step st (es ++ fs) = run step (run step st es) fs := by
  induction es generalizing st with
  | nil => rfl
  | cons e es ih => simp [run_cons, ih]

theorem forall_mem_snoc {α : Type} {p : α → Prop} {l : List α} {a : α} (hl : ∀ x ∈ l, p x) (ha : p a) :
    ∀ x ∈ l ++ [a], p x :=
  List.forall_mem_append.mpr ⟨hl, List.forall_mem_singleton.mpr ha⟩

theorem Obs.next_idem (o : Obs) (d : Option Hash) : o.next (o.next d) = o.next d := by
  cases o <;> rfl

/-! what one more input does to the latest valid content of a source -/

theorem Provider.desired_snoc {ε : Type} (P : Provider σ ε) (es : List ε) (e : ε) (s : σ) :
    desired ((es ++ [e]).map (P.obs · s)) = (P.obs e s).next (desired (es.map (P.obs · s))) := by
  unfold desired; rw [List.map_append, List.foldl_append]; rfl

theorem Provider.obs_of_not_rej {ε : Type} (P : Provider σ ε) {e : ε} {s : σ} (h : s ∉ P.rej e) :
    P.obs e s = P.shows e s :=
  if_neg h

theorem Provider.obs_next_eq {ε : Type} (P : Provider σ ε) {e : ε} {s : σ} {d : Option Hash}
    (h : (P.shows e s).next d = d) : (P.obs e s).next d = d := by
  unfold Provider.obs; split
  · rfl
  · exact h

section
variable {ε : Type} (P : Provider σ ε) (hP : P.Correct)
include hP

theorem run_desired (es : List ε) (st : St σ) (hi : Inv st) (hg : P.good st) (hes : ∀ e ∈ es, P.admissible e) :
    Inv (run P.step st es) ∧ P.good (run P.step st es) ∧
      ∀ s, (run P.step st es).book.get s = (es.map (P.obs · s)).foldl Obs.next (st.book.get s) := by
  induction es generalizing st with
  | nil => exact ⟨hi, hg, fun _ => rfl⟩
  | cons e es ih =>
    obtain ⟨h1, h2, h3, _⟩ := hP.step st e hi hg (hes e (List.mem_cons_self ..))
    obtain ⟨k1, k2, k3⟩ := ih _ h1 h2 fun x hx => hes x (List.mem_cons_of_mem _ hx)
    exact ⟨k1, k2, fun s => by rw [run_cons, k3 s, h3 s]; rfl⟩

/-- What every statement of `Props/C18.lean` about histories starts from: after any history of admissible inputs of a
provider that keeps the contract, the repository is the book, the provider's own invariant holds, and the digest
remembered for a source is the latest valid content its observations show. -/
theorem history (es : List ε) (hes : ∀ e ∈ es, P.admissible e) :
    Inv (P.after es) ∧ P.good (P.after es) ∧
      ∀ s, (P.after es).book.get s = desired (es.map (P.obs · s)) :=
  run_desired P hP es St.init inv_init hP.init hes

end

/-- a successful initial load is the history of one create notification per source -/
theorem fsInit_run (rej : List σ) (files : List (σ × FileState)) (st : St σ) (h : (fsInit rej st files).err = false) :
    (fsInit rej st files).st = run fsStep st (files.map fun p => ⟨[.create], p.1, p.2, rej⟩) := by
  induction files generalizing st with
  | nil => rfl
  | cons p files ih =>
    obtain ⟨n, f⟩ := p
    simp only [fsInit] at h ⊢
    cases he : (fsCreatedOrUpdated rej st n f).err with
    | true => simp [he] at h
    | false =>
      simp only [he, Bool.false_eq_true, if_false] at h ⊢
      -- `fsStep` hands a create notification to `fsCreatedOrUpdated`: the two sides agree by unfolding `run` once
      exact ih _ h

theorem fsInit_after (rej : List σ) (files : List (σ × FileState)) (h : (fsInit rej St.init files).err = false)
    (es : List (FsEvent σ)) :
    run fsStep (fsInit rej St.init files).st es =
      (fileSystem : Provider σ _).after (files.map (fun p => ⟨[.create], p.1, p.2, rej⟩) ++ es) := by
  show _ = run fsStep St.init _
  rw [run_append, fsInit_run rej _ St.init h]

theorem mem_fsSources {entries : List (σ × EntryKind × FileState)} {p : σ × FileState} :
    p ∈ fsSources entries ↔ ∃ k, (p.1, k, p.2) ∈ entries ∧ k ≠ .directory := by
  unfold fsSources
  rw [List.mem_filterMap]
  constructor
  · rintro ⟨⟨n, k, f⟩, he, hp⟩
    by_cases hk : k = .directory
    · simp [hk] at hp
    · simp only [hk, if_false, Option.some.injEq] at hp
      subst hp; exact ⟨k, he, hk⟩
  · rintro ⟨k, he, hk⟩
    exact ⟨_, he, by simp [hk]⟩

theorem fsCreate_obs {rej : List σ} {n : σ} (hacc : n ∉ rej) (a : σ) (f : FileState) :
    (fileSystem : Provider σ _).obs ⟨[.create], a, f, rej⟩ n = if a = n then f.obs else .noinfo :=
  (if_neg (c := n ∈ rej) hacc).trans rfl

theorem desired_of_shown (f : ε → Obs) (h : Hash) (l : List ε) (d : Option Hash)
    (hall : ∀ x ∈ l, f x = .noinfo ∨ f x = .content h) (hsome : d = some h ∨ ∃ x ∈ l, f x = .content h) :
    (l.map f).foldl Obs.next d = some h := by
  induction l generalizing d with
  | nil =>
    rcases hsome with hd | ⟨x, hx, _⟩
    · exact hd
    · simp at hx
  | cons x l ih =>
    rw [List.map_cons, List.foldl_cons]
    apply ih _ (fun y hy => hall y (List.mem_cons_of_mem _ hy))
    rcases hall x (List.mem_cons_self ..) with hx | hx
    · rw [hx]
      rcases hsome with hd | ⟨y, hy, hfy⟩
      · exact Or.inl hd
      · rcases List.mem_cons.mp hy with e | hy'
        · subst e; rw [hx] at hfy; cases hfy
        · exact Or.inr ⟨y, hy', hfy⟩
    · rw [hx]; exact Or.inl rfl

theorem HttpOutcome.truncated_of_incomplete {o : HttpOutcome} (h : o.incomplete = true) : ∃ x, o = .truncated x := by
  cases o with
  | truncated x => exact ⟨x, rfl⟩
  | _ => cases h

theorem BlobState.truncated_of_incomplete {b : BlobState} (h : b.incomplete = true) : ∃ x, b = .truncated x := by
  cases b with
  | truncated x => exact ⟨x, rfl⟩
  | _ => cases h

end Heimdall.Prov
