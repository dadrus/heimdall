import HeimdallModel.Spec.SignerTime
import HeimdallModel.Lemmas.Basic
/-! Helper lemmas about key stores, `load`, verification against the published list and reload histories, with and
without a clock, and about key stores that list one key under several ids (C16) -/
namespace Heimdall.Signer

variable {α : Type} {keyID : String} {raw : List RawEntry} {known : List String} {es : List Entry} {e : Entry}
  {js ks : List Jwk} {j : Jwk} {st : State} {t : Token α}

/-- the optional members of `jwkMembers` (`kid`, `alg`, `use`, `x5c`) have this shape -/
theorem mem_optional {c : Prop} [Decidable c] {a m : String} (h : m ∈ if c then [] else [a]) : m = a := by
  split at h
  · cases h
  · exact List.mem_singleton.mp h

/-- the entry `verifyAndBuildKeyStore` makes of one key block -/
def entryOf (e : RawEntry) : Entry := ⟨kidOf e, e.key, e.chain, e.signUsable⟩

/-- `Entry.JWK` with `""` where the key size has no algorithm (`load` excludes that) -/
def Entry.jwkD (e : Entry) : Jwk := ⟨e.kid, (joseAlg e.key.pub).getD "", "sig", e.key.pub, e.chain⟩

/-- the JWK `load` publishes for a key block -/
def jwkOf (e : RawEntry) : Jwk := (entryOf e).jwkD

/-- `SelectKey` read on the key blocks -/
def pick (keyID : String) (raw : List RawEntry) : Option RawEntry :=
  if keyID = "" then raw.head? else raw.find? (fun e => kidOf e = keyID)

/-- when `verifyAndBuildKeyStore` succeeds, and with what: every key block becomes an entry, in file order — whether or
not key material repeats —, no block has a chain that does not validate, the ids are distinct and none is `known` -/
theorem buildStore_iff : buildStore raw known = some es ↔
    es = raw.map entryOf ∧ (∀ e ∈ raw, ¬ (e.chain ≠ [] ∧ e.chainValid = false)) ∧ (raw.map kidOf).Nodup ∧
      ∀ e ∈ raw, kidOf e ∉ known := by
  induction raw generalizing known es with
  | nil => exact ⟨fun h => ⟨(Option.some.inj h).symm, nofun, List.nodup_nil, nofun⟩, fun h => h.1 ▸ rfl⟩
  | cons e rest ih =>
    simp only [buildStore, List.map_cons, List.forall_mem_cons, List.nodup_cons]
    split
    · exact ⟨nofun, fun h => (h.2.1.1 ‹_›).elim⟩
    split
    · exact ⟨nofun, fun h => (h.2.2.2.1 ‹_›).elim⟩
    rename_i hv hk
    simp only [Option.map_eq_some_iff, ih, List.mem_cons, not_or, List.mem_map]
    constructor
    · rintro ⟨_, ⟨rfl, hval, hn, hkn⟩, rfl⟩
      exact ⟨rfl, ⟨hv, hval⟩, ⟨fun ⟨x, hx, he⟩ => (hkn x hx).1 he, hn⟩, hk, fun x hx => (hkn x hx).2⟩
    · rintro ⟨rfl, ⟨_, hval⟩, ⟨hne, hn⟩, _, hkn⟩
      exact ⟨_, ⟨rfl, hval, hn, fun x hx => ⟨fun he => hne ⟨x, hx, he⟩, hkn x hx⟩⟩, rfl⟩

/-- the id of a key block is never empty: an `X-Key-ID`, a subject key identifier, or the computed one -/
theorem kidOf_ne_empty (e : RawEntry) : kidOf e ≠ "" := by
  have hauto : autoKid e.key.pub ≠ "" := by
    intro h
    have := congrArg String.length h
    simp [autoKid, String.length_append] at this
  unfold kidOf
  split
  · unfold genKid
    split
    · split
      · exact hauto
      · assumption
    · exact hauto
  · assumption

theorem Entry.alg_jwkD (h : e.supported = true) : joseAlg e.key.pub = some e.jwkD.alg := by
  obtain ⟨a, ha⟩ := Option.isSome_iff_exists.mp h
  rw [Entry.jwkD, ha]; rfl

theorem Entry.jwk_eq (h : e.supported = true) : e.jwk = some e.jwkD := by
  rw [Entry.jwk, Entry.alg_jwkD h]; rfl

/-- after the support check the list of JWKs is the list of entries, each through `Entry.JWK` -/
theorem allJwks_eq (es : List Entry) (h : es.all Entry.supported = true) : allJwks es = some (es.map Entry.jwkD) := by
  induction es with
  | nil => rfl
  | cons e rest ih =>
    simp only [List.all_cons, Bool.and_eq_true] at h
    simp [allJwks, Entry.jwk_eq h.1, ih h.2]

/-- after the support check `JWK()` of every entry is defined -/
theorem allJwks_of_supported (es : List Entry) (h : es.all Entry.supported = true) : (allJwks es).isSome = true := by
  rw [allJwks_eq es h]; rfl

theorem selectEntry_map (keyID : String) (raw : List RawEntry) :
    selectEntry keyID (raw.map entryOf) = (pick keyID raw).map entryOf := by
  unfold selectEntry pick
  split
  · exact List.head?_map
  · exact List.find?_map

theorem pick_mem {e : RawEntry} (h : pick keyID raw = some e) : e ∈ raw := by
  unfold pick at h
  split at h
  · exact List.mem_of_head? h
  · exact List.mem_of_find?_eq_some h

/-- with distinct ids every block is selected through its own id -/
theorem pick_kidOf {e : RawEntry} (hn : (raw.map kidOf).Nodup) (he : e ∈ raw) : pick (kidOf e) raw = some e := by
  rw [pick, if_neg (kidOf_ne_empty e)]
  exact find_of_nodup kidOf hn he

/-- the key store file `raw` loads under the configured `keyID`, and `e` is the key block selected: every chain
validates, the ids are distinct, every key size has an algorithm, the selected block's certificate may sign -/
structure Loads (keyID : String) (raw : List RawEntry) (e : RawEntry) : Prop where
  chains    : ∀ x ∈ raw, ¬ (x.chain ≠ [] ∧ x.chainValid = false)
  kids      : (raw.map kidOf).Nodup
  -- per block: this form survives erasing the secrets (the entries change, whether they are supported does not)
  supported : ∀ x ∈ raw, (entryOf x).supported = true
  selected  : pick keyID raw = some e
  usable    : e.chain = [] ∨ e.signUsable = true

/-- `load` on the key blocks of the file: it succeeds exactly when some block `e` is selected with `Loads`, and then
the state is made of `e` and publishes one JWK per block -/
theorem load_iff : load keyID raw = some st ↔ ∃ e, Loads keyID raw e ∧ st = ⟨jwkOf e, e.key, raw.map jwkOf⟩ := by
  unfold load
  constructor
  · intro h
    split at h
    · cases h
    rename_i es hb
    obtain ⟨rfl, hch, hn, _⟩ := buildStore_iff.mp hb
    rw [selectEntry_map] at h
    cases hp : pick keyID raw with
    | none => simp [hp] at h
    | some e =>
      simp only [hp, Option.map_some] at h
      split at h
      · cases h
      rename_i hsup
      split at h
      · cases h
      rename_i huse
      simp only [Bool.not_eq_false] at hsup
      have hsup' := List.forall_mem_map.mp (List.all_eq_true.mp hsup)
      have huse : ¬ (e.chain ≠ [] ∧ e.signUsable = false) := huse
      rw [allJwks_eq _ hsup, Entry.jwk_eq (hsup' e (pick_mem hp)), List.map_map] at h
      exact ⟨e, ⟨hch, hn, hsup', hp, Decidable.or_iff_not_not_and_not.mpr (by simpa using huse)⟩, (Option.some.inj h).symm⟩
  · rintro ⟨e, ⟨hch, hn, hsup, hp, huse⟩, rfl⟩
    have huse : ¬ ((entryOf e).chain ≠ [] ∧ (entryOf e).signUsable = false) := fun ⟨h1, h2⟩ =>
      huse.elim h1 fun h => Bool.noConfusion (h.symm.trans h2)
    have hall := List.all_eq_true.mpr (List.forall_mem_map.mpr hsup)
    simp only [buildStore_iff.mpr ⟨rfl, hch, hn, fun _ _ => List.not_mem_nil⟩, selectEntry_map, hp, Option.map_some, hall,
      allJwks_eq _ hall, Entry.jwk_eq (hsup e (pick_mem hp)), if_neg huse, List.map_map]
    rfl

theorem load_eq_none (h : ∀ e, ¬ Loads keyID raw e) : load keyID raw = none :=
  Option.eq_none_iff_forall_ne_some.mpr fun _ hs => (load_iff.mp hs).elim fun e L => h e L.1

theorem Loads.alg {e x : RawEntry} (L : Loads keyID raw e) (hx : x ∈ raw) : joseAlg x.key.pub = some (jwkOf x).alg :=
  Entry.alg_jwkD (L.supported x hx)

theorem load_consistent (h : load keyID raw = some st) :
    Consistent st := by
  obtain ⟨e, L, rfl⟩ := load_iff.mp h
  exact {
    active_published := List.mem_map_of_mem (pick_mem L.selected)
    pair := rfl
    kids_unique := by rw [List.map_map]; exact L.kids
    alg_of_key := L.alg (pick_mem L.selected)
    all_sig := fun j hj => by
      obtain ⟨x, hx, rfl⟩ := List.mem_map.mp hj
      exact ⟨rfl, L.alg hx⟩ }

theorem verifiesWith_own {jwk : Jwk} {key : PrivKey} {i : SignIn} {custom : Claims α} (hp : jwk.pub = key.pub) :
    verifiesWith jwk (signWith jwk key i custom) = true := by
  simp [verifiesWith, signWith, hp]

/-- in a list with unique ids the JWK carrying the token's id decides -/
theorem verifiesFirst_of_mem (hn : (ks.map (·.kid)).Nodup) (hj : j ∈ ks)
    (hk : j.kid = t.kid) : verifiesFirst ks t = verifiesWith j t := by
  unfold verifiesFirst
  rw [← hk, find_of_nodup (·.kid) hn hj]

theorem verifiesAny_of_mem (hm : j ∈ ks) (hv : verifiesWith j t = true) :
    verifiesAny ks t = true := List.any_eq_true.mpr ⟨j, hm, hv⟩

theorem not_verifies_of_no_kid (h : ∀ x ∈ ks, x.kid ≠ t.kid) :
    verifiesAny ks t = false ∧ verifiesFirst ks t = false := by
  refine ⟨List.any_eq_false.mpr fun x hx => by simp [verifiesWith, h x hx], ?_⟩
  unfold verifiesFirst
  rw [List.find?_eq_none.mpr fun x hx => by simpa using h x hx]

/-- the JWK under which a consistent generation still lists the key of the generation `issuing` verifies the tokens
of `issuing`: it carries the algorithm of the key's size, as the token does -/
theorem verifiesWith_of_kept {issuing current : State} (hi : Consistent issuing) (hc : Consistent current) {j : Jwk}
    (hj : j ∈ current.pubKeys) (hkid : j.kid = issuing.jwk.kid) (hpub : j.pub = issuing.key.pub) (i : SignIn)
    (custom : Claims α) : verifiesWith j (sign issuing i custom) = true := by
  have halg : some j.alg = some issuing.jwk.alg := by rw [← (hc.all_sig j hj).2, hpub, hi.alg_of_key]
  simp [verifiesWith, sign, signWith, hkid, Option.some.inj halg, hpub]

theorem verifiesFirst_of_kept {issuing current : State} (hi : Consistent issuing) (hc : Consistent current)
    (hk : KeyKept issuing current) (i : SignIn) (custom : Claims α) :
    verifiesFirst current.pubKeys (sign issuing i custom) = true := by
  obtain ⟨j, hj, hkid, hpub⟩ := hk
  exact (verifiesFirst_of_mem hc.kids_unique hj hkid).trans (verifiesWith_of_kept hi hc hj hkid hpub i custom)

/-- the same at the endpoint, next to any other key holders: some published key verifies -/
theorem verifiesAny_of_kept {holders : List State} {issuing current : State} (hm : current ∈ holders)
    (hi : Consistent issuing) (hc : Consistent current) (hk : KeyKept issuing current) (i : SignIn)
    (custom : Claims α) : verifiesAny (published holders) (sign issuing i custom) = true := by
  obtain ⟨j, hj, hkid, hpub⟩ := hk
  exact verifiesAny_of_mem (List.mem_flatMap.mpr ⟨current, hm, hj⟩) (verifiesWith_of_kept hi hc hj hkid hpub i custom)

theorem keyKept_refl (h : Consistent st) : KeyKept st st :=
  ⟨st.jwk, h.active_published, rfl, h.pair⟩

theorem reload_failed {f : File} (h : loadFile keyID f = none) :
    reload keyID st f = st := by rw [reload, h]; rfl

theorem loadFile_consistent {f : File} (h : loadFile keyID f = some st) : Consistent st := by
  obtain ⟨raw, _, hl⟩ := Option.bind_eq_some_iff.mp h
  exact load_consistent hl

theorem reload_consistent {f : File} (h : Consistent st) :
    Consistent (reload keyID st f) := by
  unfold reload
  cases hl : loadFile keyID f with
  | none => exact h
  | some st' => exact loadFile_consistent hl

/-- consistency survives any history of reloads, whatever the files are computed from -/
theorem foldl_reload_consistent {ε : Type} (keyID : String) (file : ε → File) (hist : List ε) (st : State)
    (h : Consistent st) : Consistent (hist.foldl (fun st ev => reload keyID st (file ev)) st) :=
  List.foldlRecOn hist _ h fun _ hb _ _ => reload_consistent hb

theorem pick_erase (keyID : String) (raw : List RawEntry) :
    pick keyID (raw.map RawEntry.eraseSecret) = (pick keyID raw).map RawEntry.eraseSecret := by
  unfold pick
  split
  · exact List.head?_map
  · exact List.find?_map

/-- `Loads` looks at the public half of a key only -/
theorem Loads.erase {e : RawEntry} (L : Loads keyID raw e) :
    Loads keyID (raw.map RawEntry.eraseSecret) e.eraseSecret where
  chains := List.forall_mem_map.mpr L.chains
  kids := by rw [List.map_map]; exact L.kids
  supported := List.forall_mem_map.mpr L.supported
  selected := by rw [pick_erase, L.selected]; rfl
  usable := L.usable

theorem Loads.of_erase {e' : RawEntry} (L : Loads keyID (raw.map RawEntry.eraseSecret) e') :
    ∃ e, Loads keyID raw e ∧ e' = e.eraseSecret := by
  have hs := L.selected
  rw [pick_erase] at hs
  obtain ⟨e, he, rfl⟩ := Option.map_eq_some_iff.mp hs
  have hk := L.kids
  rw [List.map_map] at hk
  exact ⟨e, ⟨fun x hx => L.chains x.eraseSecret (List.mem_map_of_mem hx), hk,
    fun x hx => L.supported x.eraseSecret (List.mem_map_of_mem hx), he, L.usable⟩, rfl⟩

theorem distinctKeysFrom_mem {seen : List PubKey} {js : List Jwk} {x : Jwk} (h : x ∈ distinctKeysFrom seen js) :
    x ∈ js ∧ x.pub ∉ seen := by
  induction js generalizing seen with
  | nil => cases h
  | cons j rest ih =>
    simp only [distinctKeysFrom] at h
    split at h
    · exact (ih h).imp_left (List.mem_cons_of_mem _)
    · rename_i hj
      rcases List.mem_cons.mp h with rfl | h
      · exact ⟨List.mem_cons_self .., hj⟩
      · exact (ih h).imp (List.mem_cons_of_mem _) fun hn hm => hn (List.mem_cons_of_mem _ hm)

/-- a JWK that survives although its public half was seen before or is carried by a JWK of the prefix `l` is itself in
`l` -/
theorem distinctKeysFrom_append {seen : List PubKey} {l r : List Jwk} {x : Jwk}
    (h : x ∈ distinctKeysFrom seen (l ++ r)) (hp : x.pub ∈ l.map (·.pub) ++ seen) : x ∈ l := by
  induction l generalizing seen with
  | nil => exact absurd hp (distinctKeysFrom_mem h).2
  | cons y l' ih =>
    -- whatever `y` does to `seen`, afterwards `seen` holds its public half
    simp only [List.cons_append, distinctKeysFrom] at h
    simp only [List.map_cons, List.cons_append, List.mem_cons, List.mem_append] at hp
    split at h
    · rename_i hy
      refine List.mem_cons_of_mem _ (ih h (List.mem_append.mpr ?_))
      rcases hp with e | hp | hp
      · exact .inr (e ▸ hy)
      · exact .inl hp
      · exact .inr hp
    · rcases List.mem_cons.mp h with rfl | h
      · exact List.mem_cons_self ..
      · refine List.mem_cons_of_mem _ (ih h (List.mem_append.mpr ?_))
        rcases hp with e | hp | hp
        · exact .inr (List.mem_cons.mpr (.inl e))
        · exact .inl hp
        · exact .inr (List.mem_cons_of_mem _ hp)

/-- the JWK `j` stands behind a JWK with the same public half: with ids unique, the each-key-once list holds no JWK
with the id of `j` -/
theorem distinctKeys_drops_later {pre post : List Jwk} {j j0 : Jwk}
    (hn : ((pre ++ j :: post).map (·.kid)).Nodup) (h0 : j0 ∈ pre) (hp : j0.pub = j.pub) :
    ∀ x ∈ distinctKeys (pre ++ j :: post), x.kid ≠ j.kid := by
  intro x hx hk
  have hxm := (distinctKeysFrom_mem hx).1
  cases eq_of_nodup_map (·.kid) hn hxm (by simp) hk
  -- so `j` is in `pre` as well: twice in a list with unique ids
  have h1 := distinctKeysFrom_append (l := pre) hx (List.mem_append_left _ (List.mem_map.mpr ⟨j0, h0, hp⟩))
  rw [List.map_append, List.nodup_append] at hn
  exact hn.2.2 j.kid (List.mem_map_of_mem h1) j.kid (by simp) rfl

/-- `Keys()` does not read the clock: the list as loaded -/
theorem keysAt_eq (ci : CertInfo) (st : State) (now : Int) : keysAt ci st now = st.pubKeys := by
  simp [keysAt, keysAtK]

theorem publishedAt_eq (ci : CertInfo) (holders : List State) (now : Int) :
    publishedAt ci holders now = published holders := by
  simp [publishedAt, published, keysAt_eq]

theorem loadAt_consistent {ci : CertInfo} {f : TimedFile} {now : Int}
    (h : loadAt ci keyID f now = some st) : Consistent st := loadFile_consistent h

theorem runClock_consistent (ci : CertInfo) (keyID : String) (st : State) (hist : List (Int × TimedFile))
    (h : Consistent st) : Consistent (runClock ci keyID st hist) :=
  foldl_reload_consistent keyID (fun ev : Int × TimedFile => fileAt ci ev.1 ev.2) hist st h

theorem runClock_append (ci : CertInfo) (keyID : String) (st : State) (a b : List (Int × TimedFile)) :
    runClock ci keyID st (a ++ b) = runClock ci keyID (runClock ci keyID st a) b := List.foldl_append

theorem reloadOn_refused {ci : CertInfo} {ev : Int × TimedFile} (h : loadAt ci keyID ev.2 ev.1 = none) :
    reloadOn ci keyID st ev = st := reload_failed h

theorem runClock_refused (ci : CertInfo) (keyID : String) (st : State) (hist : List (Int × TimedFile))
    (h : ∀ ev ∈ hist, loadAt ci keyID ev.2 ev.1 = none) : runClock ci keyID st hist = st :=
  List.foldlRecOn (motive := (· = st)) hist _ rfl fun _ hb ev hev => hb ▸ reloadOn_refused (h ev hev)

end Heimdall.Signer
