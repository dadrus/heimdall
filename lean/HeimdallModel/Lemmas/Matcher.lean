import HeimdallModel.Model.Matcher
/-! Lemmas about the route matching conditions: the effective method list. -/
namespace Heimdall

theorem mem_insertSorted (x y : String) (l : List String) : y ∈ insertSorted x l ↔ y = x ∨ y ∈ l := by
  induction l with
  | nil => simp [insertSorted]
  | cons a l ih =>
    rw [insertSorted]
    split
    · exact List.mem_cons
    · rw [List.mem_cons, ih, List.mem_cons, or_left_comm]

theorem mem_sortStrs (y : String) (l : List String) : y ∈ sortStrs l ↔ y ∈ l := by
  unfold sortStrs
  induction l with
  | nil => simp
  | cons a l ih => simp [List.foldr_cons, mem_insertSorted, ih]

theorem mem_compact (y : String) (l : List String) : y ∈ compact l ↔ y ∈ l := by
  induction l with
  | nil => simp [compact]
  | cons a l ih =>
    cases l with
    | nil => simp [compact]
    | cons b rest =>
      simp only [compact]
      by_cases h : a = b
      · subst h; simp only [if_true, ih]; simp
      · simp only [h, if_false, List.mem_cons, ih]

theorem isNeg_iff (s : String) : isNeg s = true ↔ ∃ r, s = "!" ++ r := by
  unfold isNeg
  constructor
  · intro h
    cases hl : s.toList with
    | nil => simp [hl] at h
    | cons c cs =>
      simp only [hl, List.head?_cons, beq_iff_eq, Option.some.injEq] at h
      subst h
      refine ⟨String.ofList cs, ?_⟩
      apply String.toList_injective
      simp [hl, String.toList_append]
  · rintro ⟨r, rfl⟩
    simp [String.toList_append]

theorem dropBang_bang (r : String) : dropBang ("!" ++ r) = r := by
  unfold dropBang
  have : isNeg ("!" ++ r) = true := (isNeg_iff _).mpr ⟨r, rfl⟩
  simp only [this, if_true]
  simp [String.toList_append]

/-- the shape of a successful `mkMethods`: nothing configured, or a non-empty list: what is left of a list `l₂` with
the members of the expanded list (sorting and compacting keep them) after the negated entries and the methods they
exclude have been taken out -/
theorem mkMethods_eq_some {l ms : List String} (h : mkMethods l = some ms) :
    (l = [] ∧ ms = []) ∨ (l ≠ [] ∧ ms ≠ [] ∧ ∃ l₂ : List String, (∀ y, y ∈ l₂ ↔ y ∈ expandAll l) ∧
      ms = (l₂.filter fun s => !(l₂.filter isNeg).contains s).filter
            fun s => !((l₂.filter isNeg).map dropBang).contains s) := by
  unfold mkMethods at h
  by_cases he : l = []
  · subst he; exact .inl ⟨rfl, (Option.some.inj h).symm⟩
  · rw [if_neg (by simpa using he)] at h
    dsimp only at h
    split at h
    · cases h
    · split at h
      · cases h
      · rename_i hne
        cases h
        exact .inr ⟨he, fun e => hne (by rw [e]; rfl), compact (sortStrs (expandAll l)),
          fun y => by rw [mem_compact, mem_sortStrs], rfl⟩

/-- a configured methods list never results in "any method": the effective list of a non-empty configuration is
non-empty (a list allowing nothing is a configuration error) -/
theorem mkMethods_nonempty (l ms : List String) (hl : l ≠ []) (h : mkMethods l = some ms) : ms ≠ [] := by
  rcases mkMethods_eq_some h with ⟨rfl, -⟩ | ⟨-, hms, -⟩
  · exact absurd rfl hl
  · exact hms

end Heimdall
