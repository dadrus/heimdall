import HeimdallModel.Lemmas.Jwt
import HeimdallModel.Lemmas.Basic
/-!
# C05 — the assertions read the registered claims and nothing else (lemmas)

`authenticate` on a token with payload `kvs` factors into a *gate* (configuration, header, endpoints, key selection,
algorithm agreement, signature, decoding and validation of the registered claims) and the creation of the subject.
The gate looks at the payload only through `lookup n kvs` for the names `n` of `Spec.registered`; so do the readers
of the specification.  Two payloads that say the same under the registered names therefore pass or fail the gate
together — whatever else they carry (`azp`, `client_id`, `audience`, `Aud`, `scopes`, `expires_at`, …).
-/
namespace Heimdall.Jwt

/-- the token with another payload object; header, serialisation and signature oracle are kept -/
def Token.withPayload (t : Token) (kvs : List (String × Val)) : Token := { t with payload := some (.obj kvs) }

/-- two payloads say the same under every registered name -/
def AgreeOnRegistered (kvs kvs' : List (String × Val)) : Prop :=
  ∀ n ∈ Spec.registered, lookup n kvs = lookup n kvs'

theorem AgreeOnRegistered.symm {kvs kvs' : List (String × Val)} (h : AgreeOnRegistered kvs kvs') :
    AgreeOnRegistered kvs' kvs := fun n hn => (h n hn).symm

/-- a member under a name that is not registered changes nothing of what the registered names say, wherever it is
put in front of -/
theorem agree_cons {n : String} (v : Val) (kvs : List (String × Val)) (hn : n ∉ Spec.registered) :
    AgreeOnRegistered ((n, v) :: kvs) kvs := by
  intro k hk
  have : n ≠ k := fun e => hn (e ▸ hk)
  simp [lookup, this]

/-- removing the members of a name is the same as never having carried them: the other names are not affected -/
theorem lookup_filter_ne (k n : String) (h : k ≠ n) (kvs : List (String × Val)) :
    lookup k (kvs.filter fun kv => kv.1 ≠ n) = lookup k kvs := by
  rw [← member_eq_lookup, ← member_eq_lookup, Spec.member, Spec.member, find?_filter_of_imp]
  intro kv hk
  simp_all

/-- dropping every member of an unregistered name changes nothing of what the registered names say -/
theorem agree_filter {n : String} (kvs : List (String × Val)) (hn : n ∉ Spec.registered) :
    AgreeOnRegistered (kvs.filter fun kv => kv.1 ≠ n) kvs := by
  intro k hk
  exact lookup_filter_ne k n (fun e => hn (e ▸ hk)) kvs

section congr
variable {kvs kvs' : List (String × Val)}

theorem AgreeOnRegistered.lookups (h : AgreeOnRegistered kvs kvs') :
    lookup "iss" kvs = lookup "iss" kvs' ∧ lookup "sub" kvs = lookup "sub" kvs' ∧
    lookup "aud" kvs = lookup "aud" kvs' ∧ lookup "scp" kvs = lookup "scp" kvs' ∧
    lookup "scope" kvs = lookup "scope" kvs' ∧ lookup "exp" kvs = lookup "exp" kvs' ∧
    lookup "nbf" kvs = lookup "nbf" kvs' ∧ lookup "iat" kvs = lookup "iat" kvs' ∧
    lookup "jti" kvs = lookup "jti" kvs' := by
  simpa only [AgreeOnRegistered, Spec.registered, List.forall_mem_cons, List.not_mem_nil, false_implies,
    implies_true, and_true] using h

theorem decodeClaims_congr (h : AgreeOnRegistered kvs kvs') : decodeClaims kvs = decodeClaims kvs' := by
  obtain ⟨h1, h2, h3, h4, h5, h6, h7, h8, h9⟩ := h.lookups
  simp only [decodeClaims, strClaim, listClaim, dateClaim, h1, h2, h3, h4, h5, h6, h7, h8, h9]

theorem endpointOf_congr (cfg : Config) (h : AgreeOnRegistered kvs kvs') : endpointOf cfg kvs = endpointOf cfg kvs' := by
  simp only [endpointOf, h.lookups.1]

theorem verifyWithKey_congr (a : Expectation) (tok : Token) (nowMs : Int) (k : Key) (h : AgreeOnRegistered kvs kvs') :
    verifyWithKey a tok kvs nowMs k = verifyWithKey a tok kvs' nowMs k := by
  simp only [verifyWithKey, decodeClaims_congr h]

theorem verify_congr (a : Expectation) (v : Bool) (ks : List Key) (tok : Token) (nowMs : Int)
    (h : AgreeOnRegistered kvs kvs') : verify a v ks tok kvs nowMs = verify a v ks tok kvs' nowMs := by
  simp only [verify, verifyNoKid, verifyWithKey_congr a tok nowMs _ h]

end congr

/-- how a request ends that does not get as far as the subject: without an authenticator, or refused -/
def ended : Option Why → Outcome
  | none => .noAuthenticator
  | some why => .rejected why

/-- everything `authenticate` decides before it looks for a subject: `.error r` = the request ends with `ended r` -/
def gate (cfg : Config) (rule : Option Expectation) (w : World) (t : Token) (kvs : List (String × Val))
    (nowMs : Int) : Except (Option Why) Unit :=
  if !cfg.ok then .error none
  else if !(Gen.supported.contains t.alg && t.canonical) then .error (some .malformed)
  else
    match resolveMetadata cfg w with
    | .error why => .error (some why)
    | .ok md =>
      match w.jwks (endpointOf cfg kvs) with
      | none => .error (some .keySet)
      | some ks => (verify (effective cfg rule md.issuer) cfg.validateJwk ks t kvs nowMs).mapError some

/-- `authenticate` = the gate, then the subject of the payload -/
theorem authenticate_withPayload (cfg : Config) (rule : Option Expectation) (w : World) (t : Token)
    (kvs : List (String × Val)) (nowMs : Int) :
    authenticate cfg rule w (.token (t.withPayload kvs)) nowMs =
      match gate cfg rule w t kvs nowMs with
      | .error r => ended r
      | .ok () => subject cfg.subject (.obj kvs) := by
  unfold authenticate gate
  split
  · rfl
  · dsimp only [Token.withPayload, Val.members]
    split
    · rfl
    · cases resolveMetadata cfg w with
      | error why => rfl
      | ok md =>
        dsimp only
        cases w.jwks (endpointOf cfg kvs) with
        | none => rfl
        | some ks =>
          dsimp only
          -- verification never looks at the payload the token record carries: the claims are handed over separately
          show finish _ _ (verify _ _ _ t kvs nowMs) = _
          cases verify (effective cfg rule md.issuer) cfg.validateJwk ks t kvs nowMs <;> rfl

/-- the gate reads the payload under the registered names only -/
theorem gate_congr (cfg : Config) (rule : Option Expectation) (w : World) (t : Token) (nowMs : Int)
    {kvs kvs' : List (String × Val)} (h : AgreeOnRegistered kvs kvs') :
    gate cfg rule w t kvs nowMs = gate cfg rule w t kvs' nowMs := by
  simp only [gate, endpointOf_congr cfg h, verify_congr _ _ _ t nowMs h]

/-- `CreateSubject` refuses for two reasons only -/
theorem subject_rejected_why {sc : SubjectConf} {pl : Val} {why : Why} (h : subject sc pl = .rejected why) :
    why = .subjectId ∨ why = .attributes := by
  unfold subject at h
  split at h
  · cases h; exact Or.inl rfl
  · split at h
    · cases h
    · split at h
      · cases h; exact Or.inl rfl
      · split at h
        · cases h
        · cases h; exact Or.inr rfl

theorem entitled_congr (a : Expectation) (v : Bool) (ks : List Key) (tok : Token) (nowMs : Int) (k : Key)
    {kvs kvs' : List (String × Val)} (h : AgreeOnRegistered kvs kvs')
    (e : Entitled a v ks tok kvs nowMs k) : Entitled a v ks tok kvs' nowMs k := by
  obtain ⟨h1, h2, h3, h4, h5, h6, h7, h8, h9⟩ := h.lookups
  -- the readers of the specification look the registered names up and nothing else
  simpa only [entitled_iff, Spec.wellTyped, Spec.issuer, Spec.audiences, Spec.granted, Spec.date, member_eq_lookup,
    h1, h2, h3, h4, h5, h6, h7, h8, h9] using e

end Heimdall.Jwt
