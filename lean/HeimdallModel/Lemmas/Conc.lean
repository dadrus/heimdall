import HeimdallModel.Model.Conc
import HeimdallModel.Model.RepoProtocol
/-! Invariants of the copy-on-write protocol machine and their preservation by every step of every thread —
lookups and changes that panic included — under the deferred release discipline (`Discipline.deferred`); and, for
every discipline, what a step looks like from the thread that takes it: a move along an edge of `writerEdges` or
`readerEdges` (`step_move`). -/
namespace Heimdall.Conc

variable {K T Op Req Ans : Type}

@[simp] theorem upd_same {α} (f : Nat → α) (i v) : upd f i v i = v := by simp [upd]
theorem upd_other {α} (f : Nat → α) (i v j) (h : j ≠ i) : upd f i v j = f j := by simp [upd, h]

theorem forall_upd {α} {f : Nat → α} {i : Nat} {v : α} {P : Nat → α → Prop} (hi : P i v)
    (ho : ∀ j, j ≠ i → P j (f j)) (j : Nat) : P j (upd f i v j) := by
  by_cases e : j = i
  · subst e; rw [upd_same]; exact hi
  · rw [upd_other _ _ _ _ e]; exact ho j e

theorem upd_upd {α} (f : Nat → α) (i : Nat) (a b : α) : upd (upd f i a) i b = upd f i b := by
  funext j; by_cases e : j = i <;> simp [upd, e]

section Initial
variable {s : Seq K T Op Req Ans} {c : Config K T Op Req Ans} (h : Initial s c)
include h
theorem Initial.state : (c.known, c.index) = s.init := h.1
theorem Initial.wlock : c.wlock = none := h.2.1
theorem Initial.rww : c.rww = none := h.2.2.1
theorem Initial.readers : c.readers = 0 := h.2.2.2.1
theorem Initial.log : c.log = [] := h.2.2.2.2.1
theorem Initial.owners : c.owners = [] := h.2.2.2.2.2.1
theorem Initial.rset : c.rset = [] := h.2.2.2.2.2.2.1
theorem Initial.threads (j : Nat) :
    (∃ op loc, c.threads j = .writer op .idle loc) ∨ (∃ rq, c.threads j = .reader rq .idle none 0 0) :=
  h.2.2.2.2.2.2.2 j
end Initial

theorem run_snoc (s : Seq K T Op Req Ans) (ops : List Op) (op : Op) :
    run s (ops ++ [op]) = (s.apply (run s ops) op).getD (run s ops) := by
  simp [run, List.foldl_append]

/-- relation between shared state and the commit log, depending on where the holder of `knownRulesMutex` is -/
def holderOk (s : Seq K T Op Req Ans) (c : Config K T Op Req Ans) : Thread K T Op Req Ans → Prop
  | .writer _ .locked _ => (c.known, c.index) = run s c.log
  | .writer op .failed _ => (c.known, c.index) = run s c.log ∧ s.apply (run s c.log) op = none
  | .writer _ .readK loc => (c.known, c.index) = run s c.log ∧ loc.1 = c.known
  | .writer _ .cloned loc => (c.known, c.index) = run s c.log ∧ loc = (c.known, c.index)
  | .writer op .computed st' => (c.known, c.index) = run s c.log ∧ s.apply (run s c.log) op = some st'
  | .writer op .knownWritten st' | .writer op .rwWaiting st' | .writer op .rwHeld st' =>
      c.index = (run s c.log).2 ∧ c.known = st'.1 ∧ s.apply (run s c.log) op = some st'
  | .writer _ .indexWritten _ | .writer _ .rwReleased _ => (c.known, c.index) = run s c.log
  | _ => False

def inCS : Thread K T Op Req Ans → Prop
  | .writer _ pc _ => pc ≠ .idle ∧ pc ≠ .doneOk ∧ pc ≠ .doneFail ∧ pc ≠ .crashed
  | .reader .. => False

structure Inv (s : Seq K T Op Req Ans) (c : Config K T Op Req Ans) : Prop where
  free    : c.wlock = none → (c.known, c.index) = run s c.log
  held    : ∀ i, c.wlock = some i → holderOk s c (c.threads i)
  outside : ∀ j, c.wlock ≠ some j → ¬ inCS (c.threads j)
  /-- the published index is always the index of the sequential run of the commit log -/
  index   : c.index = (run s c.log).2
  /-- atomic snapshot: every computed answer is the lookup in the index after a prefix of the log that contains
      everything committed before the lookup started -/
  answers : ∀ j rq pc a st n, c.threads j = .reader rq pc (some a) st n →
              st ≤ n ∧ n ≤ c.log.length ∧ a = s.look (run s (c.log.take n)).2 rq
  starts  : ∀ j rq pc a st n, c.threads j = .reader rq pc a st n → st ≤ c.log.length

theorem answers_upd (s : Seq K T Op Req Ans) (c : Config K T Op Req Ans) (log' : List Op)
    (i : Nat) (t : Thread K T Op Req Ans)
    (hlog : ∃ ext, log' = c.log ++ ext)
    (hold : ∀ j rq pc a st n, c.threads j = .reader rq pc (some a) st n →
              st ≤ n ∧ n ≤ c.log.length ∧ a = s.look (run s (c.log.take n)).2 rq)
    (hnew : ∀ rq pc a st n, t = .reader rq pc (some a) st n →
              st ≤ n ∧ n ≤ log'.length ∧ a = s.look (run s (log'.take n)).2 rq) :
    ∀ j rq pc a st n, upd c.threads i t j = .reader rq pc (some a) st n →
              st ≤ n ∧ n ≤ log'.length ∧ a = s.look (run s (log'.take n)).2 rq := by
  intro j rq pc a st n hj
  by_cases e : j = i
  · subst e; rw [upd_same] at hj; exact hnew rq pc a st n hj
  · obtain ⟨ext, rfl⟩ := hlog
    rw [upd_other _ _ _ _ e] at hj
    have := hold j rq pc a st n hj
    refine ⟨this.1, ?_, ?_⟩
    · rw [List.length_append]; exact Nat.le_trans this.2.1 (Nat.le_add_right _ _)
    · rw [List.take_append_of_le_length this.2.1]; exact this.2.2

theorem starts_upd (c : Config K T Op Req Ans) (log' : List Op)
    (i : Nat) (t : Thread K T Op Req Ans) (hlen : c.log.length ≤ log'.length)
    (hold : ∀ j rq pc a st n, c.threads j = .reader rq pc a st n → st ≤ c.log.length)
    (hnew : ∀ rq pc a st n, t = .reader rq pc a st n → st ≤ log'.length) :
    ∀ j rq pc a st n, upd c.threads i t j = .reader rq pc a st n → st ≤ log'.length := by
  intro j rq pc a st n hj
  by_cases e : j = i
  · subst e; rw [upd_same] at hj; exact hnew rq pc a st n hj
  · rw [upd_other _ _ _ _ e] at hj
    exact Nat.le_trans (hold j rq pc a st n hj) hlen

theorem outside_upd (c : Config K T Op Req Ans) (i : Nat) (t : Thread K T Op Req Ans) (w' : Option Nat)
    (hold : ∀ j, c.wlock ≠ some j → ¬ inCS (c.threads j))
    (hw : ∀ j, j ≠ i → w' ≠ some j → c.wlock ≠ some j)
    (hi : w' ≠ some i → ¬ inCS t) :
    ∀ j, w' ≠ some j → ¬ inCS (upd c.threads i t j) :=
  forall_upd (P := fun j t => w' ≠ some j → ¬ inCS t) hi fun j e hj => hold j (hw j e hj)

theorem holder_of_inCS (s : Seq K T Op Req Ans) (c : Config K T Op Req Ans) (hi : Inv s c) (i : Nat)
    (hin : inCS (c.threads i)) : c.wlock = some i :=
  Classical.byContradiction fun hne => hi.outside i hne hin

theorem Inv.holderOk_of {s : Seq K T Op Req Ans} {c : Config K T Op Req Ans} (hi : Inv s c) {i : Nat}
    {t : Thread K T Op Req Ans} (h : c.threads i = t) (hl : c.wlock = some i) : holderOk s c t :=
  h ▸ hi.held i hl

/-- a writer inside its critical section holds `knownRulesMutex`, so it stands where `holderOk` says -/
theorem Inv.holderOk_at {s : Seq K T Op Req Ans} {c : Config K T Op Req Ans} (hi : Inv s c) {i : Nat}
    {t : Thread K T Op Req Ans} (h : c.threads i = t) (hin : inCS t) : holderOk s c t :=
  hi.holderOk_of h (holder_of_inCS s c hi i (h ▸ hin))

/-- A step of writer `i` while no other thread holds `knownRulesMutex`: afterwards `i` holds it and stands where
`holderOk` says, or nobody holds it, `i` is outside its critical section and the shared state is the run of the log. -/
theorem inv_writer_step {s : Seq K T Op Req Ans} {c c' : Config K T Op Req Ans} {i : Nat} {op : Op} {pc' : WPc}
    {loc' : K × T} (hi : Inv s c) (hw : c.wlock = none ∨ c.wlock = some i)
    (ht : c'.threads = upd c.threads i (.writer op pc' loc')) (hlog : ∃ ext, c'.log = c.log ++ ext)
    (hidx : c'.index = (run s c'.log).2)
    (hnew : (c'.wlock = some i ∧ holderOk s c' (.writer op pc' loc')) ∨
      (c'.wlock = none ∧ ¬ inCS (Thread.writer (Req := Req) (Ans := Ans) op pc' loc') ∧
        (c'.known, c'.index) = run s c'.log)) : Inv s c' := by
  refine ⟨fun hn => ?_, fun k hk => ?_, ?_, hidx, ?_, ?_⟩
  · rcases hnew with ⟨hs, _⟩ | ⟨_, _, he⟩
    · rw [hs] at hn; cases hn
    · exact he
  · rcases hnew with ⟨hs, hok⟩ | ⟨hn, _⟩
    · rw [hs] at hk; cases hk; rw [ht, upd_same]; exact hok
    · rw [hn] at hk; cases hk
  · rw [ht]
    refine outside_upd c i _ _ hi.outside (fun j hji _ hj => ?_) (fun hne => ?_)
    · rcases hw with hw | hw <;> rw [hw] at hj <;> cases hj
      exact hji rfl
    · rcases hnew with ⟨hs, _⟩ | ⟨_, hout, _⟩
      · exact absurd hs hne
      · exact hout
  · rw [ht]; exact answers_upd s c _ i _ hlog hi.answers nofun
  · obtain ⟨ext, he⟩ := hlog
    rw [ht]; exact starts_upd c _ i _ (by rw [he, List.length_append]; exact Nat.le_add_right _ _) hi.starts nofun

/-- A step of reader `i`: the shared state, the log and `knownRulesMutex` are untouched; the new answer, if there is
one, is a lookup after a prefix of the log. -/
theorem inv_reader_step {s : Seq K T Op Req Ans} {c : Config K T Op Req Ans} {i : Nat} {rq rq' : Req} {pc pc' : RPc}
    {a a' : Option Ans} {st n st' n' : Nat} (hi : Inv s c) (h : c.threads i = .reader rq pc a st n)
    (r : Nat) (rs : List Nat) (hst : st' ≤ c.log.length)
    (hans : ∀ x, a' = some x → st' ≤ n' ∧ n' ≤ c.log.length ∧ x = s.look (run s (c.log.take n')).2 rq') :
    Inv s { c with readers := r, rset := rs, threads := upd c.threads i (.reader rq' pc' a' st' n') } := by
  refine ⟨hi.free, fun k hk => ?_, ?_, hi.index, ?_, ?_⟩
  · have hki : k ≠ i := fun e => by have hh := hi.held k hk; rw [e, h] at hh; exact hh
    simp only [upd_other _ _ _ _ hki]; exact hi.held k hk
  · exact outside_upd c i _ _ hi.outside (fun _ _ hj => hj) (fun _ hcs => hcs)
  · refine answers_upd s c c.log i _ ⟨[], (List.append_nil _).symm⟩ hi.answers ?_
    rintro _ _ x _ _ ⟨⟩; exact hans x rfl
  · refine starts_upd c c.log i _ (Nat.le_refl _) hi.starts ?_
    rintro _ _ _ _ _ ⟨⟩; exact hst

theorem inv_step (s : Seq K T Op Req Ans) (c c' : Config K T Op Req Ans)
    (hi : Inv s c) (hs : Step .deferred s c c') : Inv s c' := by
  have same : ∃ ext, c.log = c.log ++ ext := ⟨[], (List.append_nil _).symm⟩
  cases hs with
  | wPanicLeaked hd => cases hd
  | rPanicLeaked hd => cases hd
  | wLock _ i op loc h free =>
    exact inv_writer_step hi (.inl free) rfl same hi.index (.inl ⟨rfl, hi.free free⟩)
  | wReadKnown _ i op loc h hl =>
    exact inv_writer_step hi (.inr hl) rfl same hi.index (.inl ⟨hl, hi.holderOk_of h hl, rfl⟩)
  | wClone _ i op loc h hl =>
    have hh := hi.holderOk_of h hl
    exact inv_writer_step hi (.inr hl) rfl same hi.index (.inl ⟨hl, hh.1, by rw [hh.2]⟩)
  | wComputeOk _ i op loc st' h hl ha | wComputeErr _ i op loc h hl ha =>
    have hh := hi.holderOk_of h hl
    exact inv_writer_step hi (.inr hl) rfl same hi.index (.inl ⟨hl, hh.1, by rw [← hh.1, ← hh.2]; exact ha⟩)
  | wFail _ i op loc h hl =>
    exact inv_writer_step hi (.inr hl) rfl same hi.index (.inr ⟨rfl, fun h => h.2.2.1 rfl, (hi.holderOk_of h hl).1⟩)
  | wKnown _ i op st' h hl =>
    exact inv_writer_step hi (.inr hl) rfl same hi.index (.inl ⟨hl, hi.index, rfl, (hi.holderOk_of h hl).2⟩)
  | wRWRequest _ i op st' h | wRWAcquire _ i op st' h | wRWUnlock _ i op st' h =>
    -- these steps do not name `knownRulesMutex` in their guard; the writer holds it all the same
    have hl := holder_of_inCS s c hi i (by rw [h]; simp [inCS])
    exact inv_writer_step hi (.inr hl) rfl same hi.index (.inl ⟨hl, hi.holderOk_of h hl⟩)
  | wIndex _ i op st' h hrw =>
    have hl := holder_of_inCS s c hi i (by rw [h]; simp [inCS])
    have hh := hi.holderOk_of h hl
    have hrun : run s (c.log ++ [op]) = st' := by rw [run_snoc, hh.2.2]; rfl
    exact inv_writer_step hi (.inr hl) rfl ⟨[op], rfl⟩ (by rw [hrun])
      (.inl ⟨hl, by simp only [holderOk]; rw [hrun, hh.2.1]⟩)
  | wUnlock _ i op st' h hl =>
    exact inv_writer_step hi (.inr hl) rfl same hi.index (.inr ⟨rfl, fun h => h.2.1 rfl, hi.holderOk_of h hl⟩)
  | wPanicReleased hd _ i op pc loc h hpc hl =>
    have hh := hi.holderOk_of h hl
    exact inv_writer_step hi (.inr hl) rfl same hi.index
      (.inr ⟨rfl, fun h => h.2.2.2 rfl, by rcases hpc with rfl | rfl <;> exact hh.1⟩)
  | rLock _ i rq h free => exact inv_reader_step hi h _ _ (Nat.le_refl _) nofun
  | rSearch _ i rq st h =>
    have hst := hi.starts i _ _ _ _ _ h
    refine inv_reader_step hi h _ _ hst ?_
    rintro _ ⟨⟩
    exact ⟨hst, Nat.le_refl _, by rw [List.take_length, ← hi.index]⟩
  | rUnlock _ i rq a st n h =>
    refine inv_reader_step hi h _ _ (hi.starts i _ _ _ _ _ h) ?_
    rintro _ ⟨⟩
    exact hi.answers i _ _ _ _ _ h
  | rPanicReleased hd _ i rq st h => exact inv_reader_step hi h _ _ (hi.starts i _ _ _ _ _ h) nofun

theorem inv_initial (s : Seq K T Op Req Ans) (c : Config K T Op Req Ans) (h : Initial s c) : Inv s c := by
  have hrun : (c.known, c.index) = run s c.log := by rw [h.log]; exact h.state
  refine ⟨fun _ => hrun, fun i hi => ?_, fun j _ => ?_, congrArg Prod.snd hrun, ?_, ?_⟩
  · rw [h.wlock] at hi; cases hi
  · rcases h.threads j with ⟨op, loc, e⟩ | ⟨rq, e⟩ <;> rw [e]
    · exact fun hc => hc.1 rfl
    · exact id
  · intro j rq pc a st n hj
    rcases h.threads j with ⟨op, loc, e⟩ | ⟨rq', e⟩ <;> rw [e] at hj <;> cases hj
  · intro j rq pc a st n hj
    rcases h.threads j with ⟨op, loc, e⟩ | ⟨rq', e⟩ <;> rw [e] at hj <;> cases hj
    exact Nat.zero_le _

theorem Reachable.of_step {d : Discipline} {s : Seq K T Op Req Ans} {P : Config K T Op Req Ans → Prop}
    (h0 : ∀ c, Initial s c → P c) (hs : ∀ c c', P c → Step d s c c' → P c') {c : Config K T Op Req Ans}
    (h : Reachable d s c) : P c := by
  induction h with
  | init c hc => exact h0 c hc
  | step c c' _ h ih => exact hs c c' ih h

theorem inv_reachable (s : Seq K T Op Req Ans) (c : Config K T Op Req Ans) (h : Reachable .deferred s c) :
    Inv s c :=
  h.of_step (inv_initial s) (inv_step s)

/-- What a step looks like from the thread `i` that takes it: a move along an edge of its protocol.  The thread keeps
its operation (its request); a writer takes `knownRulesMutex` only when it is free and `rulesTreeMutex` only when no
read lock is counted, a reader takes its read lock only when no writer is announced; the log grows exactly on the edge
into `indexWritten`, by the operation of `i`. -/
inductive Move (c c' : Config K T Op Req Ans) : Prop
  | writer {i : Nat} {op : Op} {pc : WPc} {loc : K × T} {pc' : WPc} {loc' : K × T} (ev : AEv)
      (h : c.threads i = .writer op pc loc) (ht : c'.threads = upd c.threads i (.writer op pc' loc'))
      (he : (pc, ev, pc') ∈ writerEdges)
      (hlock : pc = .idle → c.wlock = none) (hacq : pc = .rwWaiting → c.readers = 0)
      (hlog : pc' = .indexWritten ∧ c'.log = c.log ++ [op] ∧ c'.owners = c.owners ++ [i] ∨
        pc' ≠ .indexWritten ∧ c'.log = c.log ∧ c'.owners = c.owners)
  | reader {i : Nat} {rq : Req} {pc : RPc} {a : Option Ans} {st n : Nat} {pc' : RPc} {a' : Option Ans} {st' n' : Nat}
      (ev : AEv) (h : c.threads i = .reader rq pc a st n)
      (ht : c'.threads = upd c.threads i (.reader rq pc' a' st' n')) (he : (pc, ev, pc') ∈ readerEdges)
      (hlock : pc = .idle → c.rww = none) (hw : c'.wlock = c.wlock) (hlog : c'.log = c.log)
      (hown : c'.owners = c.owners)

/-- every step, under every discipline, is such a move -/
theorem step_move {d : Discipline} {s : Seq K T Op Req Ans} {c c' : Config K T Op Req Ans} (h : Step d s c c') :
    Move c c' := by
  cases h with
  | wLock _ i op loc h free =>
    exact .writer .lockK h rfl (by decide) (fun _ => free) nofun (.inr ⟨nofun, rfl, rfl⟩)
  | wReadKnown _ i op loc h =>
    exact .writer .readKnown h rfl (by decide) nofun nofun (.inr ⟨nofun, rfl, rfl⟩)
  | wClone _ i op loc h =>
    exact .writer .cloneIndex h rfl (by decide) nofun nofun (.inr ⟨nofun, rfl, rfl⟩)
  | wComputeOk _ i op loc st' h =>
    exact .writer .compute h rfl (by decide) nofun nofun (.inr ⟨nofun, rfl, rfl⟩)
  | wComputeErr _ i op loc h =>
    exact .writer .returnErr h rfl (by decide) nofun nofun (.inr ⟨nofun, rfl, rfl⟩)
  | wFail _ i op loc h | wUnlock _ i op loc h =>
    exact .writer .unlockK h rfl (by decide) nofun nofun (.inr ⟨nofun, rfl, rfl⟩)
  | wKnown _ i op st' h =>
    exact .writer .writeKnown h rfl (by decide) nofun nofun (.inr ⟨nofun, rfl, rfl⟩)
  | wRWRequest _ i op st' h =>
    exact .writer .lockT h rfl (by decide) nofun nofun (.inr ⟨nofun, rfl, rfl⟩)
  | wRWAcquire _ i op st' h _ nor =>
    exact .writer .acquireT h rfl (by decide) nofun (fun _ => nor) (.inr ⟨nofun, rfl, rfl⟩)
  | wIndex _ i op st' h =>
    exact .writer .writeIndex h rfl (by decide) nofun nofun (.inl ⟨rfl, rfl, rfl⟩)
  | wRWUnlock _ i op st' h =>
    exact .writer .unlockT h rfl (by decide) nofun nofun (.inr ⟨nofun, rfl, rfl⟩)
  | wPanicReleased _ _ i op pc loc h hpc | wPanicLeaked _ _ i op pc loc h hpc =>
    rcases hpc with rfl | rfl <;>
      exact .writer .panic h rfl (by decide) nofun nofun (.inr ⟨nofun, rfl, rfl⟩)
  | rLock _ i rq h free =>
    exact .reader .rlockT h rfl (by decide) (fun _ => free) rfl rfl rfl
  | rSearch _ i rq st h =>
    exact .reader .search h rfl (by decide) nofun rfl rfl rfl
  | rUnlock _ i rq a st n h =>
    exact .reader .runlockT h rfl (by decide) nofun rfl rfl rfl
  | rPanicReleased _ _ i rq st h | rPanicLeaked _ _ i rq st h =>
    exact .reader .panic h rfl (by decide) nofun rfl rfl rfl

end Heimdall.Conc
