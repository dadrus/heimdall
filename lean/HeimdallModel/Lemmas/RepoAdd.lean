import HeimdallModel.Lemmas.Table
import HeimdallModel.Lemmas.Path
import HeimdallModel.Model.Repo
/-!
The routes of the rules as they are registered in the tree (`Item`; `addRules` registers `allItems` one after the other),
and the closed form of the index: the table reached by adding routes one after the other is, node by node, the fold of
`stepNode` over the routes registered for that node's expression (`expected`).  A further route is accepted iff it
agrees with the routes registered for its expression on the wildcard names and the rule set (`Compatible`), so whether
a list of rules is accepted depends on the registered routes only, not on how the index was reached.
-/
namespace Heimdall

/-- one route of one rule, as it is registered in the tree -/
structure Item where
  pat  : List PTok
  keys : List String
  val  : RVal
  bt   : Bool
deriving Repr

def mkItem (r : Rule) (route : String × RouteM) : Option Item :=
  match parsePat route.1 with
  | .ok (pat, keys) => some ⟨pat, keys, ⟨r.cfg.id, r.src, r.cfg.esh, route.2, r.cfg.ver⟩, r.cfg.bt⟩
  | .error _ => none

def ruleItems (r : Rule) : List (Option Item) := r.cfg.routes.map (mkItem r)

def allItems (rs : List Rule) : List (Option Item) := rs.flatMap ruleItems

def addItem (t : Table RVal) (i : Item) : Option (Table RVal) :=
  match addPat sameSource t i.pat i.keys i.val i.bt with
  | .ok t' => some t'
  | .error _ => none

def addItems (t : Table RVal) : List (Option Item) → Option (Table RVal)
  | [] => some t
  | none :: _ => none
  | some i :: rest =>
    match addItem t i with
    | some t' => addItems t' rest
    | none => none

/-- the routes of one rule, followed by further routes -/
theorem addItems_routes (t : Table RVal) (r : Rule) (routes : List (String × RouteM)) (rest : List (Option Item)) :
    addItems t (routes.map (mkItem r) ++ rest) = (addRoutes t r routes).bind (addItems · rest) := by
  induction routes generalizing t with
  | nil => rfl
  | cons rt rts ih =>
    rw [addRoutes, List.map_cons, List.cons_append, mkItem, add]
    cases parsePat rt.1 with
    | error e => rfl
    | ok pk =>
      obtain ⟨pat, keys⟩ := pk
      dsimp only
      rw [addItems, addItem]
      dsimp only
      cases addPat sameSource t pat keys ⟨r.cfg.id, r.src, r.cfg.esh, rt.2, r.cfg.ver⟩ r.cfg.bt with
      | error e => rfl
      | ok t' => exact ih t'

theorem addRules_eq (t : Table RVal) (rs : List Rule) : addRules t rs = addItems t (allItems rs) := by
  induction rs generalizing t with
  | nil => rfl
  | cons r rest ih =>
    rw [addRules, allItems, List.flatMap_cons, ruleItems, addItems_routes]
    cases addRoutes t r r.cfg.routes with
    | none => rfl
    | some t' => exact ih t'

theorem allItems_append (a b : List Rule) : allItems (a ++ b) = allItems a ++ allItems b :=
  List.flatMap_append

/-- a route is registered at the parsed expression with its wildcard names, as the entry of its rule, under the rule's
backtracking flag -/
theorem mkItem_eq_some {r : Rule} {rt : String × RouteM} {j : Item} :
    mkItem r rt = some j ↔
      parsePat rt.1 = .ok (j.pat, j.keys) ∧ j.val = ⟨r.cfg.id, r.src, r.cfg.esh, rt.2, r.cfg.ver⟩ ∧
        j.bt = r.cfg.bt := by
  unfold mkItem
  obtain ⟨jp, jk, jv, jb⟩ := j
  cases parsePat rt.1 with
  | error e => simp
  | ok pk => simp [Prod.ext_iff, and_assoc, eq_comm]

/-- every registered route stems from a route of a known rule -/
theorem item_origin {known : List Rule} {items : List Item} (hk : allItems known = items.map some)
    {j : Item} (hj : j ∈ items) : ∃ r ∈ known, ∃ rt ∈ r.cfg.routes, mkItem r rt = some j := by
  have : some j ∈ allItems known := by rw [hk]; exact List.mem_map.mpr ⟨j, hj, rfl⟩
  obtain ⟨r, hr, hm⟩ := List.mem_flatMap.mp this
  obtain ⟨rt, hrt, he⟩ := List.mem_map.mp hm
  exact ⟨r, hr, rt, hrt, he⟩

theorem allItems_filter {known : List Rule} {items : List Item} (hk : allItems known = items.map some)
    (f : String → Bool) :
    allItems (known.filter (fun r => f r.src)) = (items.filter (fun i => f i.val.src)).map some := by
  induction known generalizing items with
  | nil =>
    cases items with
    | nil => rfl
    | cons i is => cases hk
  | cons r rs ih =>
    -- split `items` along the routes of `r`; they all carry the source of `r`
    obtain ⟨is₁, is₂, rfl, h1, h2⟩ := List.append_eq_map_iff.mp (show ruleItems r ++ allItems rs = _ from hk)
    have hsrc : ∀ i ∈ is₁, f i.val.src = f r.src := by
      intro i hi
      have : some i ∈ ruleItems r := h1 ▸ List.mem_map.mpr ⟨i, hi, rfl⟩
      obtain ⟨rt, _, he⟩ := List.mem_map.mp this
      rw [(mkItem_eq_some.mp he).2.1]
    rw [List.filter_cons, List.filter_append, List.map_append, ← ih h2.symm]
    cases hf : f r.src with
    | true =>
      have e : is₁.filter (fun i => f i.val.src) = is₁ := List.filter_eq_self.mpr fun i hi => (hsrc i hi).trans hf
      rw [if_pos rfl, e, h1]
      rfl
    | false =>
      have e : is₁.filter (fun i => f i.val.src) = [] :=
        List.filter_eq_nil_iff.mpr fun i hi => by rw [hsrc i hi, hf]; exact Bool.false_ne_true
      rw [if_neg Bool.false_ne_true, e]
      rfl

/-- what adding one more route does to the node of its expression -/
def stepNode (p : List PTok) (o : Option (Node RVal)) (i : Item) : Option (Node RVal) :=
  some (match o with
    | none => ⟨p, i.keys, [i.val], i.bt⟩
    | some n => { n with values := n.values ++ [i.val], bt := i.bt })

/-- the node for expression `p` after registering `items` in order -/
def expected (items : List Item) (p : List PTok) : Option (Node RVal) :=
  (items.filter (fun i => i.pat = p)).foldl (stepNode p) none

theorem expected_nil (p : List PTok) : expected [] p = none := rfl

theorem expected_snoc (items : List Item) (i : Item) (p : List PTok) :
    expected (items ++ [i]) p = if p = i.pat then stepNode p (expected items p) i else expected items p := by
  unfold expected
  rw [List.filter_append, List.foldl_append]
  by_cases h : i.pat = p
  · simp [h]
  · have : ¬ p = i.pat := fun e => h e.symm
    simp [h, this]

theorem foldl_stepNode_some (p : List PTok) (n : Node RVal) (fs : List Item) :
    fs.foldl (stepNode p) (some n) =
      some { n with values := n.values ++ fs.map (·.val), bt := fs.foldl (fun _ i => i.bt) n.bt } := by
  induction fs generalizing n with
  | nil => simp
  | cons i rest ih =>
    simp only [List.foldl_cons, stepNode]
    rw [ih]
    simp

theorem expected_eq (items : List Item) (p : List PTok) :
    expected items p =
      match items.filter (fun i => i.pat = p) with
      | [] => none
      | i :: rest => some ⟨p, i.keys, (i :: rest).map (·.val), rest.foldl (fun _ i => i.bt) i.bt⟩ := by
  unfold expected
  cases items.filter (fun i => i.pat = p) with
  | nil => rfl
  | cons i rest =>
    simp only [List.foldl_cons, stepNode]
    rw [foldl_stepNode_some]
    simp

/-- every registered route has a node for its expression, and its entry is among the values of that node -/
theorem expected_of_mem {items : List Item} {j : Item} (hj : j ∈ items) :
    ∃ n, expected items j.pat = some n ∧ j.val ∈ n.values := by
  have hjf : j ∈ items.filter (fun i => i.pat = j.pat) := List.mem_filter.mpr ⟨hj, decide_eq_true rfl⟩
  rw [expected_eq]
  cases hf : items.filter (fun i => i.pat = j.pat) with
  | nil => rw [hf] at hjf; cases hjf
  | cons i rest => exact ⟨_, rfl, List.mem_map.mpr ⟨j, hf ▸ hjf, rfl⟩⟩

/-- the values of a node are the entries of the routes registered for its expression, and there is at least one -/
theorem expected_values {items : List Item} {p : List PTok} {n : Node RVal} (h : expected items p = some n) :
    n.values ≠ [] ∧ ∀ v ∈ n.values, ∃ j ∈ items, j.pat = p ∧ j.val = v := by
  rw [expected_eq] at h
  cases hf : items.filter (fun i => i.pat = p) with
  | nil => rw [hf] at h; cases h
  | cons i rest =>
    rw [hf] at h
    cases h
    refine ⟨List.cons_ne_nil _ _, fun v hv => ?_⟩
    obtain ⟨j, hj, he⟩ := List.mem_map.mp hv
    rw [← hf, List.mem_filter] at hj
    exact ⟨j, hj.1, of_decide_eq_true hj.2, he⟩

theorem expected_filter_of_all {items : List Item} {p : List PTok} (f : Item → Bool)
    (h : ∀ i ∈ items, i.pat = p → f i = true) : expected (items.filter f) p = expected items p := by
  unfold expected
  rw [List.filter_filter]
  congr 1
  refine List.filter_congr fun i hi => ?_
  by_cases hp : i.pat = p
  · rw [h i hi hp, Bool.and_true]
  · rw [decide_eq_false hp]; rfl

theorem expected_filter_of_none {items : List Item} {p : List PTok} (f : Item → Bool)
    (h : ∀ i ∈ items, i.pat = p → f i = false) : expected (items.filter f) p = none := by
  unfold expected
  rw [List.filter_filter, List.filter_eq_nil_iff.mpr]
  · rfl
  · intro i hi hc
    rw [Bool.and_eq_true] at hc
    rw [h i hi (of_decide_eq_true hc.1)] at hc
    exact Bool.false_ne_true hc.2

/-- the index holds exactly the routes `items` -/
def Holds (t : Table RVal) (items : List Item) : Prop := ∀ p, getNode t p = expected items p

variable {t t' : Table RVal} {items : List Item} {i : Item}

theorem addItem_eq_some :
    addItem t i = some t' ↔ addPat sameSource t i.pat i.keys i.val i.bt = .ok t' := by
  unfold addItem
  cases addPat sameSource t i.pat i.keys i.val i.bt <;> simp

theorem holds_addItem (h : Holds t items) (ha : addItem t i = some t') : Holds t' (items ++ [i]) := by
  intro p
  rw [addPat_getNode _ _ _ _ _ _ _ (addItem_eq_some.mp ha) p, expected_snoc, h i.pat]
  by_cases hp : p = i.pat
  · rw [if_pos hp, if_pos hp, hp]
    unfold stepNode
    cases expected items i.pat <;> rfl
  · rw [if_neg hp, if_neg hp, h p]

/-- routes registered for the same expression agree on the wildcard names and come from one rule set -/
def Compatible (items : List Item) : Prop :=
  ∀ i ∈ items, ∀ j ∈ items, i.pat = j.pat → i.keys = j.keys ∧ i.val.src = j.val.src

theorem Compatible.sublist {a b : List Item} (h : Compatible b) (hs : ∀ x ∈ a, x ∈ b) : Compatible a :=
  fun i hi j hj e => h i (hs i hi) j (hs j hj) e

/-- a node carries the wildcard names of every route registered for its expression -/
theorem expected_keys {items : List Item} {p : List PTok} {n : Node RVal} (hc : Compatible items)
    (h : expected items p = some n) {j : Item} (hj : j ∈ items) (hjp : j.pat = p) : j.keys = n.keys := by
  rw [expected_eq] at h
  cases hf : items.filter (fun i => i.pat = p) with
  | nil => rw [hf] at h; cases h
  | cons i rest =>
    rw [hf] at h
    cases h
    have hi := List.mem_filter.mp (hf ▸ List.mem_cons_self (a := i) (l := rest))
    exact (hc j hj i hi.1 (hjp.trans (of_decide_eq_true hi.2).symm)).1

theorem compatible_snoc :
    Compatible (items ++ [i]) ↔
      Compatible items ∧ ∀ j ∈ items, j.pat = i.pat → j.keys = i.keys ∧ j.val.src = i.val.src := by
  constructor
  · intro h
    exact ⟨h.sublist fun x hx => List.mem_append_left _ hx,
      fun j hj e => h j (List.mem_append_left _ hj) i (List.mem_append_right _ (List.mem_singleton_self i)) e⟩
  · rintro ⟨hc, hi⟩ a ha b hb e
    rw [List.mem_append, List.mem_singleton] at ha hb
    rcases ha with ha | rfl <;> rcases hb with hb | rfl
    · exact hc a ha b hb e
    · exact hi a ha e
    · exact (hi b hb e.symm).imp Eq.symm Eq.symm
    · exact ⟨rfl, rfl⟩

/-- a route is accepted iff it agrees with the routes already registered for its expression: the node carries the
wildcard names and the rule set of the first of them, and the others agree with the first -/
theorem addItem_ok_iff (h : Holds t items) (hc : Compatible items) :
    (∃ t', addItem t i = some t') ↔
      ∀ j ∈ items, j.pat = i.pat → j.keys = i.keys ∧ j.val.src = i.val.src := by
  simp only [addItem_eq_some]
  rw [addPat_ok_iff, h i.pat, expected_eq]
  cases hf : items.filter (fun x => x.pat = i.pat) with
  | nil =>
    refine iff_of_true rfl fun j hj hp => ?_
    have : j ∈ items.filter (fun x => x.pat = i.pat) := List.mem_filter.mpr ⟨hj, decide_eq_true hp⟩
    rw [hf] at this; cases this
  | cons k rest =>
    have hk : k ∈ items.filter (fun x => x.pat = i.pat) := hf ▸ List.mem_cons_self ..
    rw [List.mem_filter] at hk
    have hkp : k.pat = i.pat := of_decide_eq_true hk.2
    simp only [List.map_cons, sameSource, beq_iff_eq]
    constructor
    · intro hki j hj hp
      obtain ⟨h1, h2⟩ := hc j hj k hk.1 (hp.trans hkp.symm)
      exact ⟨h1.trans hki.1, h2.trans hki.2⟩
    · intro hall; exact hall k hk.1 hkp

/-- the index holds exactly the routes `items`, consistently -/
def Indexes (t : Table RVal) (items : List Item) : Prop := Holds t items ∧ NodupPats t ∧ Compatible items

theorem Indexes.holds (h : Indexes t items) : Holds t items := h.1

theorem Indexes.nodup (h : Indexes t items) : NodupPats t := h.2.1

theorem Indexes.compat (h : Indexes t items) : Compatible items := h.2.2

theorem indexes_empty : Indexes [] [] := ⟨fun _ => rfl, List.Pairwise.nil, fun _ h => nomatch h⟩

theorem indexes_addItem (h : Indexes t items)
    (ha : addItem t i = some t') : Indexes t' (items ++ [i]) :=
  ⟨holds_addItem h.holds ha, nodup_addPat _ _ _ _ _ _ _ h.nodup (addItem_eq_some.mp ha),
    compatible_snoc.mpr ⟨h.compat, (addItem_ok_iff h.holds h.compat).mp ⟨t', ha⟩⟩⟩

/-- routes are accepted only if every expression is valid; the index then holds them as well, consistently -/
theorem indexes_addItems (h : Indexes t items) {ois : List (Option Item)}
    (ha : addItems t ois = some t') : ∃ is : List Item, ois = is.map some ∧ Indexes t' (items ++ is) := by
  induction ois generalizing t items with
  | nil => cases ha; exact ⟨[], rfl, by rwa [List.append_nil]⟩
  | cons x xs ih =>
    cases x with
    | none => simp only [addItems] at ha; cases ha
    | some i =>
      simp only [addItems] at ha
      cases hi : addItem t i with
      | none => rw [hi] at ha; cases ha
      | some t₁ =>
        rw [hi] at ha
        obtain ⟨is, he, h'⟩ := ih (indexes_addItem h hi) ha
        exact ⟨i :: is, by rw [he]; rfl, by rwa [List.append_cons]⟩

/-- routes consistent with the registered ones are accepted, and the index then holds them as well -/
theorem addItems_ok (h : Indexes t items) (is : List Item)
    (hc : Compatible (items ++ is)) : ∃ t', addItems t (is.map some) = some t' ∧ Indexes t' (items ++ is) := by
  induction is generalizing t items with
  | nil => exact ⟨t, rfl, by rwa [List.append_nil]⟩
  | cons i rest ih =>
    rw [List.append_cons] at hc ⊢
    have hci : Compatible (items ++ [i]) := hc.sublist fun x hx => List.mem_append_left _ hx
    obtain ⟨t₁, h₁⟩ := (addItem_ok_iff h.holds h.compat).mpr (compatible_snoc.mp hci).2
    obtain ⟨t', h', hi'⟩ := ih (indexes_addItem h h₁) hc
    exact ⟨t', by simp only [List.map_cons, addItems, h₁, h'], hi'⟩

/-- whether a list of rules is accepted depends on the registered routes only: every expression is valid and the
routes are consistent with the registered ones -/
theorem addRules_isSome_iff (h : Indexes t items) (rs : List Rule) :
    (addRules t rs).isSome ↔ ∃ is, allItems rs = is.map some ∧ Compatible (items ++ is) := by
  rw [addRules_eq, Option.isSome_iff_exists]
  constructor
  · rintro ⟨t', ht'⟩
    obtain ⟨is, he, h'⟩ := indexes_addItems h ht'
    exact ⟨is, he, h'.compat⟩
  · rintro ⟨is, he, hc⟩
    obtain ⟨t', ht', _⟩ := addItems_ok h is hc
    exact ⟨t', he ▸ ht'⟩

end Heimdall
