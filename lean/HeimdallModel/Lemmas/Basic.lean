/-! Facts about core `List`, `Char`, `Except` and `ite` that several of the property developments need and core does
not have: inversion of an `if` and of a successful `Except` bind, `find?` under a predicate that agrees on the members
or behind a filter that keeps what the search accepts, lists whose elements are told apart by a key (`key : α → κ`,
`(l.map key).Nodup`), characters by their code. -/

namespace Heimdall

/-- reading a conditional backwards, one branch at a time -/
theorem ite_eq_cases {α : Sort _} {p : Prop} [Decidable p] {a b v : α} (h : (if p then a else b) = v) :
    p ∧ a = v ∨ ¬ p ∧ b = v := by
  by_cases hp : p
  · exact .inl ⟨hp, by rwa [if_pos hp] at h⟩
  · exact .inr ⟨hp, by rwa [if_neg hp] at h⟩

theorem bind_ok_iff {ε α β : Type} {x : Except ε α} {g : α → Except ε β} {y : β} :
    (x >>= g) = .ok y ↔ ∃ a, x = .ok a ∧ g a = .ok y := by
  cases x <;> simp [bind, Except.bind]

theorem find?_congr_mem {α : Type _} {p q : α → Bool} (l : List α) (h : ∀ a ∈ l, p a = q a) :
    l.find? p = l.find? q := by
  induction l with
  | nil => rfl
  | cons a as ih =>
    rw [List.find?_cons, List.find?_cons, h a List.mem_cons_self, ih fun b hb => h b (List.mem_cons_of_mem _ hb)]

/-- a filter that keeps whatever the search accepts does not change the search -/
theorem find?_filter_of_imp {α : Type _} {p q : α → Bool} (l : List α) (h : ∀ a, q a = true → p a = true) :
    (l.filter p).find? q = l.find? q := by
  rw [List.find?_filter]
  congr 1; funext a
  cases hq : q a
  · simp
  · simp [h a hq]

/-! ## lists keyed by `key` -/
section Keyed
variable {α κ : Type} [DecidableEq κ] (key : α → κ)

theorem find_of_nodup {l : List α} {a : α} (hn : (l.map key).Nodup) (ha : a ∈ l) :
    l.find? (fun x => key x = key a) = some a := by
  induction l with
  | nil => cases ha
  | cons x rest ih =>
    rw [List.map_cons, List.nodup_cons] at hn
    rw [List.find?_cons]
    rcases List.mem_cons.mp ha with rfl | ha
    · rw [decide_eq_true rfl]
    · rw [decide_eq_false fun e : key x = key a => hn.1 (e ▸ List.mem_map_of_mem ha)]; exact ih hn.2 ha

theorem eq_of_nodup_map {l : List α} (hn : (l.map key).Nodup) {a b : α} (ha : a ∈ l) (hb : b ∈ l)
    (he : key a = key b) : a = b := by
  have h := find_of_nodup key hn ha
  rw [he, find_of_nodup key hn hb] at h
  exact (Option.some.inj h).symm

theorem find_filter_key (l : List α) (k k' : κ) :
    (l.filter fun a => !decide (key a = k)).find? (fun a => key a = k') =
      if k' = k then none else l.find? (fun a => key a = k') := by
  split
  · next e => exact List.find?_eq_none.mpr fun a ha => by simp_all
  · next e => exact find?_filter_of_imp l fun a ha => by simp_all

theorem find_put_key (l : List α) (a : α) {k : κ} (hk : key a = k) (k' : κ) :
    ((l.filter fun x => !decide (key x = k)) ++ [a]).find? (fun x => key x = k') =
      if k' = k then some a else l.find? (fun x => key x = k') := by
  rw [List.find?_append, find_filter_key]
  by_cases e : k' = k
  · simp [e, hk]
  · simp [e, hk, Ne.symm e]

end Keyed

/-! ## characters by their code -/

theorem toNat_ofNat_small {n : Nat} (h : n < 0xd800) : (Char.ofNat n).toNat = n := by
  rw [Char.ofNat, dif_pos (.inl h)]
  rfl

theorem char_le_iff (a b : Char) : a ≤ b ↔ a.toNat ≤ b.toNat := by
  rw [Char.le_def, UInt32.le_iff_toNat_le]; rfl

end Heimdall
