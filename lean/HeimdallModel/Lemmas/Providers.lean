import HeimdallModel.Spec.Providers
import HeimdallModel.Lemmas.Basic
/-! Helper lemmas for C18: lists indexed by a key, the book as a finite map, `loaded`; then the per-step contract.
The route to `Provider.Correct`: a step of the model is the single-source step `syncOne` (`fsStep_ok`, `httpStep_ok`)
or a sequence of such steps (cloud_blob, `Lemmas/ProvidersBlob.lean`); `syncOne` keeps the single-source contract
`StepOK` (`syncOne_ok`); `StepOK.movesTo` restates it for all sources at once as `MovesTo`, which composes
(`MovesTo.seq`, `StepOK.andThen`); a provider whose step is a `MovesTo` is `Correct` (`Provider.correct_of_movesTo`). -/
set_option linter.unusedSectionVars false

namespace Heimdall.Prov

variable {σ : Type} [DecidableEq σ]

theorem find_fst_none_iff {β : Type} {l : List (σ × β)} {s : σ} :
    l.find? (fun p => p.1 = s) = none ↔ s ∉ l.map (·.1) := by
  rw [List.find?_eq_none, List.mem_map]
  exact ⟨fun h ⟨p, hp, e⟩ => h p hp (decide_eq_true e), fun h p hp e => h ⟨p, hp, of_decide_eq_true e⟩⟩

theorem find_fst_of_mem {β : Type} {l : List (σ × β)} (hn : (l.map (·.1)).Nodup) {s : σ} {x : β} (h : (s, x) ∈ l) :
    l.find? (fun p => p.1 = s) = some (s, x) :=
  find_of_nodup Prod.fst hn h

theorem get_nil (s : σ) : Book.get ([] : Book σ) s = none := rfl

theorem get_cons (p : σ × Hash) (b : Book σ) (s : σ) :
    Book.get (p :: b) s = if p.1 = s then some p.2 else Book.get b s := by
  unfold Book.get
  by_cases h : p.1 = s <;> simp [List.find?, h]

theorem get_del (b : Book σ) (s s' : σ) : (b.del s).get s' = if s' = s then none else b.get s' := by
  unfold Book.del without Book.get
  rw [find_filter_key Prod.fst]; split <;> rfl

theorem get_put (b : Book σ) (s : σ) (h : Hash) (s' : σ) :
    (b.put s h).get s' = if s' = s then some h else b.get s' := by
  unfold Book.put without Book.get
  rw [find_put_key Prod.fst b (s, h) rfl]; split <;> rfl

theorem get_none_iff (b : Book σ) (s : σ) : b.get s = none ↔ s ∉ b.keys := by
  unfold Book.get; rw [Option.map_eq_none_iff]; exact find_fst_none_iff

theorem without_of_get_none (b : Book σ) (s : σ) (h : b.get s = none) : without b s = b := by
  unfold without
  rw [List.filter_eq_self]
  intro p hp
  rw [get_none_iff] at h
  have : p.1 ≠ s := fun e => h (e ▸ List.mem_map_of_mem (f := (·.1)) hp)
  simp [this]

theorem keys_without (b : Book σ) (s : σ) :
    Book.keys (without b s) = (Book.keys b).filter (fun k => !decide (k = s)) :=
  (List.filter_map (f := Prod.fst) (p := fun k => !decide (k = s)) (l := b)).symm

theorem nodup_without (b : Book σ) (s : σ) (h : (Book.keys b).Nodup) : (Book.keys (without b s)).Nodup := by
  rw [keys_without]; exact h.filter _

theorem nodup_put (b : Book σ) (s : σ) (h : Hash) (hn : (Book.keys b).Nodup) : (Book.keys (b.put s h)).Nodup := by
  unfold Book.put Book.keys
  rw [List.map_append, List.nodup_append]
  refine ⟨nodup_without b s hn, by simp, ?_⟩
  intro a ha c hc
  simp only [List.map_cons, List.map_nil, List.mem_singleton] at hc
  subst hc
  intro e; subst e
  rw [← Book.keys, keys_without] at ha; simp at ha

theorem loaded_cons (p : σ × Hash) (a : Active σ) (s : σ) :
    loaded (p :: a) s = if p.1 = s then p.2 :: loaded a s else loaded a s := by
  unfold loaded
  by_cases h : p.1 = s <;> simp [h]

theorem loaded_append (a b : Active σ) (s : σ) :
    loaded (a ++ b) s = loaded a s ++ loaded b s := by
  simp [loaded]

theorem loaded_single (s s' : σ) (h : Hash) : loaded [(s, h)] s' = if s = s' then [h] else [] :=
  loaded_cons (s, h) [] s'

theorem loaded_without (a : Active σ) (s s' : σ) :
    loaded (without a s) s' = if s' = s then [] else loaded a s' := by
  unfold loaded without
  rw [List.filter_filter]
  split
  · next e => rw [List.filter_eq_nil_iff.mpr fun p _ => by simp [e]]; rfl
  · next e => congr 2; funext p; by_cases h : p.1 = s' <;> simp [h, e]

theorem loaded_eq_get (b : Book σ) (s : σ) (hn : (Book.keys b).Nodup) : loaded b s = (b.get s).toList := by
  induction b with
  | nil => rfl
  | cons p b ih =>
    rw [Book.keys, List.map_cons, List.nodup_cons] at hn
    rw [loaded_cons, get_cons, ih hn.2]
    split
    · next h => rw [(get_none_iff b s).mpr (h ▸ hn.1)]; rfl
    · rfl

theorem get_mem {b : Book σ} {s : σ} {h : Hash} (hg : b.get s = some h) : (s, h) ∈ b := by
  obtain ⟨p, hf, rfl⟩ := Option.map_eq_some_iff.mp hg
  have e : p.1 = s := of_decide_eq_true (List.find?_some (p := fun q : σ × Hash => decide (q.1 = s)) hf)
  subst e; exact List.mem_of_find?_eq_some hf

theorem mem_iff_get (b : Book σ) (hn : (Book.keys b).Nodup) (s : σ) (h : Hash) : (s, h) ∈ b ↔ b.get s = some h :=
  ⟨fun hm => by unfold Book.get; rw [find_fst_of_mem hn hm]; rfl, get_mem⟩

theorem noZero_get {b : Book σ} (h : NoZero b) (s : σ) : b.get s ≠ some 0 := fun e => h _ (get_mem e) rfl

theorem inv_init : Inv (St.init : St σ) := ⟨rfl, List.nodup_nil⟩

theorem transition_self (s : σ) (d : Option Hash) : transition s d d = [] := by
  cases d
  · rfl
  · exact if_pos rfl

/-- the single-source synchronisation all hash-keeping providers implement -/
def syncOne (rej : List σ) (st : St σ) (s : σ) : Obs → Out σ
  | .noinfo => .quiet st
  | .gone =>
    match st.book.get s with
    | none => .quiet st
    | some _ => emit rej st (.deleted s) (·.del s)
  | .content h =>
    match st.book.get s with
    | none => emit rej st (.created s h) (·.put s h)
    | some h' => if h' ≠ h then emit rej st (.updated s h) (·.put s h) else .quiet st

/-- everything the property says about one step of one source, for `syncOne` -/
structure StepOK (rej : List σ) (st : St σ) (s : σ) (o : Obs) (r : Out σ) : Prop where
  inv      : Inv r.st
  calls    : r.calls.map (·.1) = transition s (st.book.get s) (o.next (st.book.get s))
  accepted : ∀ c ∈ r.calls, c.2 = decide (s ∉ rej)
  book     : ∀ s', r.st.book.get s' = if s' = s ∧ s ∉ rej then o.next (st.book.get s) else st.book.get s'

/-- a step that leaves the state alone and calls nothing, whatever it reports, is right when nothing is to change -/
theorem stepOK_idle {rej : List σ} {st : St σ} {s : σ} {o : Obs} (hi : Inv st)
    (h : o.next (st.book.get s) = st.book.get s) (err : Bool) : StepOK rej st s o ⟨st, [], err⟩ := by
  refine ⟨hi, (by rw [h, transition_self]; rfl), (fun _ hc => nomatch hc), fun s' => ?_⟩
  rw [h]; split
  · next x => rw [x.1]
  · rfl

theorem emit_rejected (rej : List σ) (st : St σ) (c : Call σ) (upd : Book σ → Book σ) (h : c.src ∈ rej) :
    emit rej st c upd = ⟨st, [(c, false)], true⟩ := by
  simp [emit, h]

theorem emit_accepted (rej : List σ) (st : St σ) (c : Call σ) (upd : Book σ → Book σ) (h : c.src ∉ rej) :
    emit rej st c upd = ⟨⟨upd st.book, st.active.apply c⟩, [(c, true)], false⟩ := by
  simp [emit, h]

theorem stepOK_emit {rej : List σ} {st : St σ} {s : σ} {o : Obs} {c : Call σ} {upd : Book σ → Book σ} (hi : Inv st)
    (hc : c.src = s) (ht : transition s (st.book.get s) (o.next (st.book.get s)) = [c])
    (hinv : Inv ⟨upd st.book, st.active.apply c⟩)
    (hb : ∀ s', (upd st.book).get s' = if s' = s then o.next (st.book.get s) else st.book.get s') :
    StepOK rej st s o (emit rej st c upd) := by
  by_cases hr : s ∈ rej
  · rw [emit_rejected rej st c upd (hc ▸ hr)]
    refine ⟨hi, by simp [ht], by simp [hr], ?_⟩
    intro s'; simp [hr]
  · rw [emit_accepted rej st c upd (hc ▸ hr)]
    refine ⟨hinv, by simp [ht], by simp [hr], ?_⟩
    intro s'; simp only [hb s', hr, not_false_eq_true, and_true]

theorem syncOne_ok (rej : List σ) (st : St σ) (s : σ) (o : Obs) (hi : Inv st) :
    StepOK rej st s o (syncOne rej st s o) := by
  cases o with
  | noinfo => exact stepOK_idle hi rfl false
  | gone =>
    unfold syncOne
    cases hg : st.book.get s with
    | none => exact stepOK_idle hi (by rw [hg]; rfl) false
    | some h' =>
      refine stepOK_emit hi rfl (by rw [hg]; rfl) ⟨?_, nodup_without _ _ hi.nodup⟩ fun s' => get_del ..
      simp only [Active.apply, Book.del, hi.sync]
  | content h =>
    unfold syncOne
    cases hg : st.book.get s with
    | none =>
      refine stepOK_emit hi rfl (by rw [hg]; rfl) ⟨?_, nodup_put _ _ _ hi.nodup⟩ fun s' => get_put ..
      simp only [Active.apply, Book.put, hi.sync, without_of_get_none _ _ hg]
    | some h' =>
      simp only
      by_cases hh : h' = h
      · rw [if_neg (not_not_intro hh)]
        exact stepOK_idle hi (by rw [hg, hh]; rfl) false
      · rw [if_pos hh]
        refine stepOK_emit hi rfl (by rw [hg]; exact if_neg hh) ⟨?_, nodup_put _ _ _ hi.nodup⟩ fun s' => get_put ..
        simp only [Active.apply, Book.put, hi.sync]

theorem callsFor_of_src {t : Trace σ} {s : σ} (h : ∀ c ∈ t, c.1.src = s) (s' : σ) :
    callsFor t s' = if s' = s then t else [] := by
  unfold callsFor
  split
  · next e => exact List.filter_eq_self.mpr fun c hc => decide_eq_true ((h c hc).trans e.symm)
  · next e => exact List.filter_eq_nil_iff.mpr fun c hc hp => e ((of_decide_eq_true hp).symm.trans (h c hc))

theorem transition_src (s : σ) (a b : Option Hash) : ∀ c ∈ transition s a b, c.src = s := by
  rcases a with _ | h <;> rcases b with _ | h'
  · exact fun _ hc => nomatch hc
  · exact fun _ hc => List.mem_singleton.mp hc ▸ rfl
  · exact fun _ hc => List.mem_singleton.mp hc ▸ rfl
  · show ∀ c ∈ (if h = h' then [] else [Call.updated s h']), c.src = s
    split
    · exact fun _ hc => nomatch hc
    · exact fun _ hc => List.mem_singleton.mp hc ▸ rfl

/-- What `Provider.Correct` demands of one step that leads from `st` to `st'` making the calls `t`, said with the digest
`want s` every source is to have afterwards: the repository is the book again, every digest is what it was if the
processor refuses the source and `want s` otherwise, the calls for a source are the transition to `want s`. -/
structure MovesTo (rej : List σ) (st : St σ) (want : σ → Option Hash) (st' : St σ) (t : Trace σ) : Prop where
  inv   : Inv st'
  book  : ∀ s, st'.book.get s = if s ∈ rej then st.book.get s else want s
  calls : ∀ s, (callsFor t s).map (·.1) = transition s (st.book.get s) (want s)
  flags : ∀ c ∈ t, c.2 = decide (c.1.src ∉ rej)

theorem MovesTo.congr {rej : List σ} {st st' : St σ} {w w' : σ → Option Hash} {t : Trace σ}
    (h : MovesTo rej st w st' t) (hw : ∀ s, w s = w' s) : MovesTo rej st w' st' t :=
  funext hw ▸ h

theorem MovesTo.quiet (rej : List σ) {st : St σ} (hi : Inv st) {want : σ → Option Hash}
    (h : ∀ s, want s = st.book.get s) : MovesTo rej st want st [] :=
  ⟨hi, fun s => by rw [h s, ite_self], fun s => by rw [h s, transition_self]; rfl, fun _ hc => nomatch hc⟩

theorem StepOK.movesTo {rej : List σ} {st : St σ} {s : σ} {o : Obs} {r : Out σ} (h : StepOK rej st s o r) :
    MovesTo rej st (fun s' => (if s = s' then o else .noinfo).next (st.book.get s')) r.st r.calls := by
  have hsrc : ∀ c ∈ r.calls, c.1.src = s := fun c hc =>
    transition_src _ _ _ _ (h.calls ▸ List.mem_map_of_mem (f := Prod.fst) hc)
  refine ⟨h.inv, fun s' => ?_, fun s' => ?_, fun c hc => by rw [h.accepted c hc, hsrc c hc]⟩
  · rw [h.book s']
    by_cases e : s' = s
    · subst e
      by_cases hr : s' ∈ rej
      · rw [if_neg fun x => x.2 hr, if_pos hr]
      · rw [if_pos ⟨rfl, hr⟩, if_neg hr, if_pos rfl]
    · rw [if_neg fun x => e x.1, if_neg (Ne.symm e)]; split <;> rfl
  · rw [callsFor_of_src hsrc]
    split
    · next e => subst e; rw [if_pos rfl]; exact h.calls
    · next e => rw [if_neg (Ne.symm e)]; exact (transition_self ..).symm

/-- two stages one after the other, each idle on the sources the other one moves -/
theorem MovesTo.seq {rej : List σ} {st st1 st2 : St σ} {w1 w2 want : σ → Option Hash} {t1 t2 : Trace σ}
    (h1 : MovesTo rej st w1 st1 t1) (h2 : MovesTo rej st1 w2 st2 t2)
    (hw : ∀ s, (w1 s = st.book.get s ∧ w2 s = want s) ∨ (w2 s = st1.book.get s ∧ w1 s = want s)) :
    MovesTo rej st want st2 (t1 ++ t2) := by
  refine ⟨h2.inv, fun s => ?_, fun s => ?_, fun c hc => ?_⟩
  · rw [h2.book s]
    rcases hw s with ⟨a, b⟩ | ⟨a, b⟩
    · rw [h1.book s, a, ite_self, b]
    · rw [a, ite_self, h1.book s, b]
  · rw [callsFor, List.filter_append, List.map_append, ← callsFor, ← callsFor, h1.calls s, h2.calls s]
    rcases hw s with ⟨a, b⟩ | ⟨a, b⟩
    · rw [h1.book s, a, ite_self, transition_self, b]; rfl
    · rw [a, transition_self, List.append_nil, b]
  · rcases List.mem_append.mp hc with hc | hc
    · exact h1.flags c hc
    · exact h2.flags c hc

theorem StepOK.book_ne {rej : List σ} {st : St σ} {s s' : σ} {o : Obs} {r : Out σ} (h : StepOK rej st s o r)
    (e : s' ≠ s) : r.st.book.get s' = st.book.get s' := by
  rw [h.book s', if_neg fun x => e x.1]

/-- a step for source `s`, then a stage that leaves `s` alone -/
theorem StepOK.andThen {rej : List σ} {st st2 : St σ} {s : σ} {o : Obs} {r : Out σ} {w2 want : σ → Option Hash}
    {t2 : Trace σ} (h : StepOK rej st s o r) (h2 : MovesTo rej r.st w2 st2 t2) (hs : w2 s = r.st.book.get s)
    (hws : want s = o.next (st.book.get s)) (hw : ∀ s', s' ≠ s → w2 s' = want s') :
    MovesTo rej st want st2 (r.calls ++ t2) :=
  h.movesTo.seq h2 fun s' => by
    by_cases e : s' = s
    · subst e; exact .inr ⟨hs, by rw [if_pos rfl, hws]⟩
    · exact .inl ⟨by rw [if_neg (Ne.symm e)]; rfl, hw s' e⟩

theorem Provider.correct_of_movesTo {ε : Type} (P : Provider σ ε) (hinit : P.good St.init)
    (h : ∀ st e, Inv st → P.good st → P.admissible e → P.good (P.step st e).st ∧
      MovesTo (P.rej e) st (fun s => (P.shows e s).next (st.book.get s)) (P.step st e).st (P.step st e).calls) :
    P.Correct :=
  ⟨hinit, fun st e hi hg ha =>
    let ⟨g, m⟩ := h st e hi hg ha
    ⟨m.inv, g, fun s => by rw [m.book s]; unfold Provider.obs; split <;> rfl, m.calls, m.flags⟩⟩

theorem Obs.next_ne_zero {o : Obs} {d : Option Hash} (ho : o ≠ .content 0) (hd : d ≠ some 0) : o.next d ≠ some 0 := by
  cases o with
  | content h => exact fun x => ho (Option.some.inj x ▸ rfl)
  | gone => exact fun x => nomatch x
  | noinfo => exact hd

theorem MovesTo.noZero {rej : List σ} {st st' : St σ} {want : σ → Option Hash} {t : Trace σ}
    (h : MovesTo rej st want st' t) (hz : NoZero st.book) (hw : ∀ s, want s ≠ some 0) : NoZero st'.book :=
  fun p hp e => by
    have := h.book p.1
    rw [(mem_iff_get _ h.inv.nodup p.1 p.2).mp hp, e] at this
    split at this
    · exact noZero_get hz _ this.symm
    · exact hw _ this.symm

theorem fsCreatedOrUpdated_ok (rej : List σ) (st : St σ) (s : σ) (f : FileState) (hi : Inv st) (hz : NoZero st.book) :
    StepOK rej st s f.obs (fsCreatedOrUpdated rej st s f) := by
  cases f with
  | invalid => exact stepOK_idle hi rfl true
  | valid h =>
    have : fsCreatedOrUpdated rej st s (.valid h) = syncOne rej st s (.content h) := by
      simp only [fsCreatedOrUpdated, syncOne]
      cases hg : st.book.get s with
      | none => rfl
      | some h' => exact if_neg fun e : h' = 0 => noZero_get hz s (e ▸ hg)
    rw [this]; exact syncOne_ok rej st s _ hi
  | _ => exact syncOne_ok rej st s .gone hi

theorem fsStep_ok (st : St σ) (e : FsEvent σ) (hi : Inv st) (hz : NoZero st.book) :
    StepOK e.rej st e.name e.raw (fsStep st e) := by
  unfold fsStep FsEvent.raw
  split
  · exact fsCreatedOrUpdated_ok e.rej st e.name e.file hi hz
  · split
    · exact syncOne_ok e.rej st e.name .gone hi
    · exact stepOK_idle hi rfl false

theorem FsEvent.raw_ne_zero {e : FsEvent σ} (h : e.file ≠ .valid 0) : e.raw ≠ .content 0 := by
  unfold FsEvent.raw
  split
  · cases hf : e.file with
    | valid x => exact fun y => h (hf ▸ Obs.content.inj y ▸ rfl)
    | _ => exact fun y => nomatch y
  · split <;> exact fun y => nomatch y

theorem httpUpdated_eq (rej : List σ) (st : St σ) (id : σ) (rs : Option Hash) :
    httpUpdated rej st id rs = syncOne rej st id (match rs with | some h => .content h | none => .gone) := by
  cases rs <;> simp only [httpUpdated, syncOne] <;> cases st.book.get id <;> rfl

theorem httpStep_ok (st : St σ) (e : HttpEvent σ) (hi : Inv st) : StepOK e.rej st e.id e.outcome.obs (httpStep st e) := by
  unfold httpStep
  cases e.outcome with
  | cancelled => exact stepOK_idle hi rfl false
  | invalid | truncated => exact stepOK_idle hi rfl true
  | _ => simp only [httpUpdated_eq]; exact syncOne_ok e.rej st e.id _ hi

end Heimdall.Prov
