import HeimdallModel.Spec.ProxyFwd
import HeimdallModel.Lemmas.ProxyFwdHdr
/-!
`strings.Split` / `strings.Join` for a one-byte separator, and the two things the model splits: a query into its
`&`-separated pieces (`QueryParamsRemover.RemoveFrom`), and a list-valued header into its comma separated elements
(what appending one element does to them).
-/
namespace Heimdall.ProxyFwd
open Heimdall

theorem splitOn_ne_nil (sep : Char) (s : Bytes) : splitOn sep s ≠ [] := by
  induction s with
  | nil => simp [splitOn]
  | cons c t ih =>
    unfold splitOn
    split
    · simp
    · split <;> simp

theorem splitOn_no_sep (sep : Char) (s : Bytes) : ∀ p ∈ splitOn sep s, sep ∉ p := by
  induction s with
  | nil => intro p hp; simp [splitOn] at hp; subst hp; simp
  | cons c t ih =>
    intro p hp
    unfold splitOn at hp
    split at hp
    · rcases List.mem_cons.mp hp with h | h
      · subst h; simp
      · exact ih p h
    · next hc =>
      split at hp
      · next hs => exact absurd hs (splitOn_ne_nil sep t)
      · next h r hs =>
        rcases List.mem_cons.mp hp with e | e
        · subst e
          have := ih h (by rw [hs]; simp)
          intro hm
          rcases List.mem_cons.mp hm with e' | e'
          · exact hc e'.symm
          · exact this e'
        · exact ih p (by rw [hs]; simp [e])

theorem splitOn_cons_ne (sep c : Char) (t : Bytes) (hc : c ≠ sep) :
    splitOn sep (c :: t) = (c :: (splitOn sep t).head!) :: (splitOn sep t).tail := by
  conv => lhs; unfold splitOn
  simp only [hc, if_false]
  cases hs : splitOn sep t with
  | nil => exact absurd hs (splitOn_ne_nil sep t)
  | cons h r => rfl

theorem splitOn_append_sep (sep : Char) (a b : Bytes) :
    splitOn sep (a ++ sep :: b) = splitOn sep a ++ splitOn sep b := by
  induction a with
  | nil => simp [splitOn]
  | cons c t ih =>
    by_cases hc : c = sep
    · subst hc
      have e1 : ∀ r, splitOn c (c :: r) = [] :: splitOn c r := by intro r; simp [splitOn]
      simp only [List.cons_append, e1, ih, List.cons_append]
    · rw [List.cons_append, splitOn_cons_ne sep c _ hc, splitOn_cons_ne sep c t hc, ih]
      cases hs : splitOn sep t with
      | nil => exact absurd hs (splitOn_ne_nil sep t)
      | cons h r => rfl

theorem splitOn_no_sep_self (sep : Char) (a : Bytes) (ha : sep ∉ a) : splitOn sep a = [a] := by
  induction a with
  | nil => rfl
  | cons c t ih =>
    have hc : c ≠ sep := fun e => ha (by simp [e])
    have ht : sep ∉ t := fun h => ha (by simp [h])
    rw [splitOn_cons_ne sep c _ hc, ih ht]
    rfl

theorem splitOn_append_no_sep (sep : Char) (a : Bytes) (ha : sep ∉ a) (rest : Bytes) :
    splitOn sep (a ++ sep :: rest) = a :: splitOn sep rest := by
  rw [splitOn_append_sep, splitOn_no_sep_self sep a ha]
  rfl

theorem splitOn_joinWith (sep : Char) (l : List Bytes) (hne : l ≠ []) (h : ∀ p ∈ l, sep ∉ p) :
    splitOn sep (joinWith [sep] l) = l := by
  induction l with
  | nil => exact absurd rfl hne
  | cons a l ih =>
    cases l with
    | nil => simpa [joinWith] using splitOn_no_sep_self sep a (h a (by simp))
    | cons b rest =>
      simp only [joinWith, List.append_assoc, List.singleton_append]
      rw [splitOn_append_no_sep sep a (h a (by simp)), ih (by simp) (fun p hp => h p (by simp [hp]))]

theorem keepPair_eq (names : List Bytes) (p : Bytes) : keepPair names p = !Spec.named names p := by
  unfold keepPair Spec.named pairKey
  cases queryUnescape (before '=' p) <;> rfl

/-- what `RemoveFrom` leaves: exactly the pieces of the query — as written, in order, empty ones included — that do not
carry a listed name; nothing at all if none is left -/
theorem splitOn_removeParams (names : List Bytes) (q : Bytes) :
    if (splitOn '&' q).filter (fun p => !Spec.named names p) = [] then removeParams names q = []
    else splitOn '&' (removeParams names q) = (splitOn '&' q).filter (fun p => !Spec.named names p) := by
  have hfe : (fun p => !Spec.named names p) = keepPair names := by funext p; rw [keepPair_eq]
  rw [hfe]
  unfold removeParams
  by_cases h0 : (q = [] || names = []) = true
  · simp only [h0, if_true]
    simp only [Bool.or_eq_true, decide_eq_true_eq] at h0
    rcases h0 with h | h
    · subst h
      by_cases hk : keepPair names [] = true <;> simp [splitOn, hk]
    · subst h
      have hall : (splitOn '&' q).filter (keepPair []) = splitOn '&' q := by
        rw [List.filter_eq_self]
        intro p _
        unfold keepPair
        cases pairKey p <;> simp
      rw [hall]
      simp [splitOn_ne_nil]
  · simp only [h0, Bool.false_eq_true, if_false]
    by_cases hl : (splitOn '&' q).filter (keepPair names) = []
    · simp [hl, joinWith]
    · simp only [hl, if_false]
      exact splitOn_joinWith '&' _ hl (fun p hp => splitOn_no_sep '&' q p (List.mem_filter.mp hp).1)

theorem filterMap_filter_comm {α β} (f : α → Option β) (keep : α → Bool) (g : β → Bool) (l : List α)
    (h : ∀ a b, f a = some b → keep a = g b) :
    (l.filter keep).filterMap f = (l.filterMap f).filter g := by
  rw [List.filterMap_filter, List.filter_filterMap]
  congr 1
  funext a
  cases hf : f a with
  | none => simp
  | some b => simp [h a b hf, Option.filter]

/-- as `url.ParseQuery` reads it: no listed name is left, every other parameter keeps its values in order -/
theorem parseQueryPairs_removeParams (names : List Bytes) (q : Bytes) :
    parseQueryPairs (removeParams names q) = (parseQueryPairs q).filter (fun kv => !names.contains kv.1) := by
  -- a piece that parses is dropped exactly when the name it parses to is listed
  have key : ∀ (a : Bytes) (b : Bytes × Bytes), parsePair a = some b →
      (!Spec.named names a) = !names.contains b.1 := by
    intro a b hb
    unfold parsePair at hb
    unfold Spec.named
    split at hb
    · cases hb
    · split at hb
      · next k v hk _ =>
        cases hb
        rw [hk]
      · cases hb
  have hcomm := filterMap_filter_comm parsePair (fun p => !Spec.named names p)
    (fun kv : Bytes × Bytes => !names.contains kv.1) (splitOn '&' q) key
  have hsplit := splitOn_removeParams names q
  unfold parseQueryPairs
  split at hsplit
  · next hl => rw [hsplit, ← hcomm, hl]; rfl
  · rw [hsplit, hcomm]

/-! ### comma separated header values -/

theorem dropWhile_none {α} (p : α → Bool) (l : List α) (h : ∀ x ∈ l, p x = false) : l.dropWhile p = l := by
  cases l with
  | nil => rfl
  | cons x t => simp [h x (by simp)]

theorem trimOWS_clean (s : Bytes) (h : ∀ x ∈ s, isOWS x = false) : trimOWS s = s := by
  unfold trimOWS
  rw [dropWhile_none isOWS s h, dropWhile_none isOWS s.reverse (fun x hx => h x (List.mem_reverse.mp hx))]
  simp

theorem trimOWS_cons_ows (c : Char) (s : Bytes) (hc : isOWS c = true) : trimOWS (c :: s) = trimOWS s := by
  unfold trimOWS
  simp [hc]

/-- a string that can be appended as one element to a list-valued header -/
def elemOK (s : Bytes) : Prop := ',' ∉ s ∧ ∀ ch ∈ s, isOWS ch = false

theorem elemOK_append (a b : Bytes) (ha : elemOK a) (hb : elemOK b) : elemOK (a ++ b) :=
  ⟨fun hm => (List.mem_append.mp hm).elim ha.1 hb.1, fun ch hm => (List.mem_append.mp hm).elim (ha.2 ch) (hb.2 ch)⟩

theorem elemOK_of_all (s : Bytes) (h : s.all (fun ch => ch ≠ ',' && !isOWS ch) = true) : elemOK s := by
  rw [List.all_eq_true] at h
  refine ⟨fun hm => ?_, fun ch hm => ?_⟩
  · have := h _ hm
    simp at this
  · have := h _ hm
    simp only [Bool.and_eq_true, Bool.not_eq_true'] at this
    exact this.2

/-- a character that can stand inside one element of a list-valued header -/
def cleanChar (ch : Char) : Bool := ch ≠ ',' && ch ≠ ';' && ch ≠ ' ' && ch ≠ '\t' && ch ≠ '"'

theorem cleanChar_facts {ch : Char} (h : cleanChar ch = true) : ch ≠ ',' ∧ ch ≠ ';' ∧ isOWS ch = false := by
  unfold cleanChar at h
  simp only [Bool.and_eq_true, decide_eq_true_eq] at h
  refine ⟨h.1.1.1.1, h.1.1.1.2, ?_⟩
  simp [isOWS, h.1.1.2, h.1.2]

theorem elemOK_of_clean (s : Bytes) (h : s.all cleanChar = true) : elemOK s ∧ ';' ∉ s := by
  rw [List.all_eq_true] at h
  exact ⟨⟨fun hm => (cleanChar_facts (h _ hm)).1 rfl, fun ch hm => (cleanChar_facts (h _ hm)).2.2⟩,
    fun hm => (cleanChar_facts (h _ hm)).2.1 rfl⟩

theorem listElems_single (x : Bytes) (hx : elemOK x) : listElems x = [x] := by
  unfold listElems
  rw [splitOn_no_sep_self ',' _ hx.1]
  simp [trimOWS_clean x hx.2]

/-- the element heimdall appends to `Forwarded` is one element, and its first parameter names the peer -/
theorem forwardedElem_elem (peer host proto : Bytes) (hp : peer.all cleanChar = true) (hh : elemOK host)
    (hpr : elemOK proto) :
    elemOK (forwardedElem peer host proto) ∧
      ((splitOn ';' (forwardedElem peer host proto)).map trimOWS).contains (b!"for=" ++ peer) = true := by
  obtain ⟨hpOK, hpSemi⟩ := elemOK_of_clean peer hp
  have hfor : elemOK (b!"for=" ++ peer) := elemOK_append _ _ (elemOK_of_all _ (by decide)) hpOK
  refine ⟨?_, ?_⟩
  · unfold forwardedElem
    exact elemOK_append _ _ (elemOK_append _ _ (elemOK_append _ _ (elemOK_append _ _ hfor
      (elemOK_of_all _ (by decide))) hh) (elemOK_of_all _ (by decide))) hpr
  · have hsplit : forwardedElem peer host proto =
        (b!"for=" ++ peer) ++ ';' :: (b!"host=" ++ host ++ b!";proto=" ++ proto) := by simp [forwardedElem]
    rw [hsplit, splitOn_append_no_sep ';' _ (fun hm => (List.mem_append.mp hm).elim (by decide) hpSemi),
      List.map_cons, trimOWS_clean _ hfor.2]
    simp

/-! ### trimming a whole list-valued header does not change its elements -/

theorem headB_cons (a : Bytes) (l : List Bytes) : (a :: l).head! = a := rfl

theorem trimOWS_append_ows (s : Bytes) (c : Char) (hc : isOWS c = true) : trimOWS (s ++ [c]) = trimOWS s := by
  induction s with
  | nil => simp [trimOWS, hc]
  | cons x t ih =>
    by_cases hx : isOWS x = true
    · rw [List.cons_append, trimOWS_cons_ows x _ hx, trimOWS_cons_ows x _ hx, ih]
    · unfold trimOWS
      simp [hx, hc]

theorem ows_ne_comma {c : Char} (hc : isOWS c = true) : c ≠ ',' := by
  intro e
  subst e
  revert hc
  decide

theorem listElems_cons_ows (c : Char) (t : Bytes) (hc : isOWS c = true) : listElems (c :: t) = listElems t := by
  unfold listElems
  rw [splitOn_cons_ne ',' c t (ows_ne_comma hc)]
  cases hs : splitOn ',' t with
  | nil => exact absurd hs (splitOn_ne_nil ',' t)
  | cons h r => simp [headB_cons, trimOWS_cons_ows c h hc]

/-- appending `x` to a list-valued header appends the elements of `x`, whatever `x` is -/
theorem listElems_appendElem (prior x : Bytes) :
    listElems (appendElem prior x) = Spec.priorElems prior ++ listElems x := by
  unfold appendElem Spec.priorElems
  split
  · rfl
  · rw [show prior ++ b!", " ++ x = prior ++ ',' :: (' ' :: x) by simp]
    unfold listElems
    rw [splitOn_append_sep, List.map_append]
    exact congrArg _ (listElems_cons_ows ' ' x rfl)

theorem splitOn_snoc (sep c : Char) (hc : c ≠ sep) (t : Bytes) :
    ∃ init last, splitOn sep t = init ++ [last] ∧ splitOn sep (t ++ [c]) = init ++ [last ++ [c]] := by
  induction t with
  | nil =>
    refine ⟨[], [], rfl, ?_⟩
    simp [splitOn, hc]
  | cons x t ih =>
    obtain ⟨init, last, h1, h2⟩ := ih
    by_cases hx : x = sep
    · subst hx
      refine ⟨[] :: init, last, ?_, ?_⟩
      · simp [splitOn, h1]
      · simp [splitOn, h2]
    · rw [List.cons_append, splitOn_cons_ne sep x _ hx, splitOn_cons_ne sep x _ hx, h1, h2]
      cases init with
      | nil => exact ⟨[], x :: last, by simp [headB_cons], by simp [headB_cons]⟩
      | cons i is => exact ⟨(x :: i) :: is, last, by simp [headB_cons], by simp [headB_cons]⟩

theorem listElems_snoc_ows (t : Bytes) (c : Char) (hc : isOWS c = true) : listElems (t ++ [c]) = listElems t := by
  obtain ⟨init, last, h1, h2⟩ := splitOn_snoc ',' c (ows_ne_comma hc) t
  unfold listElems
  rw [h1, h2]
  simp [trimOWS_append_ows last c hc]

/-- what ignores one leading blank ignores all of them -/
theorem dropWhile_ows {α β : Type} {p : α → Bool} (f : List α → β) (h : ∀ c t, p c = true → f (c :: t) = f t)
    (v : List α) : f (v.dropWhile p) = f v := by
  induction v with
  | nil => rfl
  | cons c t ih =>
    by_cases hc : p c = true
    · rw [List.dropWhile_cons, if_pos hc, ih, h c t hc]
    · simp [hc]

/-- the elements of a list-valued header do not depend on blanks around the whole value -/
theorem listElems_trimOWS (v : Bytes) : listElems (trimOWS v) = listElems v := by
  have hr : ∀ (c : Char) (t : Bytes), isOWS c = true → listElems (c :: t).reverse = listElems t.reverse :=
    fun c t hc => by rw [List.reverse_cons, listElems_snoc_ows _ c hc]
  unfold trimOWS
  rw [dropWhile_ows (fun r => listElems r.reverse) hr, List.reverse_reverse, dropWhile_ows listElems listElems_cons_ows]

end Heimdall.ProxyFwd
