import HeimdallModel.Spec.Overlay
/-!
# The heimdall instance of the mechanism machine (C17): entry-wise merging (`values.Values.Merge`), loading a catalogue
gives a closed store of prototypes, and the obligation that the type table is what `heimdall` looks up
-/
namespace Heimdall.Mech
open Heimdall.Spec.Overlay

def lookupFirst : Entries → Key → Option String
  | [], _ => none
  | e :: r, k => if e.1 = k then some e.2 else lookupFirst r k

/-- one step of `mergeEntries` -/
def mergeStep (acc : Entries) (e : Key × String) : Entries :=
  if acc.any (fun x => x.1 == e.1) then acc.map (fun x => if x.1 == e.1 then e else x) else acc ++ [e]

theorem lookupFirst_replace (acc : Entries) (e : Key × String) (k : Key) :
    lookupFirst (acc.map fun x => if x.1 == e.1 then e else x) k =
      if e.1 = k then (if acc.any (fun x => x.1 == e.1) then some e.2 else none) else lookupFirst acc k := by
  induction acc with
  | nil => simp [lookupFirst]
  | cons x r ih =>
    simp only [List.map_cons, List.any_cons]
    by_cases hx : x.1 = e.1
    · simp only [hx, beq_self_eq_true, if_true, lookupFirst, Bool.true_or, ih]
      split <;> rfl
    · simp only [beq_false_of_ne hx, Bool.false_eq_true, if_false, lookupFirst, Bool.false_or, ih]
      by_cases hk : e.1 = k
      · simp only [hk, if_true, if_neg (hk ▸ hx)]
      · simp only [hk, if_false]

theorem lookupFirst_append_single (acc : Entries) (e : Key × String) (k : Key) :
    lookupFirst (acc ++ [e]) k = (lookupFirst acc k).orElse fun _ => if e.1 = k then some e.2 else none := by
  induction acc with
  | nil => by_cases hk : e.1 = k <;> simp [lookupFirst, hk]
  | cons x r ih => by_cases hxk : x.1 = k <;> simp [lookupFirst, hxk, ih]

theorem lookupFirst_none_of_not_any (acc : Entries) (k : Key) (h : acc.any (fun x => x.1 == k) = false) :
    lookupFirst acc k = none := by
  induction acc with
  | nil => rfl
  | cons x r ih =>
    simp only [List.any_cons, Bool.or_eq_false_iff, beq_eq_false_iff_ne] at h
    rw [lookupFirst, if_neg h.1, ih h.2]

theorem lookupFirst_mergeStep (acc : Entries) (e : Key × String) (k : Key) :
    lookupFirst (mergeStep acc e) k = if e.1 = k then some e.2 else lookupFirst acc k := by
  unfold mergeStep
  cases ha : acc.any (fun x => x.1 == e.1) with
  | true => rw [if_pos rfl, lookupFirst_replace, ha, if_pos rfl]
  | false =>
    rw [if_neg Bool.false_ne_true, lookupFirst_append_single]
    by_cases hk : e.1 = k
    · rw [← hk, lookupFirst_none_of_not_any acc e.1 ha]; simp
    · simp only [hk, if_false]; cases lookupFirst acc k <;> rfl

theorem lookupFirst_foldl (new : Entries) (k : Key) :
    ∀ acc : Entries, lookupFirst (new.foldl mergeStep acc) k =
      new.foldl (fun a e => if e.1 = k then some e.2 else a) (lookupFirst acc k) := by
  induction new with
  | nil => intro acc; rfl
  | cons e r ih =>
    intro acc
    simp only [List.foldl_cons]
    rw [ih (mergeStep acc e), lookupFirst_mergeStep]

theorem foldl_last (new : Entries) (k : Key) :
    ∀ init : Option String, new.foldl (fun a e => if e.1 = k then some e.2 else a) init =
      (lookupLast new k).orElse fun _ => init := by
  unfold lookupLast
  induction new with
  | nil => intro init; simp
  | cons e r ih =>
    intro init
    simp only [List.foldl_cons]
    rw [ih, ih (if e.1 = k then some e.2 else none)]
    cases List.foldl (fun a e => if e.1 = k then some e.2 else a) none r <;> by_cases hk : e.1 = k <;> simp [hk]

/-- merging is entry-wise "the override's entry if there is one, else the inherited one" -/
theorem lookupFirst_mergeEntries (old new : Entries) (k : Key) :
    lookupFirst (mergeEntries old new) k = (lookupLast new k).orElse fun _ => lookupFirst old k := by
  rw [show mergeEntries old new = new.foldl mergeStep old from rfl, lookupFirst_foldl, foldl_last]

def AllProtos (σ : Store Entries Override) : Prop := ∀ o ∈ σ.origin, o = none

theorem load_closed (σ : Store Entries Override) (t : TypeD) (id : String) (cfg : Entries) (hc : Closed σ)
    (hp : AllProtos σ) : Closed (load σ t id cfg) ∧ AllProtos (load σ t id cfg) := by
  refine ⟨⟨fun inst hm sa hsa => ?_, by simp [load, hc.2]⟩, fun o ho => ?_⟩
  · simp only [load, List.mem_append, List.mem_singleton] at hm
    simp only [load, List.length_append, List.length_map]
    rcases hm with hm | rfl
    · exact Nat.lt_of_lt_of_le (hc.1 inst hm sa hsa) (Nat.le_add_right _ _)
    · obtain ⟨i, hi, e⟩ := List.mem_map.mp (List.of_mem_zip hsa).2
      rw [← e, Nat.add_comm]
      exact Nat.add_lt_add_left (List.mem_range.mp hi) _
  · simp only [load, List.mem_append, List.mem_singleton] at ho
    exact ho.elim (hp o) fun h => h

def emptyStore : Store Entries Override := ⟨[], [], []⟩

/-- loading any catalogue gives a closed store of prototypes: the start of every run -/
theorem loadAll_closed (cat : List (TypeD × String × Entries)) :
    ∀ σ : Store Entries Override, Closed σ → AllProtos σ →
      Closed (cat.foldl (fun σ c => load σ c.1 c.2.1 c.2.2) σ) ∧
      AllProtos (cat.foldl (fun σ c => load σ c.1 c.2.1 c.2.2) σ) :=
  fun _ hc hp => List.foldlRecOn (motive := fun σ => Closed σ ∧ AllProtos σ) cat _ ⟨hc, hp⟩
    fun σ h c _ => load_closed σ c.1 c.2.1 c.2.2 h.1 h.2

theorem emptyStore_closed : Closed emptyStore ∧ AllProtos emptyStore :=
  ⟨⟨fun i hi => (by cases hi), rfl⟩, fun o ho => (by cases ho)⟩

/-- every slot of every type is found under its Go type and name (no two types share a Go name, no two slots of
a type share a name) -/
def tableConsistent : Bool :=
  types.all fun t => t.slots.all fun s => (typeByGo t.go).bind (·.slot s.name) == some s

end Heimdall.Mech
