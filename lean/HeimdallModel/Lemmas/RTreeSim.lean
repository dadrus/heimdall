import HeimdallModel.Lemmas.RTreeDel
import HeimdallModel.Props.C02
/-!
# Every history of `Add` / `Delete`: the byte-level tree simulates the table

The per-operation theorems of `RTreeRefine` / `RTreeAdd` / `RTreeDel` chained: starting from the empty tree and the
empty table, any sequence of `Add` / `Delete` calls fails or succeeds alike on both, the tree stays well formed, its
abstraction stays (extensionally) the table, and therefore every lookup answers alike.  The theorems of
`Props/C02` about the table then speak about the byte-level tree (`rtree_none_only_if_shadowed`, `Props/C02Byte`).
-/
namespace Heimdall
namespace RTree
variable {V : Type} (canAdd : List V → V → Bool)

/-- one call of the tree API -/
inductive TOp (V : Type) where
  | add (expr : String) (v : V) (bt : Bool)
  | del (expr : String) (p : V → Bool)

def stepR (canAdd : List V → V → Bool) (t : RTree V) : TOp V → Option (RTree V)
  | .add e v bt => (RTree.add canAdd t e v bt).toOption
  | .del e p => RTree.delete t e p

def stepT (canAdd : List V → V → Bool) (T : Table V) : TOp V → Option (Table V)
  | .add e v bt => (Heimdall.add canAdd T e v bt).toOption
  | .del e p => Heimdall.del T e p

/-- the tree is well formed and stands for the table -/
def Sim (t : RTree V) (T : Table V) : Prop :=
  t.WF ∧ NodupPats T ∧ ∀ q, getNode t.abs q = getNode T q

theorem sim_empty : Sim (empty : RTree V) ([] : Table V) := by
  refine ⟨wf_empty, List.Pairwise.nil, fun q => ?_⟩
  unfold abs empty
  rw [absAux_eq]
  simp [absOwn, absStatics_nil, absWild_none, absCatch]

/-- `Heimdall.add` only looks at the table through `getNode` -/
theorem add_congr (T₁ T₂ : Table V) (h : ∀ q, getNode T₁ q = getNode T₂ q)
    (expr : String) (v : V) (bt : Bool) :
    Option.Rel (fun T₁' T₂' => ∀ q, getNode T₁' q = getNode T₂' q) (Heimdall.add canAdd T₁ expr v bt).toOption
      (Heimdall.add canAdd T₂ expr v bt).toOption := by
  unfold Heimdall.add
  cases parsePat expr with
  | error e => exact .none
  | ok pk =>
    have hs : addSpec canAdd v bt T₁ pk.1 pk.2 = addSpec canAdd v bt T₂ pk.1 pk.2 := by unfold addSpec; rw [h]
    refine ((addPat_spec canAdd v bt T₁ pk.1 pk.2).toOption.flip.trans
      (hs ▸ (addPat_spec canAdd v bt T₂ pk.1 pk.2).toOption)).imp ?_
    rintro T₁' T₂' _ _ ⟨x, h₁, h₂⟩
    exact h₁.ext h₂ h

/-- `Heimdall.del` only looks at the table through `getNode` -/
theorem del_congr (T₁ T₂ : Table V) (hn₁ : NodupPats T₁) (hn₂ : NodupPats T₂)
    (h : ∀ q, getNode T₁ q = getNode T₂ q) (expr : String) (p : V → Bool) :
    Option.Rel (fun T₁' T₂' => ∀ q, getNode T₁' q = getNode T₂' q) (Heimdall.del T₁ expr p)
      (Heimdall.del T₂ expr p) := by
  have hs : delSpec p T₁ (parseDel expr) = delSpec p T₂ (parseDel expr) := by unfold delSpec; rw [h]
  refine ((delPat_spec p T₁ hn₁ _).flip.trans (hs ▸ delPat_spec p T₂ hn₂ _)).imp ?_
  rintro T₁' T₂' _ _ ⟨x, h₁, h₂⟩
  exact h₁.ext h₂ h

/-- `Heimdall.add` keeps the expressions of the table distinct -/
theorem nodup_add {T T' : Table V} {e : String} {v : V} {bt : Bool} (hnd : NodupPats T)
    (h : Heimdall.add canAdd T e v bt = .ok T') : NodupPats T' := by
  unfold Heimdall.add at h
  split at h
  · cases h
  · exact nodup_addPat canAdd T T' _ _ v bt hnd h

/-- one operation: both sides fail, or both succeed and the simulation continues -/
theorem sim_step (t : RTree V) (T : Table V) (h : Sim t T) (op : TOp V) :
    Option.Rel Sim (stepR canAdd t op) (stepT canAdd T op) := by
  obtain ⟨hwf, hnd, hget⟩ := h
  cases op with
  | add e v bt =>
    refine ((rtree_add_refines canAdd t hwf e v bt).toOption.trans (add_congr canAdd t.abs T hget e v bt)).imp ?_
    rintro t' T' hr hT ⟨_, h₁, h₂⟩
    exact ⟨add_wf canAdd t t' e v bt hwf (toOption_eq_some hr), nodup_add canAdd hnd (toOption_eq_some hT),
      fun q => (h₁ q).trans (h₂ q)⟩
  | del e p =>
    refine ((rtree_delete_refines t hwf e p).trans (del_congr t.abs T (nodup_abs t hwf) hnd hget e p)).imp ?_
    rintro t' T' hr hT ⟨_, h₁, h₂⟩
    exact ⟨delete_wf t t' e p hwf hr, nodup_delPat T T' (parseDel e) p hnd hT, fun q => (h₁ q).trans (h₂ q)⟩

/-- a history: operations applied one after the other; a failing operation is skipped (its clone is thrown away) -/
def runR (canAdd : List V → V → Bool) : RTree V → List (TOp V) → RTree V
  | t, [] => t
  | t, op :: ops => runR canAdd ((stepR canAdd t op).getD t) ops

def runT (canAdd : List V → V → Bool) : Table V → List (TOp V) → Table V
  | T, [] => T
  | T, op :: ops => runT canAdd ((stepT canAdd T op).getD T) ops

theorem sim_run (ops : List (TOp V)) (t : RTree V) (T : Table V) (h : Sim t T) :
    Sim (runR canAdd t ops) (runT canAdd T ops) := by
  induction ops generalizing t T with
  | nil => exact h
  | cons op ops ih => exact ih _ _ ((sim_step canAdd t T h op).getD h)

/-- **No rule only if shadowed, on the byte-level tree** (`Props.C02.c02_none_only_if_shadowed`). -/
theorem rtree_none_only_if_shadowed (t : RTree V) (h : t.WF) (m : V → List String → List String → Bool)
    (path : String) (hf : (findNode m t path.toList []).1 = none) :
    ∀ n ∈ t.abs, ∀ caps, matchCaps n.pat (tokenize path) = some caps → accepts m n caps = true →
      ∃ n' ∈ t.abs, ∃ caps', matchCaps n'.pat (tokenize path) = some caps' ∧ specLt n'.pat n.pat = true ∧
        accepts m n' caps' = false ∧ n'.bt = false := by
  rw [rtree_find_refines t h m path] at hf
  exact Props.C02.c02_none_only_if_shadowed m t.abs (nodup_abs t h) (tokenize path) hf

/-! ## the hypotheses are satisfiable: a non-trivial well-formed tree -/

/-- `/ab` and `/ac` (sharing the split node `a`), `/:x`, `/:x/`, `/*r` -/
def exampleTree : RTree Nat :=
  ⟨[], 0, [('/', ⟨['/'], 4,
      [('a', ⟨['a'], 2, [('b', ⟨['b'], 1, [], none, none, [1], [], true⟩),
                          ('c', ⟨['c'], 1, [], none, none, [2], [], false⟩)], none, none, [], [], true⟩)],
      some ⟨"wildcard".toList, 0, [('/', ⟨['/'], 1, [], none, none, [4], ["x"], true⟩)], none, none, [3], ["x"], true⟩,
      some ⟨['r'], 0, [], none, none, [5], ["r"], true⟩, [], [], true⟩)], none, none, [], [], true⟩

example : exampleTree.WF := by decide +kernel
example : (findNode (fun v _ _ => v == 3) exampleTree "/zz".toList []).1.map (·.caps) = some ["zz"] := by decide +kernel
example : (findNode (fun v _ _ => v == 2) exampleTree "/ac".toList []).1.map (·.value) = some 2 := by decide +kernel
example : (findNode (fun v _ _ => v == 5) exampleTree "/ac/d".toList []).1.map (·.caps) = some ["ac/d"] := by decide +kernel

end RTree
end Heimdall
