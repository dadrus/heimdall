import HeimdallModel.Lemmas.Pipeline
import HeimdallModel.Model.HttpChain
/-!
# The response writer refines the answer (C01)

Whatever is already in the header map of a response writer on which nothing has been sent yet, the error translator
writes the status of the error's class, and the handler chain produces exactly the reply of `serveHTTP`.
-/
namespace Heimdall.Pipeline

theorem RW.fresh_set (rw : RW) (names : List String) (h : rw.fresh = true) : (rw.set names).fresh = true := h

/-- a writer on which nothing has been sent is its header map -/
theorem RW.eq_of_fresh {rw : RW} (h : rw.fresh = true) : ∃ hs, rw = { headers := hs } := by
  obtain ⟨hs, st, eb, fw⟩ := rw
  simp only [RW.fresh, Bool.and_eq_true, Option.isNone_iff_eq_none, Bool.not_eq_true'] at h
  obtain ⟨⟨rfl, rfl⟩, rfl⟩ := h
  exact ⟨hs, rfl⟩

/-- the error translator on a writer on which nothing has been sent: the status of the error's class has been written and
the reply is `writeError`'s, **whatever the header map contains** -/
theorem handleError_fresh (cfg : Cfg) (view : ReqView) (e : Err) (rw : RW) (h : rw.fresh = true) :
    (cfg.handleError view e rw).status = some (cfg.httpStatus (classify e)) ∧
    (cfg.handleError view e rw).reply = cfg.writeError view e := by
  obtain ⟨hs, rfl⟩ := RW.eq_of_fresh h
  unfold Cfg.handleError Cfg.writeError Cfg.httpError
  cases classify e <;> cases (cfg.verbose && view.negotiable) <;> exact ⟨rfl, rfl⟩

theorem finalizeRW_reply (proxy : Bool) (cfg : Cfg) (view : ReqView) (up : Nat) (backend : Bool) (c : Ctx) (rw : RW)
    (h : rw.fresh = true) :
    (finalizeRW proxy cfg view up backend c rw).reply = finalizeHTTP proxy cfg view up backend c := by
  unfold finalizeRW finalizeHTTP
  cases c.pipelineErr with
  | some e => exact (handleError_fresh cfg view e rw h).2
  | none =>
    cases proxy with
    | false => obtain ⟨hs, rfl⟩ := RW.eq_of_fresh h; rfl
    | true =>
      cases backend with
      | false => exact (handleError_fresh cfg view (.ofKind .configuration) rw h).2
      | true => obtain ⟨hs, rfl⟩ := RW.eq_of_fresh h; rfl

/-- **the handler chain on a response writer with any header map gives the reply of `serveHTTP`** -/
theorem handlerRW_reply (proxy : Bool) (cfg : Cfg) (view : ReqView) (up : Nat) (found : Option Rule) (rw : RW)
    (h : rw.fresh = true) :
    ((handlerRW proxy cfg view up found rw).1.reply, (handlerRW proxy cfg view up found rw).2) =
      serveHTTP proxy cfg view up found := by
  unfold handlerRW serveHTTP
  cases execute found {} with
  | panic v c => simp only [(handleError_fresh cfg view _ rw h).2]
  | done out c =>
    obtain ⟨backend, err⟩ := out
    cases err with
    | some e => simp only [(handleError_fresh cfg view _ rw h).2]
    | none => simp only [finalizeRW_reply proxy cfg view up backend c rw h]

theorem preflightAnswered_iff (ep : EntryPoint) (cfg : Cfg) (view : ReqView) :
    preflightAnswered ep cfg view = true ↔ ep = .proxy ∧ cfg.cors ≠ none ∧ view.preflight = true := by
  simp only [preflightAnswered, Bool.and_eq_true, beq_iff_eq, Option.isSome_iff_ne_none, and_assoc]

theorem preflightAnswered_false_iff (ep : EntryPoint) (cfg : Cfg) (view : ReqView) :
    preflightAnswered ep cfg view = false ↔ (ep ≠ .proxy ∨ cfg.cors = none ∨ view.preflight = false) := by
  simp only [preflightAnswered, Bool.and_eq_false_iff, beq_eq_false_iff_ne, ne_eq, Option.isSome_eq_false_iff,
    Option.isNone_iff_eq_none, or_assoc]

/-- what runs in front of the service handler sends nothing — it hands the handler a writer with some headers set and
nothing else — unless the CORS middleware answers a preflight request -/
theorem chainRW_handler (proxy : Bool) (cfg : Cfg) (view : ReqView) (up : Nat) (found : Option Rule)
    (h : proxy = false ∨ cfg.cors = none ∨ view.preflight = false) :
    ∃ rw, rw.fresh = true ∧ chainRW proxy cfg view up found = handlerRW proxy cfg view up found rw := by
  unfold chainRW
  split
  · next c hc =>
    have hp : view.preflight = false := by simpa [hc] using h
    exact ⟨({} : RW).set (c.headers view), rfl, by simp only [corsHandler, hp, Bool.false_eq_true, if_false]⟩
  · exact ⟨{}, rfl, rfl⟩

/-- the whole chain equals the service handler's answer unless the CORS middleware answers a preflight request -/
theorem serveChain_eq_serve (ep : EntryPoint) (cfg : Cfg) (view : ReqView) (up : Nat) (found : Option Rule)
    (h : preflightAnswered ep cfg view = false) : serveChain ep cfg view up found = serve ep cfg view up found := by
  cases ep with
  | envoy => rfl
  | decision =>
    obtain ⟨rw, hf, he⟩ := chainRW_handler false cfg view up found (.inl rfl)
    simp only [serveChain, serve, he]
    exact handlerRW_reply false cfg view up found rw hf
  | proxy =>
    obtain ⟨rw, hf, he⟩ := chainRW_handler true cfg view up found
      (.inr (((preflightAnswered_false_iff .proxy cfg view).mp h).resolve_left (· rfl)))
    simp only [serveChain, serve, he]
    exact handlerRW_reply true cfg view up found rw hf

/-- a preflight request at a proxy with CORS configured: `204` from the middleware, nothing forwarded, no mechanism
executed, no pipeline error recorded -/
theorem serveChain_preflight (ep : EntryPoint) (cfg : Cfg) (view : ReqView) (up : Nat) (found : Option Rule)
    (h : preflightAnswered ep cfg view = true) :
    serveChain ep cfg view up found = ({ resp := .http 204 false }, {}) := by
  obtain ⟨rfl, hc, hp⟩ := (preflightAnswered_iff ep cfg view).mp h
  obtain ⟨c, hc⟩ := Option.ne_none_iff_exists'.mp hc
  simp only [serveChain, chainRW, hc, corsHandler, hp, if_true]
  rfl

end Heimdall.Pipeline
