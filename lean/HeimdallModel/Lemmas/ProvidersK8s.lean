import HeimdallModel.Lemmas.Providers
/-! Helper lemmas for C18, kubernetes provider: the repository follows the informer's cache -/

namespace Heimdall.Prov

variable {κ : Type} [DecidableEq κ]

/-- the rule sets that have to be loaded for source `s` = (key, uid), given the cache -/
def kWant (store : List (KObj κ)) (s : κ × Nat) : List Hash :=
  match kFind store s.1 with
  | some o => if o.cls ∧ o.uid = s.2 then [o.h] else []
  | none => []

def KInv (st : KSt κ) : Prop := ∀ s, loaded st.active s = kWant st.store s

/-- a delta tells the truth: the rules only change together with the generation, and a deletion shows the object as it
was last seen -/
def kGood (st : KSt κ) : KPrim κ → Bool
  | .upsert o =>
    match kFind st.store o.key with
    | some old => decide ((old.cls ∧ o.cls ∧ old.uid = o.uid ∧ old.gen = o.gen) → o.h = old.h)
    | none => true
  | .remove o =>
    match kFind st.store o.key with
    | some old => decide (o.cls = old.cls ∧ o.uid = old.uid)
    | none => true

def kGoodSeq (st : KSt κ) : List (KPrim κ) → Bool
  | [] => true
  | p :: ps => kGood st p && kGoodSeq (kPrim [] st p).st ps

/-- a history the API server can produce and the processor never refuses -/
def kWf (st : KSt κ) : List (List κ × KEvent κ) → Bool
  | [] => true
  | (rej, e) :: es => rej.isEmpty && kGoodSeq st (kPrims st e) && kWf (kStep rej st e).st es

theorem kFind_drop (store : List (KObj κ)) (k k' : κ) :
    kFind (kDrop store k) k' = if k' = k then none else kFind store k' :=
  find_filter_key KObj.key store k k'

theorem kFind_put (store : List (KObj κ)) (o : KObj κ) (k : κ) :
    kFind (kPut store o) k = if k = o.key then some o else kFind store k :=
  find_put_key KObj.key store o rfl k

theorem kEmit_nil (a : Active (κ × Nat)) (c : Call (κ × Nat)) : kEmit [] a c = (a.apply c, [(c, true)]) :=
  rfl

/-- the rule sets object `o` wants loaded for source `s` -/
def KObj.rules (o : KObj κ) (s : κ × Nat) : List Hash := if o.cls ∧ o.src = s then [o.h] else []

theorem KObj.rules_of_ne {o : KObj κ} {s : κ × Nat} (h : s.1 ≠ o.key) : o.rules s = [] :=
  if_neg fun x : o.cls ∧ o.src = s => h (x.2 ▸ rfl)

theorem KObj.rules_cleared (o : KObj κ) (s : κ × Nat) (l : List Hash) :
    (if o.cls ∧ o.src = s then l else o.rules s) = if o.cls ∧ o.src = s then l else [] := by
  unfold KObj.rules; split <;> rfl

theorem kFind_key {store : List (KObj κ)} {k : κ} {o : KObj κ} (h : kFind store k = some o) : o.key = k := by
  simpa using List.find?_some h

theorem kWant_of_find {store : List (KObj κ)} {s : κ × Nat} {o : KObj κ} (h : kFind store s.1 = some o) :
    kWant store s = o.rules s := by
  obtain ⟨k, u⟩ := s
  have hk : o.key = k := kFind_key h
  simp only [kWant, h, KObj.rules, KObj.src, Prod.mk.injEq, hk, true_and]

theorem kWant_of_find_none {store : List (KObj κ)} {s : κ × Nat} (h : kFind store s.1 = none) : kWant store s = [] := by
  simp only [kWant, h]

theorem kWant_put (store : List (KObj κ)) (o : KObj κ) (s : κ × Nat) :
    kWant (kPut store o) s = if s.1 = o.key then o.rules s else kWant store s := by
  by_cases e : s.1 = o.key
  · rw [if_pos e]; exact kWant_of_find (by rw [kFind_put, if_pos e])
  · unfold kWant; rw [kFind_put, if_neg e, if_neg e]

theorem kWant_drop (store : List (KObj κ)) (k : κ) (s : κ × Nat) :
    kWant (kDrop store k) s = if s.1 = k then [] else kWant store s := by
  unfold kWant
  rw [kFind_drop]
  by_cases e : s.1 = k <;> simp only [e, if_true, if_false]

/-! The handlers when the processor refuses nothing, seen through `loaded`.  An update is a delete followed by an add,
left out when class, uid and generation say that nothing changed — the case in which `kGood` demands equal rules. -/

theorem kOnAdd_loaded (a : Active (κ × Nat)) (o : KObj κ) (s : κ × Nat) :
    loaded (kOnAdd [] a o).1 s = loaded a s ++ o.rules s := by
  unfold kOnAdd KObj.rules
  cases o.cls
  · simp
  · simp only [kEmit_nil, Active.apply, loaded_append, loaded_single, if_true, true_and]

theorem kOnDelete_loaded (a : Active (κ × Nat)) (o : KObj κ) (s : κ × Nat) :
    loaded (kOnDelete [] a o).1 s = if o.cls ∧ o.src = s then [] else loaded a s := by
  unfold kOnDelete
  cases o.cls
  · simp
  · simp only [kEmit_nil, Active.apply, loaded_without, if_true, true_and, eq_comm]

theorem kOnUpdate_active (a : Active (κ × Nat)) (old new : KObj κ) (hk : old.key = new.key) :
    (kOnUpdate [] a old new).1 =
      if old.cls ∧ new.cls ∧ old.uid = new.uid ∧ old.gen = new.gen then a
      else (kOnAdd [] (kOnDelete [] a old).1 new).1 := by
  unfold kOnUpdate kOnAdd kOnDelete
  cases new.cls <;> cases old.cls <;>
    simp only [Bool.false_eq_true, false_and, and_false, if_false, true_and, if_true]
  by_cases hu : old.uid = new.uid
  · have : old.src = new.src := by simp only [KObj.src, hk, hu]
    by_cases hg : old.gen = new.gen <;> simp only [hu, hg, and_self, ne_eq, not_true_eq_false, if_true, if_false, this]
    rfl
  · simp only [hu, false_and, ne_eq, not_false_eq_true, if_true, if_false]; rfl

theorem kPrim_inv (st : KSt κ) (p : KPrim κ) (hi : KInv st) (hg : kGood st p = true) : KInv (kPrim [] st p).st := by
  intro s
  have hw := hi s
  cases p with
  | upsert o =>
    cases hf : kFind st.store o.key with
    | none =>
      simp only [kPrim, hf, kOnAdd_loaded, kWant_put, hw]
      by_cases ek : s.1 = o.key
      · rw [if_pos ek, kWant_of_find_none (ek ▸ hf)]; rfl
      · rw [if_neg ek, KObj.rules_of_ne ek, List.append_nil]
    | some old =>
      have hk : old.key = o.key := kFind_key hf
      simp only [kGood, hf, decide_eq_true_eq] at hg
      simp only [kPrim, hf, kWant_put, kOnUpdate_active _ _ _ hk]
      by_cases ek : s.1 = o.key
      · have hold : loaded st.active s = old.rules s := hw.trans (kWant_of_find (ek ▸ hf))
        rw [if_pos ek]
        split
        · -- nothing changed: `kGood` says the new object carries the rules of the cached one
          rename_i hc
          have hh := hg hc
          obtain ⟨hcls, hcls', huid, _⟩ := hc
          rw [hold]
          simp only [KObj.rules, KObj.src, hk, hcls, hcls', huid, hh]
        · -- delete, then add: what the cached object had loaded goes, the rules of the new one come
          rw [kOnAdd_loaded, kOnDelete_loaded, hold, KObj.rules_cleared, ite_self]; rfl
      · have hne : ¬ (old.cls ∧ old.src = s) := fun x => ek (x.2 ▸ hk)
        rw [if_neg ek]
        split
        · exact hw
        · rw [kOnAdd_loaded, kOnDelete_loaded, if_neg hne, KObj.rules_of_ne ek, List.append_nil, hw]
  | remove o =>
    cases hf : kFind st.store o.key with
    | none => simp only [kPrim, hf]; exact hw
    | some old =>
      simp only [kGood, hf, decide_eq_true_eq] at hg
      have hsrc : o.src = old.src := by simp only [KObj.src, kFind_key hf, hg.2]
      simp only [kPrim, hf, kOnDelete_loaded, kWant_drop, hw, hg.1, hsrc]
      by_cases ek : s.1 = o.key
      · rw [if_pos ek, kWant_of_find (ek ▸ hf), KObj.rules_cleared, ite_self]
      · rw [if_neg ek, if_neg fun x : old.cls ∧ old.src = s => ek (x.2 ▸ kFind_key hf)]

theorem kFold_inv (st : KSt κ) (ps : List (KPrim κ)) (hi : KInv st) (hg : kGoodSeq st ps = true) :
    KInv (kFold [] st ps).st := by
  induction ps generalizing st with
  | nil => exact hi
  | cons p ps ih =>
    simp only [kGoodSeq, Bool.and_eq_true] at hg
    exact ih _ (kPrim_inv st p hi hg.1) hg.2

theorem kRun_inv (st : KSt κ) (es : List (List κ × KEvent κ)) (hi : KInv st) (hw : kWf st es = true) :
    KInv (kRun st es) := by
  induction es generalizing st with
  | nil => exact hi
  | cons x es ih =>
    obtain ⟨rej, e⟩ := x
    simp only [kWf, Bool.and_eq_true, List.isEmpty_iff] at hw
    obtain ⟨⟨hr, hg⟩, hrest⟩ := hw
    subst hr
    exact ih _ (kFold_inv st _ hi hg) hrest

end Heimdall.Prov
