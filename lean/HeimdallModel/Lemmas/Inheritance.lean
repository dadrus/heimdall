import HeimdallModel.Spec.Inheritance
/-!
# Lemmas about the specification of property C14

Facts that speak of `Spec/Inheritance.lean` alone, not of the rule factory model: which mechanism a step denotes
(`mech_target`, `stage_eq_map_mech`), the own mechanisms of a stage (`mem_own_iff`, `own_ne_nil_of_stage`), and the
executable specification against the declarative one: `orderedFrom` decides `Ordered` (`orderedFrom_split`,
`ordered_iff`), `Spec.listsOk`, `Spec.configOk`, `Spec.ruleOk` decide `ListsOk`, `ConfigWellFormed`, `WellFormed`
(`listsOk_iff`, `configOk_iff`, `ruleOk_iff`).  Core Lean only.
-/
namespace Heimdall.Factory

/-! ## The mechanism of a step -/

theorem mech_target {s : Step} {m : Mech} (h : s.mech = some m) : s.target = some (m.kind, m.id) := by
  unfold Step.mech at h
  cases ht : s.target with
  | none => simp [ht] at h
  | some t =>
    obtain ⟨k, id⟩ := t
    cases k <;> simp only [ht, Option.some.injEq] at h <;> subst h <;> rfl

theorem mech_stage_ne_eh {s : Step} {m : Mech} (h : s.mech = some m) : m.kind.stage ≠ .errorHandling := by
  have ht := mech_target h
  unfold Step.target at ht
  split at ht <;> simp at ht <;> simp [← ht.1, Kind.stage]

theorem stage_eq_map_mech (s : Step) : s.stage = s.mech.map (·.kind.stage) := by
  unfold Step.stage Step.mech
  cases s.target with
  | none => rfl
  | some t => obtain ⟨k, id⟩ := t; cases k <;> rfl

/-! ## Own and inherited mechanisms -/

theorem inherit_nil (o : List Mech) : inherit o [] = o := by
  unfold inherit; split <;> simp_all

theorem own_of_ne_eh {st : Stage} (h : st ≠ .errorHandling) (execute onError : List Step) :
    own st execute onError = (execute.filterMap Step.mech).filter (·.kind.stage == st) := by
  cases st <;> first | rfl | exact absurd rfl h

theorem mem_own_iff {st : Stage} (hst : st ≠ .errorHandling) {execute onError : List Step} {m : Mech} :
    m ∈ own st execute onError ↔ ∃ s ∈ execute, s.mech = some m ∧ m.kind.stage = st := by
  simp only [own_of_ne_eh hst, List.mem_filter, List.mem_filterMap, beq_iff_eq]
  exact ⟨fun ⟨⟨s, hs, hm⟩, hk⟩ => ⟨s, hs, hm, hk⟩, fun ⟨s, hs, hm, hk⟩ => ⟨⟨s, hs, hm⟩, hk⟩⟩

theorem own_mem_step {st : Stage} {execute onError : List Step} {m : Mech} (hst : st ≠ .errorHandling)
    (h : m ∈ own st execute onError) : ∃ s ∈ execute, s.target = some (m.kind, m.id) ∧ m.kind.stage = st := by
  obtain ⟨s, hs, hm, hk⟩ := (mem_own_iff hst).mp h
  exact ⟨s, hs, mech_target hm, hk⟩

/-- a step of a stage, conditional or not, makes the stage the definition's own -/
theorem own_ne_nil_of_stage {execute onError : List Step} {s : Step} (hs : s ∈ execute) {st : Stage}
    (hst : s.stage = some st) : own st execute onError ≠ [] := by
  rw [stage_eq_map_mech] at hst
  obtain ⟨m, hm, rfl⟩ := Option.map_eq_some_iff.mp hst
  exact List.ne_nil_of_mem ((mem_own_iff (mech_stage_ne_eh hm)).mpr ⟨s, hs, hm, rfl⟩)

/-! ## `orderedFrom` decides `Ordered` -/

theorem orderedFrom_mono {m n : Nat} (h : m ≤ n) : ∀ {steps : List Step},
    orderedFrom n steps = true → orderedFrom m steps = true := by
  intro steps
  cases steps with
  | nil => simp [orderedFrom]
  | cons s ss =>
    unfold orderedFrom
    cases s.stage with
    | none => simp
    | some st => simp; intro h1 h2; exact ⟨by omega, h2⟩

theorem rank_inj {a b : Stage} (h : a.rank = b.rank) : a = b := by
  cases a <;> cases b <;> first | rfl | cases h

/-- `orderedFrom` peels off the steps of one stage: a list is ordered from the position of `st` on iff it is a block
of steps of stage `st` followed by a list that is ordered from the next position on -/
theorem orderedFrom_split (st : Stage) : ∀ steps : List Step,
    orderedFrom st.rank steps = true ↔
      ∃ block rest, steps = block ++ rest ∧ (∀ s ∈ block, s.stage = some st) ∧
        orderedFrom (st.rank + 1) rest = true := by
  intro steps
  induction steps with
  | nil => exact ⟨fun _ => ⟨[], [], rfl, by simp, rfl⟩, fun _ => rfl⟩
  | cons s ss ih =>
    constructor
    · intro h
      by_cases hs : s.stage = some st
      · simp only [orderedFrom, hs, Nat.le_refl, decide_true, Bool.true_and] at h
        obtain ⟨block, rest, rfl, hb, hr⟩ := ih.mp h
        exact ⟨s :: block, rest, rfl, List.forall_mem_cons.mpr ⟨hs, hb⟩, hr⟩
      · refine ⟨[], s :: ss, rfl, by simp, ?_⟩
        unfold orderedFrom at h ⊢
        cases hst : s.stage with
        | none => simp [hst] at h
        | some st' =>
          simp only [hst, Bool.and_eq_true, decide_eq_true_eq] at h ⊢
          have : st.rank ≠ st'.rank := fun e => hs (by rw [hst, rank_inj e])
          exact ⟨by omega, h.2⟩
    · rintro ⟨block, rest, h, hb, hr⟩
      cases block with
      | nil => rw [h]; exact orderedFrom_mono (Nat.le_succ _) hr
      | cons b bs =>
        obtain ⟨rfl, rfl⟩ := List.cons.inj h
        obtain ⟨hs, hb⟩ := List.forall_mem_cons.mp hb
        simp only [orderedFrom, hs, Nat.le_refl, decide_true, Bool.true_and]
        exact ih.mpr ⟨bs, rest, rfl, hb, hr⟩

/-- no step of `execute` belongs to a stage behind finalization -/
theorem orderedFrom_three {steps : List Step} (h : orderedFrom 3 steps = true) : steps = [] := by
  cases steps with
  | nil => rfl
  | cons s ss =>
    unfold orderedFrom at h
    rw [stage_eq_map_mech] at h
    cases hm : s.mech with
    | none => simp [hm] at h
    | some m =>
      have := mech_stage_ne_eh hm
      simp only [hm, Option.map_some, Bool.and_eq_true, decide_eq_true_eq] at h
      cases hk : m.kind.stage <;> simp [hk, Stage.rank] at h this

theorem ordered_iff (steps : List Step) : orderedFrom 0 steps = true ↔ Ordered steps := by
  constructor
  · intro h
    obtain ⟨as, _, rfl, ha, h⟩ := (orderedFrom_split .authentication _).mp h
    obtain ⟨hs, _, rfl, hh, h⟩ := (orderedFrom_split .handling _).mp h
    obtain ⟨fs, _, rfl, hf, h⟩ := (orderedFrom_split .finalization _).mp h
    obtain rfl := orderedFrom_three h
    exact ⟨as, hs, fs, by simp, ha, hh, hf⟩
  · rintro ⟨as, hs, fs, rfl, ha, hh, hf⟩
    rw [List.append_assoc]
    exact (orderedFrom_split .authentication _).mpr ⟨as, _, rfl, ha,
      (orderedFrom_split .handling _).mpr ⟨hs, _, rfl, hh,
        (orderedFrom_split .finalization _).mpr ⟨fs, [], by simp, hf, rfl⟩⟩⟩

/-! ## The executable specification against the declarative one -/

theorem listsOk_iff (cat : Catalogue) (execute onError : List Step) :
    Spec.listsOk cat execute onError = true ↔ ListsOk cat execute onError := by
  simp only [Spec.listsOk, Bool.and_eq_true, List.all_eq_true, ordered_iff]
  exact ⟨fun ⟨⟨ho, hs⟩, he⟩ => ⟨ho, fun s h => (hs s h).1.1, fun s h => (hs s h).1.2, fun s h => (hs s h).2, he⟩,
    fun ⟨ho, hk, hov, hc, he⟩ => ⟨⟨ho, fun s h => ⟨⟨hk s h, hov s h⟩, hc s h⟩⟩, he⟩⟩

theorem configOk_iff (cat : Catalogue) (d : Option DefaultRule) :
    Spec.configOk cat d = true ↔ ConfigWellFormed cat d := by
  cases d with
  | none => simp [Spec.configOk, ConfigWellFormed]
  | some d =>
    simp only [Spec.configOk, ConfigWellFormed, Bool.and_eq_true, listsOk_iff, decide_eq_true_eq,
      Bool.not_eq_true', List.isEmpty_eq_false_iff]
    exact ⟨fun ⟨⟨⟨hl, h1⟩, h2⟩, ha⟩ => ⟨hl, ⟨h1, h2⟩, ha⟩, fun ⟨hl, ⟨h1, h2⟩, ha⟩ => ⟨⟨⟨hl, h1⟩, h2⟩, ha⟩⟩

theorem ruleOk_iff (cat : Catalogue) (proxy validated : Bool) (d : Option DefaultRule) (r : RuleDef) :
    Spec.ruleOk cat proxy validated d r = true ↔ WellFormed cat proxy validated d r := by
  simp only [Spec.ruleOk, Bool.and_eq_true, listsOk_iff, Bool.or_eq_true, Bool.not_eq_true', ← Bool.not_eq_true,
    ← Decidable.imp_iff_not_or, List.isEmpty_iff]
  exact ⟨fun ⟨⟨⟨hl, hne⟩, hf⟩, ha⟩ => ⟨hl, hne, hf, ha⟩, fun ⟨hl, hne, hf, ha⟩ => ⟨⟨⟨hl, hne⟩, hf⟩, ha⟩⟩

end Heimdall.Factory
