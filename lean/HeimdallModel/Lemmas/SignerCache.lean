import HeimdallModel.Spec.SignerCache
import HeimdallModel.Lemmas.SignerStore
/-! Helper lemmas about the token cache of `jwtFinalizer.Execute` (C16): what every cache entry is, after any history -/
namespace Heimdall.Signer

variable {α : Type}

theorem Cache.get_some {c : Cache α} {k : CacheKey} {now : Int} {t : Token α} (h : c.get k now = some t) :
    ∃ e ∈ c, e.key = k ∧ e.tok = t ∧ now ≤ e.expiry := by
  unfold Cache.get Cache.find at h
  split at h
  · rename_i e hf
    split at h
    · rename_i hle
      exact ⟨e, List.mem_of_find?_eq_some hf, by simpa using List.find?_some hf, Option.some.inj h, hle⟩
    · cases h
  · cases h

theorem Cache.mem_set {c : Cache α} {k : CacheKey} {t : Token α} {ttl now : Int} {e : CEntry α}
    (h : e ∈ c.set k t ttl now) : e ∈ c ∨ (0 < ttl ∧ e = ⟨k, t, now + ttl⟩) := by
  unfold Cache.set at h
  split at h
  · rename_i hp
    exact (List.mem_cons.mp h).elim (fun he => .inr ⟨hp, he⟩) fun he => .inl (List.mem_filter.mp he).1
  · exact .inl h

theorem Cache.find_cons (e : CEntry α) (c : Cache α) (k : CacheKey) :
    Cache.find (e :: c) k = if e.key = k then some e else c.find k := by
  unfold Cache.find
  by_cases h : e.key = k <;> simp [h]

theorem Cache.find_filter_ne (c : Cache α) {k k' : CacheKey} (hk : k' ≠ k) :
    Cache.find (List.filter (fun e => decide (e.key ≠ k)) c) k' = c.find k' :=
  find?_filter_of_imp c fun e he => by simp_all

theorem Cache.get_set (c : Cache α) (k k' : CacheKey) (t : Token α) (ttl now at_ : Int) (hp : 0 < ttl) :
    (c.set k t ttl now).get k' at_ =
      if k' = k then (if at_ ≤ now + ttl then some t else none) else c.get k' at_ := by
  unfold Cache.set Cache.get
  rw [if_pos hp, Cache.find_cons]
  by_cases hk : k' = k
  · subst hk
    rw [if_pos rfl, if_pos rfl]
  · rw [if_neg (Ne.symm hk), if_neg hk, Cache.find_filter_ne c hk]

theorem reloadAt_signer {w : World α} {i : Nat} (f : File) {s : SignerRec} (hs : w.signers[i]? = some s) :
    (reloadAt w i f).signers[i]? = some { s with st := reload s.keyID s.st f } := by
  unfold reloadAt
  simp only [hs]
  exact List.getElem?_set_self (List.getElem?_eq_some_iff.mp hs).1

theorem reloadAt_none (w : World α) (i : Nat) : reloadAt w i none = w := by
  unfold reloadAt
  cases hs : w.signers[i]? with
  | none => rfl
  | some s =>
    obtain ⟨h, rfl⟩ := List.getElem?_eq_some_iff.mp hs
    exact congrArg (World.mk · w.cache) (List.set_getElem_self h)

/-- an execution is an execution overlapping a reload that fails -/
theorem executeDuringK_none (p : KeyPolicy) (render : Render α) (w : World α) (x : Exec) :
    executeDuringK p render w x none = executeK p render w x := by
  unfold executeDuringK executeK
  simp only [reloadAt_none]
  cases w.signers[x.signer]? with
  | none => rfl
  | some s => cases p.underSigning <;> rfl

/-- what a cache entry is: a token some consistent generation with the key's signer hash signed for the key's
subject and issuer with the key's TTL and the claims the key's template renders for the key's subject and outputs;
it leaves the cache at least `leeway − d` before the token expires, `d` being the time that passed between the
signer's and the cache's clock readings -/
def GoodEntry (render : Render α) (d : Int) (e : CEntry α) : Prop :=
  ∃ (st : State) (issuedNs : Int) (custom : Claims α),
    Consistent st ∧ e.key.signer.kid = st.jwk.kid ∧ e.key.signer.alg = st.jwk.alg ∧ e.key.signer.pub = st.jwk.pub ∧
    customFor render e.key.claims e.key.subject e.key.outputs = some custom ∧
    e.tok = sign st ⟨e.key.subject.id, e.key.signer.iss, issuedNs, e.key.ttlNs⟩ custom ∧
    e.expiry + leewayNs ≤ issuedNs + d + e.key.ttlNs ∧ leewayNs < e.key.ttlNs

structure CacheInv (render : Render α) (d : Int) (w : World α) : Prop where
  signers : ∀ s ∈ w.signers, Consistent s.st
  entries : ∀ e ∈ w.cache, GoodEntry render d e

variable {render : Render α} {d : Int} {w : World α} {x : Exec} {s : SignerRec} {custom : Claims α}

theorem CacheInv.of_started (h : Started w) : CacheInv render d w :=
  ⟨h.signers, fun _ he => (List.not_mem_nil (h.empty ▸ he)).elim⟩

theorem reloadAt_inv (hinv : CacheInv render d w) (i : Nat) (f : File) : CacheInv render d (reloadAt w i f) := by
  unfold reloadAt
  cases hs : w.signers[i]? with
  | none => exact hinv
  | some s =>
    refine ⟨fun s' hs' => ?_, hinv.entries⟩
    rcases List.mem_or_eq_of_mem_set hs' with h | rfl
    · exact hinv.signers s' h
    · exact reload_consistent (hinv.signers s (List.mem_of_getElem? hs))

theorem handout_of_hit (hinv : CacheInv render d w) (hs : w.signers[x.signer]? = some s) {t : Token α}
    (hg : w.cache.get (keyOf s x) x.getNs = some t) : Handout render d w x t .cached := by
  obtain ⟨e, hem, hk, ht, hle⟩ := Cache.get_some hg
  obtain ⟨st, issuedNs, custom, hc, h1, h2, h3, hr, htok, hexp, hl⟩ := hinv.entries e hem
  rw [hk] at h1 h2 h3 hr htok hexp hl
  exact ⟨s, st, issuedNs, custom, hs, hinv.signers s (List.mem_of_getElem? hs), hc, hr, ht ▸ htok, h1.symm, h2.symm,
    h3.symm, nofun, fun _ => ⟨Int.le_trans (Int.add_le_add_right hle _) hexp, hl⟩⟩

theorem handout_fresh (hs : w.signers[x.signer]? = some s) (hc : Consistent s.st)
    (hcu : customOf render x = some custom) :
    Handout render d w x (sign s.st ⟨x.sub.id, s.iss, x.signNs, x.fin.ttlNs⟩ custom) .fresh :=
  ⟨s, s.st, x.signNs, custom, hs, hc, hc, hcu, rfl, rfl, rfl, rfl, fun _ => ⟨rfl, rfl⟩, nofun⟩

theorem CacheInv.store (hinv : CacheInv render d w) (hc : Consistent s.st)
    (hcu : customOf render x = some custom) (hd : x.setNs ≤ x.signNs + d) :
    CacheInv render d (if leewayNs < x.fin.ttlNs then
      { w with cache := w.cache.set (keyOf s x) (sign s.st ⟨x.sub.id, s.iss, x.signNs, x.fin.ttlNs⟩ custom)
                          (x.fin.ttlNs - leewayNs) x.setNs } else w) := by
  split
  · rename_i hl
    refine ⟨hinv.signers, fun e he => ?_⟩
    rcases Cache.mem_set he with he | ⟨_, rfl⟩
    · exact hinv.entries e he
    · have hexp : x.setNs + (x.fin.ttlNs - leewayNs) + leewayNs ≤ x.signNs + d + x.fin.ttlNs := by omega
      exact ⟨s.st, x.signNs, custom, hc, rfl, rfl, rfl, hcu, rfl, hexp, hl⟩
  · exact hinv

/-- an execution overlapping a reload of its signer's key store (the reload commits between `Hash` and `Sign`), the
token being stored under the key of the state that signed it: a cached token is a token for this execution in the
world before the reload, a fresh one in the world after it -/
theorem executeDuring_spec (hinv : CacheInv render d w) {f : File} (hd : x.setNs ≤ x.signNs + d) {t : Token α}
    {src : Source} {w' : World α} (h : executeDuring render w x f = some (t, src, w')) :
    (src = .cached → Handout render d w x t src) ∧
    (src = .fresh → Handout render d (reloadAt w x.signer f) x t src) ∧ CacheInv render d w' := by
  unfold executeDuring executeDuringK at h
  cases hs : w.signers[x.signer]? with
  | none => simp [hs] at h
  | some s =>
    have hinv1 := reloadAt_inv hinv x.signer f
    simp only [hs, id] at h
    cases hg : w.cache.get (keyOf s x) x.getNs with
    | some t0 =>
      simp only [hg] at h
      cases h
      exact ⟨fun _ => handout_of_hit hinv hs hg, nofun, hinv1⟩
    | none =>
      simp only [hg] at h
      cases hcu : customOf render x with
      | none => simp [hcu] at h
      | some custom =>
        simp only [hcu, Option.some.injEq, Prod.mk.injEq, if_true] at h
        obtain ⟨rfl, rfl, rfl⟩ := h
        have hs' := reloadAt_signer f hs
        have hc' := hinv1.signers _ (List.mem_of_getElem? hs')
        exact ⟨nofun, fun _ => handout_fresh hs' hc' hcu, hinv1.store hc' hcu hd⟩

theorem execute_spec (hinv : CacheInv render d w) (hd : x.setNs ≤ x.signNs + d) {t : Token α} {src : Source}
    {w' : World α} (h : execute render w x = some (t, src, w')) :
    Handout render d w x t src ∧ CacheInv render d w' := by
  have hs := executeDuring_spec hinv hd ((executeDuringK_none ..).trans h)
  rw [reloadAt_none] at hs
  cases src
  · exact ⟨hs.2.1 rfl, hs.2.2⟩
  · exact ⟨hs.1 rfl, hs.2.2⟩

theorem step_inv (hinv : CacheInv render d w) (ev : Event)
    (hd : ∀ x, ev.execOf = some x → x.setNs ≤ x.signNs + d) : CacheInv render d (stepK {} render w ev) := by
  cases ev with
  | reload i f => exact reloadAt_inv hinv i f
  | exec x =>
    simp only [stepK]
    cases hx : executeK {} render w x with
    | none => exact hinv
    | some r => exact (execute_spec hinv (hd x rfl) hx).2
  | execDuring x f =>
    simp only [stepK]
    cases hx : executeDuringK {} render w x f with
    | none => exact reloadAt_inv hinv x.signer f
    | some r => exact (executeDuring_spec hinv (hd x rfl) hx).2.2

theorem run_inv (hinv : CacheInv render d w) (hist : List Event) (hd : DelayBound d hist) :
    CacheInv render d (run render w hist) :=
  List.foldlRecOn hist _ hinv fun _ hw ev hev => step_inv hw ev (hd ev hev)

/-- verification looks at key id, algorithm and the public half of the signing key only -/
theorem verifiesFirst_congr (ks : List Jwk) (t t' : Token α) (hk : t.kid = t'.kid) (ha : t.alg = t'.alg)
    (hp : t.signedBy.pub = t'.signedBy.pub) : verifiesFirst ks t = verifiesFirst ks t' := by
  unfold verifiesFirst verifiesWith
  rw [hk, ha, hp]

end Heimdall.Signer
