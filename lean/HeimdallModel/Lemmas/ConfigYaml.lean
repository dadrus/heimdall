import HeimdallModel.Spec.ConfigYaml
import HeimdallModel.Lemmas.Basic
/-! Helper lemmas for the dialect part of property C20: the reading of a plain scalar, the outcome of a text whose
    reading is known, references to variables (`substitute`) and quoted texts. Core Lean only. -/
namespace Heimdall.Config

/-- the numeric branch of `resolve` yields a timestamp, an integer, a float or the text itself -/
theorem numericReading_cases (s : List Char) :
    numericReading s = .time ∨ (∃ n, numericReading s = .int n) ∨ (∃ r, numericReading s = .float r)
      ∨ numericReading s = .str s := by
  unfold numericReading
  split
  · exact .inl rfl
  · dsimp only
    repeat' split
    all_goals simp

theorem numericReading_ne_bool (s : List Char) (b : Bool) : numericReading s ≠ .bool b := by
  rcases numericReading_cases s with h | ⟨n, h⟩ | ⟨r, h⟩ | h <;> rw [h] <;> simp

theorem numericReading_ne_null (s : List Char) : numericReading s ≠ .null := by
  rcases numericReading_cases s with h | ⟨n, h⟩ | ⟨r, h⟩ | h <;> rw [h] <;> simp

/-- what `resolveMap` holds: the nil words, the six booleans, and floats -/
theorem wordReading_some {s : List Char} {y : Scalar} (h : wordReading? s = some y) :
    (y = .null ∧ s ∈ nullWords) ∨ (y = .bool true ∧ s ∈ trueWords) ∨ (y = .bool false ∧ s ∈ falseWords)
      ∨ ∃ r, y = .float r := by
  unfold wordReading? at h
  rcases ite_eq_cases h with ⟨h1, ⟨⟩⟩ | ⟨_, h⟩
  · exact .inl ⟨rfl, List.contains_iff_mem.mp h1⟩
  rcases ite_eq_cases h with ⟨h2, ⟨⟩⟩ | ⟨_, h⟩
  · exact .inr (.inl ⟨rfl, List.contains_iff_mem.mp h2⟩)
  rcases ite_eq_cases h with ⟨h3, ⟨⟩⟩ | ⟨_, h⟩
  · exact .inr (.inr (.inl ⟨rfl, List.contains_iff_mem.mp h3⟩))
  refine .inr (.inr (.inr ?_))
  rcases ite_eq_cases h with ⟨_, ⟨⟩⟩ | ⟨_, h⟩
  · exact ⟨_, rfl⟩
  rcases ite_eq_cases h with ⟨_, ⟨⟩⟩ | ⟨_, h⟩
  · exact ⟨_, rfl⟩
  rcases ite_eq_cases h with ⟨_, ⟨⟩⟩ | ⟨_, h⟩
  · exact ⟨_, rfl⟩
  · cases h

/-- `resolve`: a word of `resolveMap`, the empty text, the numeric branch, a float starting with `.`, or the text -/
theorem readPlain_cases (s : List Char) :
    wordReading? s = some (readPlain s) ∨ (s = [] ∧ readPlain s = .null) ∨ readPlain s = numericReading s
      ∨ (∃ r, readPlain s = .float r) ∨ readPlain s = .str s := by
  unfold readPlain
  split
  · next y hy => exact .inl hy
  · repeat' split
    all_goals simp

theorem fileOutcomeOf_eq {t : List Char} {y : Scalar} (h : readText t = some y) (lt : LeafType) (want : JsonType) :
    fileOutcomeOf lt want t = some (fileOutcome lt want y y) := by
  simp only [fileOutcomeOf, validatorReads, loaderReads, h, Option.bind_some, Option.map_some]

theorem envOutcomeOf_eq {t : List Char} {y : Scalar} (h : readText t = some y) (lt : LeafType) :
    envOutcomeOf lt t = some (envOutcome lt y) := by
  simp only [envOutcomeOf, envReads, h, Option.map_some]

theorem substGo_text_append (vs : Vars) (pre rest : List Char) (h : noDollar pre = true) :
    substGo vs .text (pre ++ rest) = (substGo vs .text rest).map (pre ++ ·) := by
  induction pre with
  | nil => simp
  | cons c r ih =>
    simp only [noDollar, List.all_cons, Bool.and_eq_true, bne_iff_ne, ne_eq] at h
    have hc : (c == '$') = false := by simpa using h.1
    have ih' := ih (by simpa [noDollar] using h.2)
    simp only [List.cons_append, substGo, hc, ih', Bool.false_eq_true, if_false]
    cases substGo vs .text rest <;> simp

/-- the scanner collects the characters of a name -/
theorem substGo_name (vs : Vars) (n acc post : List Char) (h : n.all isNameChar = true) :
    substGo vs (.name acc) (n ++ '}' :: post) = substGo vs (.name (n.reverse ++ acc)) ('}' :: post) := by
  induction n generalizing acc with
  | nil => simp
  | cons c r ih =>
    simp only [List.all_cons, Bool.and_eq_true] at h
    simp [substGo, h.1, ih _ h.2]

theorem substGo_close (vs : Vars) (acc post : List Char) :
    substGo vs (.name acc) ('}' :: post)
      = if nameOk acc.reverse then (substGo vs .text post).map (vs.contents acc.reverse ++ ·) else none := by
  simp [substGo, show isNameChar '}' = false by decide]

theorem nameOk_all {n : List Char} (h : nameOk n = true) : n.all isNameChar = true := by
  cases n with
  | nil => simp [nameOk] at h
  | cons c r =>
    simp only [nameOk, Bool.and_eq_true] at h
    simp [h.1.2, h.2]

/-- a reference is replaced by the contents of the variable, whatever stands around it -/
theorem substitute_reference (vs : Vars) (pre n post : List Char) (hp : noDollar pre = true) (hn : nameOk n = true) :
    substitute vs (pre ++ (plainRef n ++ post))
      = (substitute vs post).map (fun s => pre ++ (vs.contents n ++ s)) := by
  unfold substitute plainRef
  rw [substGo_text_append vs pre _ hp]
  have h1 : substGo vs .text ('$' :: '{' :: (n ++ ['}']) ++ post) = substGo vs (.name []) (n ++ '}' :: post) := by
    simp [substGo]
  rw [h1, substGo_name vs n [] post (nameOk_all hn), substGo_close]
  simp only [List.append_nil, List.reverse_reverse, hn, if_true, Option.map_map]
  rfl

theorem substitute_noDollar (vs : Vars) (t : List Char) (h : noDollar t = true) : substitute vs t = some t := by
  have := substGo_text_append vs t [] h
  simpa [substitute, substGo] using this

/-- a reference between texts without `$` (quotes, nothing at all): the contents between the same texts -/
theorem substitute_wrapped (vs : Vars) (pre n post : List Char) (hp : noDollar pre = true) (hn : nameOk n = true)
    (hq : noDollar post = true) :
    substitute vs (pre ++ (plainRef n ++ post)) = some (pre ++ (vs.contents n ++ post)) := by
  rw [substitute_reference vs pre n post hp hn, substitute_noDollar vs post hq]; rfl

theorem readRefText_eq {vs : Vars} {t t' : List Char} (h : substitute vs t = some t') :
    readRefText vs t = readText t' := by
  rw [readRefText, h]; rfl

theorem trimSpaces_quoted (q : Char) (hq : (q == ' ') = false) (v : List Char) :
    trimSpaces (q :: (v ++ [q])) = q :: (v ++ [q]) := by
  simp [trimSpaces, hq]

/-- a double-quoted one-line text without inner quotes or escapes is the string between the quotes, whatever it looks
    like (`"0815"`, `"true"`, `"null"`) -/
theorem readText_dquoted (v : List Char) (h : dquoteSafe v = true) : readText (dquoted v) = some (.str v) := by
  rw [readText, dquoted, trimSpaces_quoted _ rfl]
  simp [List.all_reverse, show v.all _ = true from h]

theorem readText_squoted (v : List Char) (h : squoteSafe v = true) : readText (squoted v) = some (.str v) := by
  rw [readText, squoted, trimSpaces_quoted _ rfl]
  simp [List.all_reverse, show v.all _ = true from h]

end Heimdall.Config
