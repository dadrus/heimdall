import HeimdallModel.Lemmas.Basic
/-! The characters of a string literal without decoding UTF-8.

A fact about concrete strings that is proved by evaluation (`decide`) is evaluated by the kernel, and the kernel can
run `String.toList` only as the UTF-8 decoder it is defined by: a loop that indexes into the *list* of bytes, quadratic
in the length of the string.  The characters of an ASCII string can be read off its bytes one by one (`chars`, linear);
`chars_eq : chars s = s.toList` holds for every string, so `simp only [← chars_eq]` on a goal in which `String.toList`
occurs (after unfolding the definitions that call it, e.g. `hasPrefix`, `hasSuffix` in the protocol obligations of
C07) puts `chars` in its place before the goal is handed to `decide`. -/
namespace Heimdall.Ascii

/-- the characters of a list of ASCII bytes; `none` if there is any other byte -/
def asciiChars : List UInt8 → Option (List Char)
  | [] => some []
  | b :: bs => if b.toNat < 128 then (asciiChars bs).map (Char.ofNat b.toNat :: ·) else none

theorem utf8EncodeChar_ofNat {n : Nat} (h : n < 128) : String.utf8EncodeChar (Char.ofNat n) = [UInt8.ofNat n] := by
  have hval : (Char.ofNat n).val.toNat = n := toNat_ofNat_small (by omega)
  simp only [String.utf8EncodeChar, hval]
  rw [if_pos (by omega)]

theorem flatMap_asciiChars : ∀ {bs : List UInt8} {l : List Char}, asciiChars bs = some l →
    l.flatMap String.utf8EncodeChar = bs
  | [], _, h => by cases h; rfl
  | b :: bs, l, h => by
    simp only [asciiChars] at h
    split at h
    · next hb =>
      cases hl : asciiChars bs with
      | none => rw [hl] at h; cases h
      | some l' =>
        rw [hl] at h; cases h
        rw [List.flatMap_cons, utf8EncodeChar_ofNat hb, flatMap_asciiChars hl, UInt8.ofNat_toNat]; rfl
    · cases h

def chars (s : String) : List Char := (asciiChars s.toByteArray.data.toList).getD s.toList

theorem chars_eq (s : String) : chars s = s.toList := by
  unfold chars
  cases h : asciiChars s.toByteArray.data.toList with
  | none => rfl
  | some l =>
    have hl : (String.ofList l).toByteArray = s.toByteArray := by
      rw [String.toByteArray_ofList, List.utf8Encode, flatMap_asciiChars h]
      exact ByteArray.ext (by rw [List.data_toByteArray, Array.toArray_toList])
    rw [← String.toByteArray_inj.mp hl, String.toList_ofList]; rfl

/-- The characters of a string literal.  Given `h := rfl`, the unifier solves `"abc" =?= String.ofList ?l` by unfolding
the literal, and the kernel checks that `rfl` the same way, without decoding UTF-8: `simp only [toList_lit _ _ rfl]`
replaces every `"lit".toList` of a goal by the list of its characters.  To be used where `"lit".toList` is visible
without passing a `match`; rewriting the discriminant of a `match` makes the kernel evaluate the old discriminant. -/
theorem toList_lit (s : String) (l : List Char) (h : s = String.ofList l) : s.toList = l := h ▸ String.toList_ofList

end Heimdall.Ascii
