import HeimdallModel.Lemmas.Conc
/-! Lock-state invariants of the protocol machine and deadlock freedom under the deferred release discipline, for
executions with any number of panicking lookups and changes; writers announce themselves on `rulesTreeMutex`
before they acquire it (`wRWRequest` / `wRWAcquire`) and new readers wait behind an announced writer. -/
namespace Heimdall.Conc

variable {K T Op Req Ans : Type}

/-- inside its read section: holds a read lock of `rulesTreeMutex` -/
def activeReader : Thread K T Op Req Ans → Prop
  | .reader _ pc _ _ _ => pc = .rHeld ∨ pc = .searched
  | _ => False

/-- holds `rulesTreeMutex` as a writer (acquired, not yet released) -/
def rwHolder : Thread K T Op Req Ans → Prop
  | .writer _ pc _ => pc = .rwHeld ∨ pc = .indexWritten
  | _ => False

/-- pending on or holding `rulesTreeMutex` as a writer -/
def rwOwner : Thread K T Op Req Ans → Prop
  | .writer _ pc _ => pc = .rwWaiting ∨ pc = .rwHeld ∨ pc = .indexWritten
  | _ => False

theorem rwOwner_of_rwHolder {t : Thread K T Op Req Ans} (h : rwHolder t) : rwOwner t := by
  cases t with
  | reader => exact h
  | writer => exact .inr h

theorem inCS_of_rwOwner {t : Thread K T Op Req Ans} (h : rwOwner t) : inCS t := by
  cases t with
  | reader => exact h
  | writer => rcases h with rfl | rfl | rfl <;> simp [inCS]

/-- the ghost fields of a reader are what the guards of its next step (`rLock`, `rSearch`, `rUnlock`) match
literally; without this a reader could not be shown to be able to move -/
def shapeOk : Thread K T Op Req Ans → Prop
  | .reader _ .idle a st n => a = none ∧ st = 0 ∧ n = 0
  | .reader _ .rHeld a _ n => a = none ∧ n = 0
  | .reader _ .searched a _ _ => a ≠ none
  | _ => True

structure LInv (c : Config K T Op Req Ans) : Prop where
  rd_len   : c.readers = c.rset.length
  rd_nodup : c.rset.Nodup
  rd_mem   : ∀ j, j ∈ c.rset ↔ activeReader (c.threads j)
  rww_iff  : ∀ i, c.rww = some i ↔ rwOwner (c.threads i)
  rw_excl  : ∀ i, rwHolder (c.threads i) → c.rset = []
  shapes   : ∀ j, shapeOk (c.threads j)

/-- `LInv` after thread `i` became `t`: every clause for `i` itself, and for the other threads as before -/
theorem linv_upd {c c' : Config K T Op Req Ans} {i : Nat} {t : Thread K T Op Req Ans} (hl : LInv c)
    (ht : c'.threads = upd c.threads i t) (hshape : shapeOk t)
    (hlen : c'.readers = c'.rset.length) (hnd : c'.rset.Nodup)
    (hmem : i ∈ c'.rset ↔ activeReader t) (hmem' : ∀ j, j ≠ i → (j ∈ c'.rset ↔ j ∈ c.rset))
    (hrww : c'.rww = some i ↔ rwOwner t) (hrww' : ∀ j, j ≠ i → (c'.rww = some j ↔ c.rww = some j))
    (hex : rwHolder t → c'.rset = []) (hex' : ∀ j, j ≠ i → rwHolder (c.threads j) → c'.rset = []) : LInv c' := by
  refine ⟨hlen, hnd, ?_, ?_, ?_, ?_⟩ <;> rw [ht]
  · exact forall_upd (P := fun j t => j ∈ c'.rset ↔ activeReader t) hmem fun j e => (hmem' j e).trans (hl.rd_mem j)
  · exact forall_upd (P := fun j t => c'.rww = some j ↔ rwOwner t) hrww fun j e => (hrww' j e).trans (hl.rww_iff j)
  · exact forall_upd (P := fun _ t => rwHolder t → c'.rset = []) hex hex'
  · exact forall_upd (P := fun _ t => shapeOk t) hshape fun j _ => hl.shapes j

/-- a step that leaves the lock state alone and moves thread `i` between places of the same lock status -/
theorem linv_of_eq {c c' : Config K T Op Req Ans} {i : Nat} {t : Thread K T Op Req Ans} (h : LInv c)
    (hr : c'.readers = c.readers) (hs : c'.rset = c.rset) (hw : c'.rww = c.rww)
    (ht : c'.threads = upd c.threads i t)
    (hact : activeReader t ↔ activeReader (c.threads i))
    (hown : rwOwner t ↔ rwOwner (c.threads i))
    (hrw : rwHolder t → rwHolder (c.threads i))
    (hshape : shapeOk t) : LInv c' :=
  linv_upd h ht hshape (by rw [hr, hs]; exact h.rd_len) (hs ▸ h.rd_nodup)
    (by rw [hs, hact]; exact h.rd_mem i) (fun _ _ => by rw [hs])
    (by rw [hw, hown]; exact h.rww_iff i) (fun _ _ => by rw [hw])
    (fun hj => hs ▸ h.rw_excl i (hrw hj)) (fun j _ hj => hs ▸ h.rw_excl j hj)

theorem linv_step (s : Seq K T Op Req Ans) (c c' : Config K T Op Req Ans)
    (hl : LInv c) (hs : Step .deferred s c c') : LInv c' := by
  cases hs with
  | wPanicLeaked hd => cases hd
  | rPanicLeaked hd => cases hd
  | wPanicReleased hd _ i op pc loc h hpc hlk =>
    refine linv_of_eq hl rfl rfl rfl rfl ?_ ?_ (by simp [rwHolder]) trivial
    · rcases hpc with rfl | rfl <;> simp [h, activeReader]
    · rcases hpc with rfl | rfl <;> simp [h, rwOwner]
  | wRWRequest _ i op st' h hr | wRWUnlock _ i op st' h hr =>
    refine linv_upd hl rfl trivial hl.rd_len hl.rd_nodup ((hl.rd_mem i).trans (by rw [h]; exact Iff.rfl))
      (fun _ _ => Iff.rfl) (by simp [rwOwner]) (fun j e => ?_) (by simp [rwHolder]) (fun j _ => hl.rw_excl j)
    simp [hr, Ne.symm e]
  | wRWAcquire _ i op st' h hrw nor =>
    have hrs : c.rset = [] := List.length_eq_zero_iff.mp (hl.rd_len ▸ nor)
    exact linv_upd hl rfl trivial hl.rd_len hl.rd_nodup ((hl.rd_mem i).trans (by rw [h]; exact Iff.rfl))
      (fun _ _ => Iff.rfl) (by simp [hrw, rwOwner]) (fun _ _ => Iff.rfl) (fun _ => hrs) (fun j _ => hl.rw_excl j)
  | rLock _ i rq h free =>
    have hni : i ∉ c.rset := fun hm => by have := (hl.rd_mem i).mp hm; rw [h] at this; simp [activeReader] at this
    have hnoown : ∀ j, ¬ rwOwner (c.threads j) := fun j hj => by
      have := (hl.rww_iff j).mpr hj; rw [free] at this; cases this
    exact linv_upd hl rfl ⟨rfl, rfl⟩ (by simp [hl.rd_len]) (List.nodup_cons.mpr ⟨hni, hl.rd_nodup⟩)
      (by simp [activeReader]) (fun j e => by simp [e]) (by simp [free, rwOwner]) (fun _ _ => Iff.rfl)
      (fun hj => hj.elim) (fun j _ hj => absurd (rwOwner_of_rwHolder hj) (hnoown j))
  | rUnlock _ i rq a st n h | rPanicReleased hd _ i rq st h =>
    -- an active reader leaves its read section: by the unlock after the search, or by the deferred unlock of a panic
    have hmi : i ∈ c.rset := (hl.rd_mem i).mpr (by rw [h]; simp [activeReader])
    refine linv_upd hl rfl trivial (by simp only [List.length_erase_of_mem hmi, hl.rd_len]) (hl.rd_nodup.erase i)
      ⟨fun hm => absurd hm hl.rd_nodup.not_mem_erase, fun ha => ?_⟩ (fun j e => List.mem_erase_of_ne e)
      ⟨fun hj => ?_, fun hj => hj.elim⟩ (fun _ _ => Iff.rfl) (fun hj => hj.elim) (fun j _ hj => ?_)
    · simp [activeReader] at ha
    · have := (hl.rww_iff i).mp hj; rw [h] at this; exact this
    · rw [hl.rw_excl j hj] at hmi; cases hmi
  -- these leave `readers`, `rset` and `rww` alone and move a thread between places of the same lock status
  | wLock | wReadKnown | wClone | wComputeOk | wComputeErr | wFail | wKnown | wIndex | wUnlock | rSearch =>
    exact linv_of_eq hl rfl rfl rfl rfl (by simp [*, activeReader]) (by simp [*, rwOwner])
      (by simp [*, rwHolder]) (by simp [shapeOk])

theorem linv_initial (s : Seq K T Op Req Ans) (c : Config K T Op Req Ans) (h : Initial s c) : LInv c := by
  refine ⟨by simp [h.readers, h.rset], by simp [h.rset], ?_, ?_, fun _ _ => h.rset, ?_⟩
  · intro j
    rcases h.threads j with ⟨op, loc, e⟩ | ⟨rq, e⟩ <;> simp [e, h.rset, activeReader]
  · intro j
    rcases h.threads j with ⟨op, loc, e⟩ | ⟨rq, e⟩ <;> simp [e, h.rww, rwOwner]
  · intro j
    rcases h.threads j with ⟨op, loc, e⟩ | ⟨rq, e⟩ <;> simp [e, shapeOk]

theorem linv_reachable (s : Seq K T Op Req Ans) (c : Config K T Op Req Ans) (h : Reachable .deferred s c) :
    LInv c :=
  h.of_step (linv_initial s) (linv_step s)

/-- the goroutine has returned — with a result, or because a panic ended it -/
def finished : Thread K T Op Req Ans → Prop
  | .writer _ pc _ => pc = .doneOk ∨ pc = .doneFail ∨ pc = .crashed
  | .reader _ pc _ _ _ => pc = .done ∨ pc = .crashed

/-- a thread that has returned or crashed is in none of the sections the lock fields speak of -/
theorem finished_outside {s : Seq K T Op Req Ans} {c : Config K T Op Req Ans} {t : Thread K T Op Req Ans}
    (h : finished t) : ¬ holderOk s c t ∧ ¬ rwOwner t ∧ ¬ activeReader t := by
  cases t with
  | writer op pc loc => rcases h with rfl | rfl | rfl <;> exact ⟨id, nofun, id⟩
  | reader rq pc a st n => rcases h with rfl | rfl <;> exact ⟨id, id, nofun⟩

theorem reader_can_step (d : Discipline) (s : Seq K T Op Req Ans) (c : Config K T Op Req Ans) (hl : LInv c) (j : Nat)
    (hj : activeReader (c.threads j)) : ∃ c', Step d s c c' := by
  have hsh := hl.shapes j
  cases ht : c.threads j with
  | writer op pc loc => rw [ht] at hj; exact hj.elim
  | reader rq pc a st n =>
    rw [ht] at hj hsh
    rcases hj with rfl | rfl
    · obtain ⟨rfl, rfl⟩ := hsh
      exact ⟨_, .rSearch c j rq st ht⟩
    · cases a with
      | none => exact absurd rfl hsh
      | some x => exact ⟨_, .rUnlock c j rq x st n ht⟩

/-- nobody is pending on or holds `rulesTreeMutex` as a writer unless it is the holder of `knownRulesMutex` -/
theorem rww_holder (s : Seq K T Op Req Ans) (c : Config K T Op Req Ans) (hi : Inv s c) (hl : LInv c) (k : Nat)
    (hr : c.rww = some k) : c.wlock = some k :=
  holder_of_inCS s c hi k (inCS_of_rwOwner ((hl.rww_iff k).mp hr))

/-- no writer is announced on `rulesTreeMutex` unless the holder of `knownRulesMutex` is one -/
theorem rww_none (s : Seq K T Op Req Ans) (c : Config K T Op Req Ans) (hi : Inv s c) (hl : LInv c)
    (hno : ∀ k, c.wlock = some k → ¬ rwOwner (c.threads k)) : c.rww = none := by
  cases hr : c.rww with
  | none => rfl
  | some k => exact absurd ((hl.rww_iff k).mp hr) (hno k (rww_holder s c hi hl k hr))

/-- **Deadlock freedom**: as long as some thread has not finished, some thread can take a step — whatever number
of lookups and changes have panicked before (their locks were released by the deferred unlocks) -/
theorem progress (s : Seq K T Op Req Ans) (c : Config K T Op Req Ans) (hi : Inv s c) (hl : LInv c)
    (i : Nat) (hnf : ¬ finished (c.threads i)) : ∃ c', Step .deferred s c c' := by
  cases hw : c.wlock with
  | some h =>
    -- the holder of knownRulesMutex is inside its critical section and can always move on
    have hh := hi.held h hw
    cases ht : c.threads h with
    | reader rq pc a st n => rw [ht] at hh; exact hh.elim
    | writer op pc loc =>
      rw [ht] at hh
      have own : rwOwner (Thread.writer (Req := Req) (Ans := Ans) op pc loc) → c.rww = some h :=
        fun ho => (hl.rww_iff h).mpr (ht ▸ ho)
      cases pc with
      | idle | doneOk | doneFail | crashed => exact hh.elim
      | locked => exact ⟨_, .wReadKnown c h op loc ht hw⟩
      | readK => exact ⟨_, .wClone c h op loc ht hw⟩
      | cloned =>
        cases ha : s.apply loc op with
        | none => exact ⟨_, .wComputeErr c h op loc ht hw ha⟩
        | some st' => exact ⟨_, .wComputeOk c h op loc st' ht hw ha⟩
      | computed => exact ⟨_, .wKnown c h op loc ht hw⟩
      | failed => exact ⟨_, .wFail c h op loc ht hw⟩
      | knownWritten =>
        refine ⟨_, .wRWRequest c h op loc ht (rww_none s c hi hl fun k hk => ?_)⟩
        rw [hw] at hk; cases hk; rw [ht]; simp [rwOwner]
      | rwWaiting =>
        by_cases hrd : c.readers = 0
        · exact ⟨_, .wRWAcquire c h op loc ht (own (.inl rfl)) hrd⟩
        · -- some reader still holds the read lock and can move on (search, unlock, or panic and unwind)
          have : c.rset ≠ [] := fun he => hrd (by rw [hl.rd_len, he]; rfl)
          obtain ⟨j, hj⟩ := List.exists_mem_of_ne_nil _ this
          exact reader_can_step _ s c hl j ((hl.rd_mem j).mp hj)
      | rwHeld => exact ⟨_, .wIndex c h op loc ht (own (.inr (.inl rfl)))⟩
      | indexWritten => exact ⟨_, .wRWUnlock c h op loc ht (own (.inr (.inr rfl)))⟩
      | rwReleased => exact ⟨_, .wUnlock c h op loc ht hw⟩
  | none =>
    cases ht : c.threads i with
    | writer op pc loc =>
      have hout := hi.outside i (by rw [hw]; nofun)
      rw [ht] at hout hnf
      -- outside the critical section and not finished: at its start
      have : pc = .idle := Classical.byContradiction fun h0 =>
        hout ⟨h0, fun e => hnf (.inl e), fun e => hnf (.inr (.inl e)), fun e => hnf (.inr (.inr e))⟩
      subst this
      exact ⟨_, .wLock c i op loc ht hw⟩
    | reader rq pc a st n =>
      have hsh := hl.shapes i
      rw [ht] at hnf hsh
      cases pc with
      | done => exact absurd (.inl rfl) hnf
      | crashed => exact absurd (.inr rfl) hnf
      | idle =>
        obtain ⟨rfl, rfl, rfl⟩ := hsh
        exact ⟨_, .rLock c i rq ht (rww_none s c hi hl fun k hk => by rw [hw] at hk; cases hk)⟩
      | rHeld => exact reader_can_step _ s c hl i (ht ▸ .inl rfl)
      | searched => exact reader_can_step _ s c hl i (ht ▸ .inr rfl)

end Heimdall.Conc
