import HeimdallModel.Model.Repo
/-!
What the lookup (`Repo.findRule`), the matchers and the start of rule execution (`execPrelude`) read of a request view:
two views that are `Alike` are served, and forwarded or not, alike.
-/
namespace Heimdall

/-- Two request views that agree on everything `FindRule`, the matchers and `ruleImpl.Execute` (up to the pipeline)
read: method, scheme, host, the decoded path, and of the raw path whether it is empty, whether it contains an encoded
slash, and its normal form. -/
structure Alike (q q' : ReqView) : Prop where
  method : q.method = q'.method
  scheme : q.scheme = q'.scheme
  host : q.host = q'.host
  path : q.path = q'.path
  rawEmpty : q.rawPath.isEmpty = q'.rawPath.isEmpty
  slash : containsEncodedSlash q.rawPath = containsEncodedSlash q'.rawPath
  key : normalizeUnreserved q.rawPath = normalizeUnreserved q'.rawPath

namespace Alike
variable {q q' : ReqView} (h : Alike q q')
include h

theorem lookupPath : lookupPath q = lookupPath q' := by
  unfold Heimdall.lookupPath
  rw [h.rawEmpty, h.path, h.key]

theorem matcher : repoMatcher q = repoMatcher q' := by
  funext v keys caps
  unfold repoMatcher routeMatches schemeOk methodOk hostOk
  rw [h.scheme, h.method, h.host]
  congr 2
  funext pp
  unfold ppOk
  rw [h.rawEmpty, h.slash]

theorem execPrelude (esh : SlashHandling) (ps : List (String × String)) :
    execPrelude esh q ps = execPrelude esh q' ps := by
  unfold Heimdall.execPrelude
  rw [h.slash]

theorem findRule (s : Repo) (d : Bool) : s.findRule d q = s.findRule d q' := by
  unfold Repo.findRule
  rw [h.lookupPath, h.matcher]

theorem serve (s : Repo) (d : Bool) : s.serve d q = s.serve d q' := by
  unfold Repo.serve
  rw [h.findRule]
  simp only [h.execPrelude]

theorem upstream_isSome (s : Repo) (d : Bool) (rq : String) :
    (s.upstream d q rq).isSome = (s.upstream d q' rq).isSome := by
  unfold Repo.upstream
  rw [h.findRule]
  simp only [h.execPrelude]
  cases s.findRule d q' with
  | none => rfl
  | default => rfl
  | rule v ps =>
    dsimp only
    cases Heimdall.execPrelude v.esh q' ps <;> cases (s.ruleOf v).bind (·.cfg.backend) <;> rfl

/-- under `on` the raw path is dropped: the upstream URL is computed from what the two views share -/
theorem upstreamUrl_on (be : BackendCfg) (rq : String) : upstreamUrl .on be q rq = upstreamUrl .on be q' rq := by
  unfold upstreamUrl Upstream.upstreamPath
  simp only [if_true, h.path, h.scheme]

theorem upstream_on (s : Repo) (d : Bool) (rq : String) {v : RVal} {ps : List (String × String)}
    (hf : s.findRule d q' = .rule v ps) (hv : v.esh = .on) : s.upstream d q rq = s.upstream d q' rq := by
  unfold Repo.upstream
  rw [h.findRule, hf]
  simp only [hv, h.execPrelude, h.upstreamUrl_on]

end Alike

theorem execPrelude_off {q : ReqView} (h : containsEncodedSlash q.rawPath = true) (params : List (String × String)) :
    execPrelude .off q params = .argument := by
  unfold execPrelude
  rw [h]
  rfl

end Heimdall
