import HeimdallModel.Lemmas.Trie
/-!
Extensional view of a table: `getNode t p`.  `find` depends on the table only through this view, and `addPat` /
`delPat` have a closed-form effect on it.
-/
namespace Heimdall

variable {V : Type}

theorem cands_congr {t₁ t₂ : Table V} (h : ∀ p, getNode t₁ p = getNode t₂ p) (toks : List Tok)
    (caps : List String) : cands t₁ toks caps = cands t₂ toks caps := by
  induction toks generalizing t₁ t₂ caps with
  | nil => simp only [cands, here_eq_getNode, h]
  | cons tok rest ih =>
    have hb : ∀ q p, getNode (below t₁ q) p = getNode (below t₂ q) p := fun q p => by
      rw [getNode_below, getNode_below, h]
    simp only [cands, here_eq_getNode, hb, ih (hb (.lit _)), ih (hb .wild)]

/-- tables with the same nodes (as a function of the expression) answer every lookup alike -/
theorem find_congr (m : V → List String → List String → Bool) (t₁ t₂ : Table V)
    (h : ∀ p, getNode t₁ p = getNode t₂ p) (toks : List Tok) (caps : List String) :
    find m t₁ toks caps = find m t₂ toks caps := by
  rw [find_eq_scan, find_eq_scan, cands_congr h]

theorem getNode_append (t t' : Table V) (p : List PTok) :
    getNode (t ++ t') p = (getNode t p).or (getNode t' p) := List.find?_append

theorem getNode_map (t : Table V) {g : Node V → Node V} (hg : ∀ n, (g n).pat = n.pat) (p : List PTok) :
    getNode (t.map g) p = (getNode t p).map g := by
  simp only [getNode, List.find?_map, Function.comp_def, hg]

/-- a function that only rewrites the expression to the one looked up does nothing to the entry found -/
theorem getNode_map_self (T : Table V) (p : List PTok) {g : Node V → Node V}
    (hg : ∀ n, n.pat = p → g n = n) : (getNode T p).map g = getNode T p := by
  cases h : getNode T p with
  | none => rfl
  | some n => rw [Option.map_some, hg n (getNode_some_pat h)]

theorem nodup_map {t : Table V} (hnd : NodupPats t) {g : Node V → Node V} (hg : ∀ n, (g n).pat = n.pat) :
    NodupPats (t.map g) :=
  List.pairwise_map.mpr (hnd.imp fun h => by rwa [hg, hg])

theorem nodup_filterMap {t : Table V} (hnd : NodupPats t) {f : Node V → Option (Node V)}
    (hf : ∀ n n', f n = some n' → n'.pat = n.pat) : NodupPats (t.filterMap f) :=
  List.Pairwise.filterMap f (fun a a' h b hb b' hb' => by rwa [hf a b hb, hf a' b' hb']) hnd

theorem getNode_eq_some {t : Table V} (hnd : NodupPats t) {p : List PTok} {n : Node V} :
    getNode t p = some n ↔ n ∈ t ∧ n.pat = p :=
  ⟨fun h => ⟨getNode_mem h, getNode_some_pat h⟩, fun ⟨hn, hp⟩ => hp ▸ getNode_of_mem hnd hn⟩

theorem getNode_filterMap {t : Table V} (hnd : NodupPats t) {f : Node V → Option (Node V)}
    (hf : ∀ n n', f n = some n' → n'.pat = n.pat) (p : List PTok) :
    getNode (t.filterMap f) p = (getNode t p).bind f := by
  apply Option.ext
  intro b
  rw [getNode_eq_some (nodup_filterMap hnd hf), Option.bind_eq_some_iff, List.mem_filterMap]
  constructor
  · rintro ⟨⟨a, ha, hab⟩, hb⟩
    exact ⟨a, (getNode_eq_some hnd).mpr ⟨ha, (hf a b hab).symm.trans hb⟩, hab⟩
  · rintro ⟨a, ha, hab⟩
    exact ⟨⟨a, getNode_mem ha, hab⟩, (hf a b hab).trans (getNode_some_pat ha)⟩

section
variable {canAdd : List V → V → Bool} {t t' : Table V} {pat : List PTok} {keys : List String} {v : V} {bt : Bool}

theorem addPat_eq_ok :
    addPat canAdd t pat keys v bt = .ok t' ↔
      match getNode t pat with
      | none => canAdd [] v = true ∧ t' = t ++ [⟨pat, keys, [v], bt⟩]
      | some n => n.keys = keys ∧ canAdd n.values v = true ∧
          t' = t.map fun n' => if n'.pat = pat then { n' with values := n'.values ++ [v], bt := bt } else n' := by
  unfold addPat
  cases getNode t pat with
  | none => by_cases hc : canAdd [] v = true <;> simp [hc, eq_comm]
  | some n => by_cases hk : n.keys = keys <;> by_cases hc : canAdd n.values v = true <;> simp [hk, hc, eq_comm]

variable (canAdd t t' pat keys v bt)

theorem addPat_ok_iff :
    (∃ t', addPat canAdd t pat keys v bt = .ok t') ↔
      (match getNode t pat with
        | none => canAdd [] v = true
        | some n => n.keys = keys ∧ canAdd n.values v = true) := by
  simp only [addPat_eq_ok]
  cases getNode t pat <;> simp

theorem addPat_ok_congr {t₂ : Table V} (h : getNode t pat = getNode t₂ pat) :
    (∃ t', addPat canAdd t pat keys v bt = .ok t') ↔ ∃ t', addPat canAdd t₂ pat keys v bt = .ok t' := by
  rw [addPat_ok_iff, addPat_ok_iff, h]

theorem addPat_getNode (h : addPat canAdd t pat keys v bt = .ok t') (p : List PTok) :
    getNode t' p =
      if p = pat then
        some (match getNode t pat with
          | none => ⟨pat, keys, [v], bt⟩
          | some n => { n with values := n.values ++ [v], bt := bt })
      else getNode t p := by
  have h := addPat_eq_ok.mp h
  cases hg : getNode t pat with
  | none =>
    rw [hg] at h
    rw [h.2, getNode_append]
    by_cases hp : p = pat
    · subst hp; rw [hg]; simp [getNode]
    · cases getNode t p <;> simp [getNode, hp, Ne.symm hp]
  | some n =>
    rw [hg] at h
    rw [h.2.2, getNode_map t (fun n' => by split <;> rfl)]
    by_cases hp : p = pat
    · subst hp; simp [hg, getNode_some_pat hg]
    · cases hgp : getNode t p with
      | none => simp [hp]
      | some x => simp [hp, getNode_some_pat hgp]

theorem nodup_addPat (hnd : NodupPats t) (h : addPat canAdd t pat keys v bt = .ok t') : NodupPats t' := by
  have h := addPat_eq_ok.mp h
  cases hg : getNode t pat with
  | none =>
    rw [hg] at h
    rw [h.2]
    refine List.pairwise_append.mpr ⟨hnd, List.pairwise_singleton _ _, fun a ha b hb e => ?_⟩
    cases List.mem_singleton.mp hb
    simpa [e] using List.find?_eq_none.mp hg a ha
  | some n =>
    rw [hg] at h
    rw [h.2.2]
    exact nodup_map hnd (fun n' => by split <;> rfl)

end

/-- what `delPat` leaves of a node when the values satisfying `g` are deleted -/
def pruneNode {V : Type} (g : V → Bool) (n : Node V) : Option (Node V) :=
  let vs := n.values.filter (fun v => !g v)
  if vs.isEmpty then none else some { n with values := vs }

/-- what `delPat` does to one node of the table -/
def delStep (pat : List PTok) (pr : V → Bool) (n : Node V) : Option (Node V) :=
  if n.pat = pat then pruneNode pr n else some n

section
variable {t t' : Table V} {pat : List PTok} {pr : V → Bool}

theorem delStep_pat (n n' : Node V) (h : delStep pat pr n = some n') : n'.pat = n.pat := by
  simp only [delStep, pruneNode] at h
  split at h
  · split at h
    · cases h
    · cases h; rfl
  · cases h; rfl

theorem delPat_eq_some :
    delPat t pat pr = some t' ↔
      ∃ n, getNode t pat = some n ∧ n.values.any pr = true ∧ t' = t.filterMap (delStep pat pr) := by
  unfold delPat
  cases getNode t pat with
  | none => simp
  | some n =>
    by_cases ha : n.values.any pr = true
    · simp only [ha, if_true, Option.some.injEq, exists_eq_left', true_and]; exact eq_comm
    · simp only [if_neg ha]
      exact ⟨nofun, fun ⟨_, hn, ha', _⟩ => absurd (Option.some.inj hn ▸ ha') ha⟩

variable (t t' pat pr)

theorem delPat_getNode (hnd : NodupPats t) (h : delPat t pat pr = some t') (p : List PTok) :
    getNode t' p =
      if p = pat then (getNode t pat).bind (pruneNode pr) else getNode t p := by
  obtain ⟨n, hg, -, rfl⟩ := delPat_eq_some.mp h
  rw [getNode_filterMap hnd delStep_pat]
  by_cases hp : p = pat
  · subst hp; simp [hg, delStep, getNode_some_pat hg]
  · cases hgp : getNode t p with
    | none => simp [hp]
    | some x => simp [hp, delStep, getNode_some_pat hgp]

theorem delPat_some_iff :
    (∃ t', delPat t pat pr = some t') ↔ ∃ n, getNode t pat = some n ∧ n.values.any pr = true := by
  simp only [delPat_eq_some]
  exact ⟨fun ⟨_, n, hg, ha, _⟩ => ⟨n, hg, ha⟩, fun ⟨n, hg, ha⟩ => ⟨_, n, hg, ha, rfl⟩⟩

theorem nodup_delPat (hnd : NodupPats t) (h : delPat t pat pr = some t') : NodupPats t' := by
  obtain ⟨n, -, -, rfl⟩ := delPat_eq_some.mp h
  exact nodup_filterMap hnd delStep_pat

end

end Heimdall
