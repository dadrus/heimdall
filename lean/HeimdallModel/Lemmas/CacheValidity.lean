import HeimdallModel.Spec.CacheValidity
import HeimdallModel.Lemmas.Basic
/-!
# Lemmas for C10: the store invariant behind "nothing is reused beyond its validity", and what feeds it

* the TTL store (`Store.get` / `set`);
* `Sound p ok`: whenever policy `p` decides to store a fresh answer with a TTL, reuse of that answer is permitted
  (`ok`) up to and including the instant `now + ttl`, and `ok` is downward closed in time. Then every request keeps
  the invariant "each entry may be reused until its own `expiry`" and hits only what is permitted (`step_sound`), hence
  so does every history (`runMixed_hits`); histories of a policy that is switched off (`run_disabled`); both through
  the one induction over a history, `runMixed_inv`;
* the sign facts about the constants read from the source;
* bounds of the TTL rules (`cacheTTL_le_remaining`, `cacheTTL_le_configured`), from which the policy of every mechanism
  is `Sound` for `mayReuse` (`mech_sound`, via the cache leeway: `margin_sound`);
* the same for the HTTP response cache (`httpTTL_le`, `http_sound`).
-/
namespace Heimdall.Validity

variable {U V : Type}

theorem alive_le {k : StoreKind} {now u : Int} (h : alive k now u = true) : now ≤ u := by
  cases k <;> simp [alive] at h <;> omega

theorem Store.find_some {s : Store V} {key : Nat} {e : Entry V} (h : s.find key = some e) :
    e ∈ s ∧ e.key = key := by
  unfold Store.find at h
  have h1 := List.mem_of_find?_eq_some h
  have h2 := List.find?_some h
  exact ⟨h1, by simpa using h2⟩

theorem Store.get_some {k : StoreKind} {s : Store V} {key : Nat} {now : Int} {v : V}
    (h : s.get k key now = some v) : ∃ e ∈ s, e.key = key ∧ e.val = v ∧ alive k now e.expiry = true := by
  unfold Store.get at h
  split at h
  · rename_i e he
    split at h
    · rename_i ha
      obtain ⟨hm, hk⟩ := Store.find_some he
      exact ⟨e, hm, hk, by simpa using h, ha⟩
    · cases h
  · cases h

theorem Store.mem_set {s : Store V} {key : Nat} {v : V} {ttl now : Int} {e : Entry V}
    (h : e ∈ s.set key v ttl now) : e ∈ s ∨ (0 < ttl ∧ e = ⟨key, v, now + ttl⟩) := by
  unfold Store.set at h
  split at h
  · rename_i hpos
    rcases List.mem_cons.mp h with h | h
    · exact Or.inr ⟨hpos, h⟩
    · exact Or.inl (List.mem_filter.mp h).1
  · exact Or.inl h

theorem Store.find_set_same (s : Store V) (key : Nat) (v : V) (ttl now : Int) (hpos : 0 < ttl) :
    (s.set key v ttl now).find key = some ⟨key, v, now + ttl⟩ := by
  simp [Store.set, Store.find, hpos]

theorem Store.find_set_other (s : Store V) (key key' : Nat) (v : V) (ttl now : Int) (hne : key' ≠ key) :
    (s.set key v ttl now).find key' = s.find key' := by
  unfold Store.set Store.find
  split
  · have hk : (key == key') = false := by simpa using (Ne.symm hne)
    rw [List.find?_cons, hk]
    exact find?_filter_of_imp s fun e he => by simp_all
  · rfl

/-- a policy stores only what may be reused for the whole time the entry lives -/
structure Sound (p : Policy U) (ok : Item U → Int → Bool) : Prop where
  down : ∀ it t t', t' ≤ t → ok it t = true → ok it t' = true
  stored : ∀ now u idx, p.accept now u = true → 0 < p.ttl now u → ok ⟨u, now, idx⟩ (now + p.ttl now u) = true

/-- every entry may be reused until it expires -/
def Inv (ok : Item U → Int → Bool) (s : Store (Item U)) : Prop := ∀ e ∈ s, ok e.val e.expiry = true

theorem inv_nil (ok : Item U → Int → Bool) : Inv ok ([] : Store (Item U)) := by
  intro e he; cases he

/-- one request against a store in which every entry may be reused until it expires: the store stays such, and a hit
is a permitted reuse -/
theorem step_sound {p : Policy U} {ok : Item U → Int → Bool} (hs : Sound p ok) (k : StoreKind)
    {s : Store (Item U)} (hinv : Inv ok s) (now : Int) (idx : Nat) (r : Req U) :
    Inv ok (step p k s now idx r).1 ∧ ∀ it, (step p k s now idx r).2 = .hit it → ok it now = true := by
  unfold step
  split
  · rename_i it' hget
    refine ⟨hinv, fun it h => ?_⟩
    cases h
    have hget' : s.get k r.key now = some it' := by
      split at hget
      · exact hget
      · cases hget
    obtain ⟨e, hm, _, rfl, ha⟩ := Store.get_some hget'
    exact hs.down _ _ _ (alive_le ha) (hinv e hm)
  · split
    · rename_i hacc
      split
      · rename_i hpos
        refine ⟨fun e he => ?_, nofun⟩
        rcases Store.mem_set he with h | ⟨_, rfl⟩
        · exact hinv e h
        · exact hs.stored now r.up idx hacc hpos
      · exact ⟨hinv, nofun⟩
    · exact ⟨hinv, nofun⟩

/-- the induction over a history, once: if every request, run from a store with `I`, leaves a store with `I` and an
outcome with `Q`, then from any such store the whole history ends in a store with `I` and has outcomes with `Q` only -/
theorem runMixed_inv {I : Store (Item U) → Prop} {Q : Int → Outcome U → Prop} (k : StoreKind)
    (reqs : List (Policy U × Req U))
    (hstep : ∀ pr ∈ reqs, ∀ s now idx, I s → I (step pr.1 k s now idx pr.2).1 ∧ Q now (step pr.1 k s now idx pr.2).2) :
    ∀ (s : Store (Item U)) (now : Int) (idx : Nat), I s →
      I (runMixedStore k s now idx reqs) ∧ ∀ t o, (t, o) ∈ runMixed k s now idx reqs → Q t o := by
  induction reqs with
  | nil => exact fun s now idx hi => ⟨hi, fun t o h => nomatch h⟩
  | cons pr rs ih =>
    intro s now idx hi
    obtain ⟨hi', hq⟩ := hstep pr List.mem_cons_self s (now + pr.2.dt) idx hi
    obtain ⟨hi'', hqs⟩ := ih (fun pr' h' => hstep pr' (List.mem_cons_of_mem _ h')) _ (now + pr.2.dt) (idx + 1) hi'
    refine ⟨hi'', fun t o h => ?_⟩
    rcases List.mem_cons.mp h with h | h
    · cases h; exact hq
    · exact hqs t o h

/-- every hit of a history that starts from a store satisfying the invariant is a permitted reuse, also when the
requests are handled by different policies, as long as each of them is sound for the same reuse predicate -/
theorem runMixed_hits {ok : Item U → Int → Bool} (k : StoreKind) (reqs : List (Policy U × Req U))
    (hs : ∀ pr ∈ reqs, Sound pr.1 ok) (s : Store (Item U)) (now : Int) (idx : Nat) (hinv : Inv ok s) (t : Int)
    (it : Item U) (h : (t, Outcome.hit it) ∈ runMixed k s now idx reqs) : ok it t = true :=
  (runMixed_inv (I := Inv ok) (Q := fun t o => ∀ it, o = .hit it → ok it t = true) k reqs
    (fun pr hpr _ now idx hi => step_sound (hs pr hpr) k hi now idx pr.2) s now idx hinv).2 t _ h it rfl

theorem run_hits {p : Policy U} {ok : Item U → Int → Bool} (hs : Sound p ok) (k : StoreKind)
    (reqs : List (Req U)) (s : Store (Item U)) (now : Int) (idx : Nat) (hinv : Inv ok s) :
      ∀ t it, (t, Outcome.hit it) ∈ run p k s now idx reqs → ok it t = true := by
  apply runMixed_hits k _ _ s now idx hinv
  intro pr hpr
  obtain ⟨r, _, rfl⟩ := List.mem_map.mp hpr
  exact hs

/-- a policy that never looks up and never computes a positive TTL never touches the store and never hits -/
theorem step_disabled {p : Policy U} (hl : ∀ u, p.lookup u = false) (ht : ∀ now u, p.ttl now u ≤ 0) (k : StoreKind)
    (s : Store (Item U)) (now : Int) (idx : Nat) (r : Req U) :
    (step p k s now idx r).1 = s ∧
      ((step p k s now idx r).2 = .denied ∨ ∃ it, (step p k s now idx r).2 = .fresh it none) := by
  have hnot : ¬ (0 < p.ttl now r.up) := by have := ht now r.up; omega
  unfold step
  simp only [hl r.up, if_neg hnot]
  split
  · rename_i h; cases h
  · split
    · exact ⟨rfl, Or.inr ⟨_, rfl⟩⟩
    · exact ⟨rfl, Or.inl rfl⟩

theorem step_no_store (p : Policy U) (k : StoreKind) (s : Store (Item U)) (now : Int) (idx : Nat) (r : Req U)
    (h : p.ttl now r.up ≤ 0) :
    (step p k s now idx r).1 = s ∧ ∀ it ttl, (step p k s now idx r).2 ≠ .fresh it (some ttl) := by
  have hnot : ¬ (0 < p.ttl now r.up) := by omega
  unfold step
  simp only [if_neg hnot]
  split
  · exact ⟨rfl, by intro it ttl h; cases h⟩
  · split
    · exact ⟨rfl, by intro it ttl h; cases h⟩
    · exact ⟨rfl, by intro it ttl h; cases h⟩

theorem run_disabled {p : Policy U} (hl : ∀ u, p.lookup u = false) (ht : ∀ now u, p.ttl now u ≤ 0) (k : StoreKind)
    (reqs : List (Req U)) (s : Store (Item U)) (now : Int) (idx : Nat) :
      runStore p k s now idx reqs = s ∧
      ∀ t o, (t, o) ∈ run p k s now idx reqs → o = .denied ∨ ∃ it, o = .fresh it none :=
  runMixed_inv (I := (· = s)) (Q := fun _ o => o = .denied ∨ ∃ it, o = .fresh it none) k _
    (fun pr hpr s' now idx hi => by
      obtain ⟨r, _, rfl⟩ := List.mem_map.mp hpr
      obtain ⟨h1, h2⟩ := step_disabled hl ht k s' now idx r
      exact ⟨h1.trans hi, h2⟩) s now idx rfl

/-! ## obligations on the constants regenerated from the source (`Gen/CacheConsts.lean`)

Checked by the kernel on every run against what the code says now: no leeway is negative, the leeway of the two
token caches is positive (a token is never handed out at the very instant it expires), the default validity leeways
are positive. A change of a constant that keeps these facts changes nothing below. -/

theorem leeway_nonneg (m : Mech) : 0 ≤ m.leeway := by cases m <;> decide

theorem token_leeway_pos : 0 < Mech.clientCreds.leeway ∧ 0 < Mech.jwtFinalizer.leeway := by decide

theorem default_validity_leeway_pos : 0 < Gen.tokenValidityLeeway ∧ 0 < Gen.sessionValidityLeeway := by decide

/-- with a known remaining lifetime `r`, the shared `getCacheTTL` formula leaves the leeway -/
theorem derivedTTL_le_remaining (leeway configured r : Int) :
    derivedTTL leeway configured (some r) ≤ max 0 (r - leeway) := by
  simp only [derivedTTL]; omega

/-- the shared formula never exceeds a positive configured TTL (0 stands for "not configured") -/
theorem derivedTTL_le_configured (leeway c : Int) (rem : Option Int) (hc : 0 < c) : derivedTTL leeway c rem ≤ c := by
  cases rem <;> simp only [derivedTTL] <;> omega

/-- with a known remaining lifetime `r`, the TTL never exceeds what is left after the leeway -/
theorem cacheTTL_le_remaining (m : Mech) (cfg : Option Int) (now : Int) (exp : Answer) (r : Int)
    (hr : remaining m cfg now exp = some r) :
    cacheTTL m cfg (some r) ≤ max 0 (r - m.leeway) := by
  have hd := derivedTTL_le_remaining m.leeway
  cases m <;> simp only [cacheTTL, remaining] at hr ⊢
  case generic => omega
  case jwtFinalizer => cases hr; omega
  case remoteAuthz | contextualizer => cases hr
  all_goals
    split
    · exact hd _ r
    · omega

theorem cacheTTL_le_configured (m : Mech) (hm : m ≠ .jwtFinalizer) (c : Int) (rem : Option Int) :
    cacheTTL m (some c) rem ≤ max 0 c := by
  have hd := fun l => derivedTTL_le_configured l c rem
  cases m <;> simp only [cacheTTL, ptrEnabled, Option.getD_some, decide_eq_true_eq]
  case jwtFinalizer => exact absurd rfl hm
  case generic => cases rem <;> simp only <;> omega
  case remoteAuthz | contextualizer => omega
  all_goals
    split
    · exact Int.le_trans (hd _ ‹0 < c›) (Int.le_max_right 0 c)
    · omega

theorem validityLeeway_pos (m : Mech) (vl : Int) (h0 : 0 ≤ vl) : 0 < validityLeeway m vl := by
  have := default_validity_leeway_pos
  unfold validityLeeway
  split
  · cases m <;> simp only <;> omega
  · omega

theorem mayReuse_down (m : Mech) (cfg : Option Int) (vl : Int) (it : Item Answer) (t t' : Int)
    (hle : t' ≤ t) (h : mayReuse m cfg vl it t = true) : mayReuse m cfg vl it t' = true := by
  obtain ⟨⟨exp, more⟩, time, src⟩ := it
  cases m <;> cases exp <;> first | rfl | (simp only [mayReuse, decide_eq_true_eq] at h ⊢; omega)

/-- reuse no later than the known expiry minus the mechanism's cache leeway -/
def withinMargin (m : Mech) (it : Item Answer) (t : Int) : Bool :=
  match it.ans.exp with
  | some e => decide (t + m.leeway ≤ e)
  | none => true

/-- the mechanisms that learn the expiry from the remote party work with what is left of it -/
theorem remaining_of_learned (m : Mech) (hm : m ≠ .jwtFinalizer) (hm' : m ≠ .remoteAuthz ∧ m ≠ .contextualizer)
    (cfg : Option Int) (now : Int) (a : Answer) : remaining m cfg now a = a.exp.map (· - now) := by
  cases m <;> first | rfl | exact absurd rfl hm | exact absurd rfl hm'.1 | exact absurd rfl hm'.2

/-- … and keep their cache leeway -/
theorem margin_sound (m : Mech) (hm : m ≠ .jwtFinalizer) (hm' : m ≠ .remoteAuthz ∧ m ≠ .contextualizer)
    (cfg : Option Int) (vl : Int) : Sound (mechPolicy m cfg vl) (withinMargin m) where
  down := by
    intro it t t' hle h
    simp only [withinMargin] at h ⊢
    cases he : it.ans.exp with
    | none => rfl
    | some e => simp only [he, decide_eq_true_eq] at h ⊢; omega
  stored := by
    intro now ans idx _ hpos
    obtain ⟨exp, more⟩ := ans
    cases exp with
    | none => rfl
    | some e =>
      have hr : remaining m cfg now ⟨some e, more⟩ = some (e - now) := remaining_of_learned m hm hm' ..
      have := cacheTTL_le_remaining m cfg now ⟨some e, more⟩ (e - now) hr
      simp only [mechPolicy, hr] at hpos
      simp only [withinMargin, mechPolicy, hr, decide_eq_true_eq]
      omega

/-- keeping the cache leeway implies that the reuse is permitted, for every instance of the mechanism -/
theorem mayReuse_of_withinMargin (m : Mech) (hm : m ≠ .jwtFinalizer) (cfg : Option Int) (vl : Int) (h0 : 0 ≤ vl)
    (it : Item Answer) (t : Int) (h : withinMargin m it t = true) : mayReuse m cfg vl it t = true := by
  have hvl := validityLeeway_pos m vl h0
  have hlee := leeway_nonneg m
  have htok := token_leeway_pos.1
  obtain ⟨⟨exp, more⟩, time, src⟩ := it
  -- without an expiry both sides are `true`; with `e`, `t + leeway ≤ e` gives `t < e + validity leeway` (authentication
  -- results), `t ≤ e` (keys), `t < e` (tokens: their leeway is positive)
  cases m <;> cases exp <;>
    first | rfl | exact absurd rfl hm | (simp only [mayReuse, withinMargin, decide_eq_true_eq] at h ⊢; omega)

/-- every mechanism stores only what may be reused for the whole time the entry lives: the mechanisms that learn the
expiry keep their cache leeway, the JWT finalizer keeps its leeway on the lifetime it chose itself, and what the
remote authorizer and the contextualizer cache has no expiry of its own -/
theorem mech_sound (m : Mech) (cfg : Option Int) (vl : Int) (h0 : 0 ≤ vl) :
    Sound (mechPolicy m cfg vl) (mayReuse m cfg vl) where
  down := mayReuse_down m cfg vl
  stored := by
    intro now ans idx hacc hpos
    cases m
    case jwtFinalizer =>
      have htok := token_leeway_pos
      simp only [mechPolicy, cacheTTL, remaining] at hpos
      simp only [mayReuse, mechPolicy, cacheTTL, remaining]
      exact decide_eq_true (by omega)
    case remoteAuthz | contextualizer => rfl
    all_goals
      exact mayReuse_of_withinMargin _ (by decide) cfg vl h0 _ _
        ((margin_sound _ (by decide) (by decide) cfg vl).stored now ans idx hacc hpos)

/-- a configured TTL that is not positive switches the lookup off, and no positive TTL is ever computed -/
theorem mech_off (m : Mech) (hm : m ≠ .jwtFinalizer) (c : Int) (hc : c ≤ 0) (vl : Int) :
    (∀ u, (mechPolicy m (some c) vl).lookup u = false) ∧
      ∀ now u, (mechPolicy m (some c) vl).ttl now u ≤ 0 := by
  have hnot : ¬ (0 < c) := by omega
  constructor
  · intro _
    show lookupEnabled m (some c) = false
    cases m <;> first | exact absurd rfl hm | simp [lookupEnabled, ptrEnabled, hnot]
  · intro now u
    have := cacheTTL_le_configured m hm c (remaining m (some c) now u)
    show cacheTTL m (some c) _ ≤ 0
    omega

/-- the specification computes the age on receipt as the model does (arguments swapped) -/
theorem initialAge_eq (x : Exchange) (now : Int) : x.initialAge now = initialAge now x := rfl

theorem initialAge_nonneg (now : Int) (x : Exchange) : 0 ≤ initialAge now x := by
  unfold initialAge; omega

/-- a response with an explicit freshness lifetime `l` never gets a TTL above what is left of it after the age it
arrived with, whatever `default_ttl` says; one without explicit expiration time gets the configured `default_ttl` at
most — whatever else it carries (`Last-Modified` in particular) -/
theorem httpTTL_le (dttl now : Int) (x : Exchange) :
    (∀ l, freshnessLifetime now x = some l → httpTTL dttl now x ≤ max 0 (l - initialAge now x)) ∧
      (freshnessLifetime now x = none → httpTTL dttl now x ≤ max 0 dttl) := by
  have hage := initialAge_nonneg now x
  unfold httpTTL
  cases x.storable
  · exact ⟨fun _ _ => Int.le_max_left 0 _, fun _ => Int.le_max_left 0 _⟩
  · unfold freshnessLifetime Exchange.expiresIn
    rw [initialAge_eq]
    cases x.maxAge <;> cases x.expires <;> simp <;> omega

theorem http_sound (dttl : Int) : Sound (httpPolicy dttl) (mayServe dttl) where
  down := by
    intro it t t' hle h
    unfold mayServe at h ⊢
    cases hl : freshnessLifetime it.time it.ans <;> simp only [hl, decide_eq_true_eq] at h ⊢ <;> omega
  stored := by
    intro now x idx _ hpos
    show mayServe dttl ⟨x, now, idx⟩ (now + httpTTL dttl now x) = true
    replace hpos : 0 < httpTTL dttl now x := hpos
    unfold mayServe
    cases hl : freshnessLifetime now x with
    | none =>
      have := (httpTTL_le dttl now x).2 hl
      simp only [decide_eq_true_eq]
      omega
    | some l =>
      have := (httpTTL_le dttl now x).1 l hl
      simp only [decide_eq_true_eq]
      omega

theorem httpTTL_noCache (dttl now : Int) (x : Exchange) (h : x.noCache = true) : httpTTL dttl now x = 0 := by
  unfold httpTTL Exchange.storable
  simp [h]

theorem httpTTL_nonpos (dttl now : Int) (x : Exchange) (h : mayStore dttl now x = false) :
    httpTTL dttl now x ≤ 0 := by
  have hage := initialAge_nonneg now x
  unfold mayStore at h
  by_cases hn : x.noCache = true
  · rw [httpTTL_noCache dttl now x hn]; omega
  · simp only [hn, Bool.not_false, Bool.true_and] at h
    cases hl : freshnessLifetime now x with
    | none =>
      simp only [hl, decide_eq_false_iff_not] at h
      have := (httpTTL_le dttl now x).2 hl
      omega
    | some l =>
      simp only [hl, decide_eq_false_iff_not] at h
      have := (httpTTL_le dttl now x).1 l hl
      omega

/-- one instance of a mechanism reuses nothing later than its configured TTL after the result was obtained -/
theorem configured_sound (m : Mech) (hm : m ≠ .jwtFinalizer) (c : Int) (vl : Int) :
    Sound (mechPolicy m (some c) vl) (fun it t => decide (t ≤ it.time + max 0 c)) where
  down := by
    intro it t t' hle h
    simp only [decide_eq_true_eq] at h ⊢
    omega
  stored := by
    intro now ans idx _ _
    have := cacheTTL_le_configured m hm c (remaining m (some c) now ans)
    show decide (now + cacheTTL m (some c) (remaining m (some c) now ans) ≤ now + max 0 c) = true
    exact decide_eq_true (by omega)

/-- whatever may be reused would also pass the validity check of a fresh answer at that moment (the check the
introspection authenticator repeats on a cache hit) -/
theorem acceptsFresh_of_mayReuse (m : Mech) (hm : m = .introspection ∨ m = .generic) (cfg : Option Int) (vl : Int)
    (it : Item Answer) (t : Int) (h : mayReuse m cfg vl it t = true) :
    acceptsFresh m vl (remaining m cfg t it.ans) = true := by
  obtain ⟨⟨exp, more⟩, time, src⟩ := it
  rcases hm with rfl | rfl <;> cases exp <;>
    first | rfl | (simp only [mayReuse, remaining, Option.map_some, acceptsFresh, decide_eq_true_eq] at h ⊢; omega)

end Heimdall.Validity
