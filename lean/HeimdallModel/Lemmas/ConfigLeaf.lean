import HeimdallModel.Lemmas.ConfigName
import HeimdallModel.Spec.ConfigLeaf
/-! Helper lemmas for the value part of property C20. Core Lean only. -/
namespace Heimdall.Config

theorem natDigits_no_minus (n : Nat) : ∀ c ∈ natDigits n, c ≠ '-' :=
  natDigits_forall (fun d h => (by decide +kernel : ∀ d : Fin 10, digitChar d ≠ '-') ⟨d, h⟩) n

theorem parseCanon_of_no_minus (r : List Char) (h : ∀ c ∈ r, c ≠ '-') :
    parseCanon? r = (parseNat? r).bind fun k => if natDigits k = r then some (k : Int) else none := by
  cases r with
  | nil => rfl
  | cons c t =>
    have hc : c ≠ '-' := h c (by simp)
    unfold parseCanon?
    split
    · next r' heq => simp at heq; exact absurd heq.1 hc
    · rfl

theorem parseCanon_natDigits (k : Nat) : parseCanon? (natDigits k) = some (k : Int) := by
  rw [parseCanon_of_no_minus _ (natDigits_no_minus k), parseNat_natDigits]
  simp

theorem natDigits_zero : natDigits 0 = ['0'] := natDigits_lt (by decide)

theorem natDigits_inj {a b : Nat} (h : natDigits a = natDigits b) : a = b := by
  have ha := parseNat_natDigits a
  rw [h, parseNat_natDigits] at ha
  exact (Option.some.inj ha).symm

theorem parseCanon_showInt (n : Int) : parseCanon? (showInt n) = some n := by
  cases n with
  | ofNat k => exact parseCanon_natDigits k
  | negSucc k =>
    simp only [showInt, parseCanon?, parseNat_natDigits, Option.bind_some]
    simp [Int.negSucc_eq]

theorem showInt_inj {a b : Int} (h : showInt a = showInt b) : a = b := by
  have := parseCanon_showInt a
  rw [h, parseCanon_showInt] at this
  exact (Option.some.inj this).symm

end Heimdall.Config
