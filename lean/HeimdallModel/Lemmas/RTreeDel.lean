import HeimdallModel.Lemmas.RTreeAdd
/-!
# The abstraction has no duplicate expressions; `RTree.delete` preserves well-formedness and commutes with the abstraction

`delNode` is followed once over the tree (`delNode_abs`); the relation `DelRel` says that the result is well formed and
that its table is the node's table pruned as `delPat` does.  Each step changes one slot of the node (`DelRel.slot`); what
`finishChild` / `deleteChild` leave of the updated child (`kept`) carries the child's table.
-/
namespace Heimdall
namespace RTree
variable {V : Type} (p : V → Bool)

/-! ## no two entries of the abstraction carry the same expression -/

theorem nodup_map_pushAll {T : Table V} (h : NodupPats T) (ps : List PTok) : NodupPats (T.map (pushAll ps)) := by
  unfold NodupPats at *
  rw [List.pairwise_map]
  refine h.imp ?_
  intro a b hab e
  exact hab (List.append_cancel_left e)

theorem nodup_absStatics (l : List (Char × RTree V)) (hedge : ∀ e ∈ l, edgeOk e.1 e.2 = true)
    (hnodup : l.Pairwise (fun a b => a.1 ≠ b.1)) (acc : List Char)
    (hch : ∀ e ∈ l, NodupPats (absChild e.2 acc)) : NodupPats (absStatics l acc) := by
  induction l with
  | nil => rw [absStatics_nil]; exact List.Pairwise.nil
  | cons e l ih =>
    obtain ⟨i, ch⟩ := e
    rw [List.pairwise_cons] at hnodup
    rw [absStatics_cons]
    unfold NodupPats
    rw [List.pairwise_append]
    refine ⟨hch (i, ch) List.mem_cons_self,
      ih (fun e he => hedge e (List.mem_cons_of_mem _ he)) hnodup.2 (fun e he => hch e (List.mem_cons_of_mem _ he)),
      ?_⟩
    intro a ha b hb heq
    -- the expressions below an edge are routed to its index, which no later edge has
    have h1 := route_absChild (hedge (i, ch) List.mem_cons_self) acc a ha
    have hn : getNode (absStatics l acc) a.pat = none := by
      rw [getNode_absStatics (fun e he => hedge e (List.mem_cons_of_mem _ he)) hnodup.2, h1, Option.bind_some,
        childAt_eq_none fun e he => (hnodup.1 e he).symm]
      rfl
    exact List.find?_eq_none.mp hn b hb (decide_eq_true heq.symm)

/-- tables whose expressions start with tokens of different kinds have no expression in common -/
theorem nodupPats_append {P Q : PTok → Prop} {A B : Table V} (hA : NodupPats A) (hB : NodupPats B)
    (ha : AllStart P A) (hb : AllStart Q B) (hd : ∀ q, P q → ¬ Q q) : NodupPats (A ++ B) := by
  unfold NodupPats at *
  rw [List.pairwise_append]
  refine ⟨hA, hB, fun a ha' b hb' heq => ?_⟩
  obtain ⟨q, r, hq, hP⟩ := ha a ha'
  obtain ⟨q', r', hq', hQ⟩ := hb b hb'
  rw [hq, hq'] at heq
  exact hd q hP ((List.cons.inj heq).1 ▸ hQ)

/-- **the abstraction of a well-formed tree has no duplicate expressions** (node level) -/
theorem nodup_absAux : ∀ (t : RTree V) (s : Bool) (d : Nat) (acc : List Char), At s d acc t →
    NodupPats (absAux t acc) := by
  intro t
  induction t using RTree.induct with
  | h t ihs ihw _ =>
    intro s d acc A
    have W := A.node
    have hflat := A.flat
    have hS : NodupPats (absStatics t.statics acc) := by
      refine nodup_absStatics _ W.hedge W.hnodup acc ?_
      intro e he
      rw [absChild_eq (W.hedge e he)]
      exact nodup_map_pushAll (ihs e he _ d _ (A.static he)) _
    have hrest : NodupPats (absStatics t.statics acc ++ (absWild t.wild acc ++ absCatch t.catchAll acc)) := by
      by_cases hacc : acc = []
      · subst hacc
        have hW : NodupPats (absWild t.wild []) := by
          cases hw : t.wild with
          | none => rw [absWild_none]; exact List.Pairwise.nil
          | some w =>
            rw [absWild_some]
            exact nodup_map_pushAll (ihw w hw false (d + 1) [] ⟨W.hw w hw, fun _ => rfl, nofun⟩) _
        have hC : NodupPats (absCatch t.catchAll []) := by
          unfold absCatch
          cases t.catchAll with
          | none => exact List.Pairwise.nil
          | some ca =>
            show NodupPats (if _ then _ else _)
            split
            · exact List.Pairwise.nil
            · exact List.pairwise_singleton _ _
        refine nodupPats_append (Q := fun q => ¬ IsLit q) hS
          (nodupPats_append hW hC (allStart_absWild_nil _) (allStart_absCatch_nil _) (by rintro q rfl h; cases h))
          (allLit_absStatics_nil W.hedge)
          (((allStart_absWild_nil _).mono ?_).append ((allStart_absCatch_nil _).mono ?_)) (fun q h h' => h' h)
        · rintro q rfl ⟨s, hs⟩; cases hs
        · rintro q rfl ⟨s, hs⟩; cases hs
      · obtain ⟨h1, h2⟩ := hflat hacc
        rw [h1, h2, absWild_none]
        simp only [absCatch, List.append_nil]
        exact hS
    rw [absAux_eq]
    unfold NodupPats
    rw [List.pairwise_append]
    refine ⟨?_, hrest, ?_⟩
    · unfold absOwn; split
      · exact List.Pairwise.nil
      · exact List.pairwise_singleton _ _
    · intro a ha b hb
      unfold absOwn at ha
      split at ha
      · cases ha
      · rw [List.mem_singleton.mp ha]
        exact fun e => List.find?_eq_none.mp (getNode_rest_flush W.hedge acc hflat) b hb (decide_eq_true e.symm)

/-- **the abstraction of a well-formed tree has no duplicate expressions** -/
theorem nodup_abs (t : RTree V) (h : t.WF) : NodupPats t.abs :=
  nodup_absAux t false 0 [] (At.root h)

theorem delNode_nil (n : RTree V) (inStatic : Bool) : delNode p n [] inStatic = delLeaf p n := by
  obtain ⟨path, prio, statics, wild, catchAll, values, keys, bt⟩ := n
  simp only [delNode]

theorem delNode_cons (n : RTree V) (token : Char) (ptail : List Char) (inStatic : Bool) :
    delNode p n (token :: ptail) inStatic =
    if !inStatic && token = ':' then
      (delWild p n.wild (afterSeg ptail)).map fun w' => finishChild n .wild w' token
    else if !inStatic && token = '*' then
      match n.catchAll with
      | none => none
      | some ca => (delLeaf p ca).map fun ca' => finishChild n .catchAll ca' token
    else
      (delStatic p n.statics (delTok inStatic token ptail).1 (delTok inStatic token ptail).2).map fun ch' =>
        finishChild n .static ch' (delTok inStatic token ptail).1 := by
  obtain ⟨path, prio, statics, wild, catchAll, values, keys, bt⟩ := n
  simp only [delNode]
  rfl

theorem delStatic_nil (c : Char) (cs : List Char) :
    delStatic p ([] : List (Char × RTree V)) c cs = none := by
  simp only [delStatic]

theorem delStatic_cons (i : Char) (ch : RTree V) (rest : List (Char × RTree V)) (c : Char)
    (cs : List Char) :
    delStatic p ((i, ch) :: rest) c cs =
      if i = c then
        if ch.path.isPrefixOf cs then delNode p ch (cs.drop ch.path.length) (c != '/') else none
      else delStatic p rest c cs := by
  simp only [delStatic]

theorem delWild_none (cs : List Char) : delWild p (none : Option (RTree V)) cs = none := by
  simp only [delWild]

theorem delWild_some (w : RTree V) (cs : List Char) :
    delWild p (some w) cs = delNode p w cs false := by
  simp only [delWild]

/-- `delStatic` goes into the child behind the first edge with the index, if there is one -/
theorem delStatic_childAt (l : List (Char × RTree V)) (c : Char) (cs : List Char) :
    delStatic p l c cs =
      (childAt l c).bind fun ch =>
        if ch.path.isPrefixOf cs then delNode p ch (cs.drop ch.path.length) (c != '/') else none := by
  induction l with
  | nil => rw [delStatic_nil]; rfl
  | cons e l ih =>
    obtain ⟨i, ch⟩ := e
    rw [delStatic_cons, childAt]
    split
    · rfl
    · exact ih

theorem delStatic_some {p : V → Bool} {l : List (Char × RTree V)} {c : Char} {cs : List Char} {ch' : RTree V}
    (h : delStatic p l c cs = some ch') :
    ∃ pre ch post, l = pre ++ (c, ch) :: post ∧ (∀ e ∈ pre, e.1 ≠ c) ∧ ch.path.isPrefixOf cs = true ∧
      delNode p ch (cs.drop ch.path.length) (c != '/') = some ch' := by
  rw [delStatic_childAt] at h
  cases hch : childAt l c with
  | none => rw [hch] at h; cases h
  | some ch =>
    rw [hch, Option.bind_some] at h
    obtain ⟨pre, post, h1, h2⟩ := childAt_some hch
    split at h
    · exact ⟨pre, ch, post, h1, h2, ‹_›, h⟩
    · cases h

/-- `setEdge` and `delEdge` act on the first edge with the index -/
theorem setEdge_delEdge_decomp {pre post : List (Char × RTree V)} {c : Char} {ch : RTree V} (x : RTree V)
    (hpre : ∀ e ∈ pre, e.1 ≠ c) :
    setEdge (pre ++ (c, ch) :: post) c x = pre ++ (c, x) :: post ∧
      delEdge (pre ++ (c, ch) :: post) c = pre ++ post := by
  induction pre with
  | nil => simp [setEdge, delEdge]
  | cons e pre ih =>
    obtain ⟨i, y⟩ := e
    have hi : i ≠ c := hpre (i, y) List.mem_cons_self
    obtain ⟨h1, h2⟩ := ih (fun e he => hpre e (List.mem_cons_of_mem _ he))
    simp only [List.cons_append, setEdge, delEdge, if_neg hi, h1, h2, and_self]

/-! ## `delete` preserves well-formedness -/

theorem filter_length_eq_iff (l : List V) :
    (l.filter (fun v => !p v)).length = l.length ↔ l.any p = false := by
  rw [List.length_filter_eq_length_iff, List.any_eq_false]
  simp

/-- `delLeaf` in the shape of `delPat` -/
theorem delLeaf_eq (n : RTree V) :
    delLeaf p n =
      if n.values.any p then
        some (if (n.values.filter (fun v => !p v)).isEmpty then { n with values := [], keys := [], bt := true }
              else { n with values := n.values.filter (fun v => !p v) })
      else none := by
  unfold delLeaf
  by_cases ha : n.values.any p = true
  · have hne : ¬ n.values.isEmpty = true := fun h => by rw [List.isEmpty_iff.mp h] at ha; cases ha
    have hlen : ¬ (n.values.filter (fun v => !p v)).length = n.values.length := fun h => by
      rw [(filter_length_eq_iff p _).mp h] at ha; cases ha
    rw [if_neg hne, if_pos ha]
    show (if _ then _ else _) = _
    rw [if_neg hlen]
    by_cases he : (n.values.filter (fun v => !p v)).isEmpty = true
    · rw [if_pos he, if_pos he]
    · rw [if_neg he, if_neg he]
  · rw [if_neg ha]
    by_cases hv : n.values.isEmpty = true
    · rw [if_pos hv]
    · rw [if_neg hv]
      exact if_pos ((filter_length_eq_iff p _).mpr (Bool.eq_false_iff.mpr ha))

theorem delLeaf_ok {p : V → Bool} {n n' : RTree V} (h : delLeaf p n = some n') :
    n' = (if (n.values.filter (fun v => !p v)).isEmpty then { n with values := [], keys := [], bt := true }
          else { n with values := n.values.filter (fun v => !p v) }) := by
  rw [delLeaf_eq] at h
  by_cases ha : n.values.any p = true
  · rw [if_pos ha] at h
    exact (Option.some.inj h).symm
  · rw [if_neg ha] at h
    cases h

theorem delLeaf_fields {p : V → Bool} {n n' : RTree V} (h : delLeaf p n = some n') :
    n'.path = n.path ∧ n'.statics = n.statics ∧ n'.wild = n.wild ∧ n'.catchAll = n.catchAll ∧
      n'.priority = n.priority := by
  rw [delLeaf_ok h]
  by_cases he : (n.values.filter (fun v => !p v)).isEmpty = true
  · rw [if_pos he]; exact ⟨rfl, rfl, rfl, rfl, rfl⟩
  · rw [if_neg he]; exact ⟨rfl, rfl, rfl, rfl, rfl⟩

theorem delLeaf_wf {p : V → Bool} {seg : Bool} {d : Nat} {n n' : RTree V} (hw : wfAt seg d n = true)
    (h : delLeaf p n = some n') : wfAt seg d n' = true := by
  have W := (wfAt_iff _ _ _).mp hw
  rw [delLeaf_ok h, wfAt_iff]
  by_cases he : (n.values.filter (fun v => !p v)).isEmpty = true
  · rw [if_pos he]
    exact { W with hkeys0 := fun _ => rfl, hkeys := fun h => absurd rfl h }
  · rw [if_neg he]
    refine { W with hkeys0 := fun h0 => absurd (List.isEmpty_iff.mpr h0) he, hkeys := fun _ => W.hkeys fun h0 => he ?_ }
    rw [h0]; rfl

/-- the two outcomes of the merge step of `deleteChild` -/
theorem mergeChild_cases (ch : RTree V) :
    (mergeChild ch = (ch, false)) ∨
    (∃ i gc, ch.statics = [(i, gc)] ∧ i ≠ '/' ∧ ch.path ≠ ['/'] ∧
      mergeChild ch = ({ gc with path := ch.path ++ gc.path }, true)) := by
  unfold mergeChild
  split
  · rename_i i gc heq
    by_cases h : i ≠ '/' ∧ ch.path ≠ ['/']
    · right; rw [if_pos h]; exact ⟨i, gc, heq, h.1, h.2, rfl⟩
    · left; rw [if_neg h]
  · left; rfl

theorem mergeChild_of_slash_edges {x : RTree V} (h : ∀ e ∈ x.statics, e.1 = '/') : mergeChild x = (x, false) := by
  rcases mergeChild_cases x with hm | ⟨i, gc, hgc, hi, _, _⟩
  · exact hm
  · exact absurd (h (i, gc) (by rw [hgc]; simp)) hi

/-- what `finishChild` leaves of the updated child `ch'`: `ch'` itself as long as it has values, else its merge with
    an only grandchild, or nothing when that has neither values nor children -/
def kept (ch' : RTree V) : Option (RTree V) :=
  if ch'.values.isEmpty then
    if (mergeChild ch').1.values.isEmpty && hasNoChildren (mergeChild ch').1 then none else some (mergeChild ch').1
  else some ch'

theorem kept_of_not_merged {x : RTree V} (hm : mergeChild x = (x, false)) :
    kept x = if x.values.isEmpty && hasNoChildren x then none else some x := by
  unfold kept
  rw [hm]
  by_cases hv : x.values.isEmpty = true
  · rw [if_pos hv]
  · rw [if_neg hv, Bool.eq_false_iff.mpr hv, Bool.false_and, if_neg Bool.false_ne_true]

theorem kept_some {ch' x : RTree V} (h : kept ch' = some x) :
    x = ch' ∨ (ch'.values.isEmpty = true ∧ x = (mergeChild ch').1) := by
  unfold kept at h
  by_cases hv : ch'.values.isEmpty = true
  · rw [if_pos hv] at h
    by_cases hd : ((mergeChild ch').1.values.isEmpty && hasNoChildren (mergeChild ch').1) = true
    · rw [if_pos hd] at h; cases h
    · rw [if_neg hd] at h; exact .inr ⟨hv, (Option.some.inj h).symm⟩
  · rw [if_neg hv] at h; exact .inl (Option.some.inj h).symm

theorem kept_some_of_not_merged {x y : RTree V} (hm : mergeChild x = (x, false)) (hk : kept x = some y) :
    y = x ∧ (x.values.isEmpty && hasNoChildren x) = false := by
  rw [kept_of_not_merged hm] at hk
  by_cases hd : (x.values.isEmpty && hasNoChildren x) = true
  · rw [if_pos hd] at hk; cases hk
  · rw [if_neg hd] at hk
    exact ⟨(Option.some.inj hk).symm, Bool.eq_false_iff.mpr hd⟩

theorem finishChild_static {n : RTree V} {pre post : List (Char × RTree V)} {c : Char} {ch : RTree V}
    (hst : n.statics = pre ++ (c, ch) :: post) (hpre : ∀ e ∈ pre, e.1 ≠ c) (ch' : RTree V) :
    finishChild n .static ch' c =
      { n with statics := pre ++ ((kept ch').toList.map (fun x => (c, x)) ++ post) } := by
  unfold finishChild kept
  by_cases hv : ch'.values.isEmpty = true
  · rw [if_pos hv, if_pos hv]
    unfold deleteChild
    have hm : (mergeChild ch').2 = false → (mergeChild ch').1.values.isEmpty = true := by
      intro h
      rcases mergeChild_cases ch' with h' | ⟨_, _, _, _, _, h'⟩ <;> rw [h'] at h ⊢
      · exact hv
      · cases h
    revert hm
    generalize mergeChild ch' = m
    obtain ⟨c1, merged⟩ := m
    intro hm
    simp only [hst, (setEdge_delEdge_decomp _ hpre).1]
    by_cases hd : (c1.values.isEmpty && hasNoChildren c1) = true
    · obtain ⟨h1, h2⟩ := Bool.and_eq_true_iff.mp hd
      rw [if_pos hd, h1, Bool.not_true, Bool.and_false, if_neg Bool.false_ne_true, if_pos h2]
      rw [(setEdge_delEdge_decomp c1 hpre).2]
      rfl
    · rw [if_neg hd]
      split
      · rfl
      · rename_i hA
        rw [if_neg]
        · rfl
        · intro hnc
          have hc1 : c1.values.isEmpty = true := by
            cases merged with
            | false => exact hm rfl
            | true => simpa using hA
          exact hd (by rw [hc1, hnc]; rfl)
  · rw [if_neg hv, if_neg hv]
    simp only
    rw [hst, (setEdge_delEdge_decomp _ hpre).1]
    rfl

/-- the wildcard links, for a child that `deleteChild` does not merge -/
theorem finishChild_of_not_merged (n : RTree V) {x : RTree V} (hm : mergeChild x = (x, false)) (c : Char) :
    finishChild n .wild x c = { n with wild := kept x } ∧
      finishChild n .catchAll x c = { n with catchAll := kept x } := by
  rw [kept_of_not_merged hm]
  unfold finishChild deleteChild
  rw [hm]
  by_cases hv : x.values.isEmpty = true
  · rw [if_pos hv, if_pos hv, hv, Bool.true_and]
    simp only [Bool.false_and, Bool.false_eq_true, if_false]
    split <;> exact ⟨rfl, rfl⟩
  · rw [if_neg hv, if_neg hv, Bool.eq_false_iff.mpr hv, Bool.false_and, if_neg Bool.false_ne_true]
    exact ⟨rfl, rfl⟩

/-! ### the node stays well formed -/

theorem WFNode.seg_of_child {seg : Bool} {d : Nat} {n : RTree V} (W : WFNode seg d n)
    (h : n.wild ≠ none ∨ n.catchAll ≠ none) : seg = true := by
  cases seg with
  | true => rfl
  | false => obtain ⟨h1, h2⟩ := W.hseg rfl; rcases h with h | h <;> contradiction

theorem mem_edge_update {pre post : List (Char × RTree V)} {c : Char} {ch : RTree V} {o : Option (RTree V)}
    {e : Char × RTree V} (he : e ∈ pre ++ (o.toList.map (fun x => (c, x)) ++ post)) :
    e ∈ pre ++ (c, ch) :: post ∨ ∃ x, o = some x ∧ e = (c, x) := by
  simp only [List.mem_append, List.mem_map, Option.mem_toList, List.mem_cons] at he ⊢
  rcases he with h | ⟨x, hx, rfl⟩ | h
  · exact .inl (.inl h)
  · exact .inr ⟨x, hx, rfl⟩
  · exact .inl (.inr (.inr h))

/-- merging a static child with its only grandchild leaves a well-formed child for the same edge -/
theorem mergeChild_wf {c : Char} {d : Nat} {ch : RTree V} (he : edgeOk c ch = true)
    (hw : wfAt (ch.path == ['/']) d ch = true) :
    edgeOk c (mergeChild ch).1 = true ∧ wfAt ((mergeChild ch).1.path == ['/']) d (mergeChild ch).1 = true := by
  rcases mergeChild_cases ch with hm | ⟨i, gc, hgc, hi, hpne, hm⟩ <;> rw [hm]
  · exact ⟨he, hw⟩
  · have W := (wfAt_iff _ _ _).mp hw
    have hgm : (i, gc) ∈ ch.statics := by rw [hgc]; simp
    obtain ⟨hgne, hgns⟩ := edge_noslash (W.hedge _ hgm) hi
    obtain ⟨⟨r, hr⟩, hcs⟩ := edge_path he
    have hns : '/' ∉ ch.path ++ gc.path := by
      intro h
      rcases List.mem_append.mp h with h | h
      · exact (hcs.resolve_left hpne) h
      · exact hgns h
    have h1 : ((ch.path ++ gc.path) == ['/']) = false := by
      rw [beq_eq_false_iff_ne]
      intro e
      exact hns (by rw [e]; simp)
    have hgw := W.hst _ hgm
    rw [show (gc.path == ['/']) = false by simpa using hgne] at hgw
    refine ⟨(edgeOk_iff _ _).mpr ⟨⟨r ++ gc.path, by simp [hr]⟩, .inr hns⟩, ?_⟩
    show wfAt ((ch.path ++ gc.path) == ['/']) d _ = true
    rw [h1]
    exact wfAt_congr hgw rfl rfl rfl rfl rfl

/-- the static link: the updated child stays, is merged with its only grandchild, or is pruned -/
theorem finishStatic_wf {seg : Bool} {d : Nat} {n : RTree V} (W : WFNode seg d n)
    {pre post : List (Char × RTree V)} {idx : Char} {ch ch' : RTree V}
    (hst : n.statics = pre ++ (idx, ch) :: post) (hpre : ∀ e ∈ pre, e.1 ≠ idx)
    (hw' : wfAt (!(idx != '/')) d ch' = true) (hp : ch'.path = ch.path) :
    wfAt seg d (finishChild n .static ch' idx) = true ∧ (finishChild n .static ch' idx).path = n.path := by
  have he' : edgeOk idx ch' = true := edgeOk_congr_path hp (W.hedge (idx, ch) (by rw [hst]; simp))
  have hnd := W.hnodup
  rw [hst] at hnd
  rw [finishChild_static hst hpre, wfAt_iff]
  refine ⟨W.putChild (o := kept ch') ?_ (fun e he => hst ▸ mem_edge_update he) fun x hx => ?_, rfl⟩
  · cases kept ch' with
    | none => exact hnd.sublist ((List.sublist_cons_self _ post).append_left pre)
    | some x => exact pairwise_fst_congr (by simp) hnd
  · rcases kept_some hx with rfl | ⟨_, rfl⟩
    · exact ⟨he', hw'⟩
    · obtain ⟨h1, h2⟩ := mergeChild_wf he' (edge_seg he' ▸ hw')
      exact ⟨h1, edge_seg h1 ▸ h2⟩

theorem finishWild_wf {seg : Bool} {d : Nat} {n w w' : RTree V} (W : WFNode seg d n) (hw : n.wild = some w)
    (hw' : wfAt true (d + 1) w' = true) (hwo' : wildOk w' = true) (token : Char) :
    wfAt seg d (finishChild n .wild w' token) = true ∧ (finishChild n .wild w' token).path = n.path := by
  cases W.seg_of_child (.inl (by rw [hw]; nofun))
  have hm := mergeChild_of_slash_edges ((wildOk_iff w').mp hwo').2.2
  rw [(finishChild_of_not_merged n hm _).1, wfAt_iff]
  have hx : ∀ x, kept w' = some x → x = w' := fun x hx => (kept_some_of_not_merged hm hx).1
  exact ⟨{ W with hseg := nofun, hw := fun x h => hx x h ▸ hw', hwo := fun x h => hx x h ▸ hwo' }, rfl⟩

theorem finishCatch_wf {p : V → Bool} {seg : Bool} {d : Nat} {n ca ca' : RTree V} (W : WFNode seg d n)
    (hc : n.catchAll = some ca) (hdel : delLeaf p ca = some ca') (token : Char) :
    wfAt seg d (finishChild n .catchAll ca' token) = true ∧ (finishChild n .catchAll ca' token).path = n.path := by
  cases W.seg_of_child (.inr (by rw [hc]; nofun))
  obtain ⟨_, h2, h3, h4⟩ := (catchOk_iff d ca).mp (W.hc ca hc)
  -- the catch-all node keeps its keys and its path, and stays without children
  have hca : hasNoChildren ca' = true ∧ (ca'.values.isEmpty = false → catchOk d ca' = true) := by
    rw [delLeaf_ok hdel]
    by_cases he : (ca.values.filter (fun v => !p v)).isEmpty = true
    · rw [if_pos he]
      exact ⟨h4, fun h => nomatch h⟩
    · rw [if_neg he]
      exact ⟨h4, fun _ => (catchOk_iff d _).mpr ⟨Bool.eq_false_iff.mpr he, h2, h3, h4⟩⟩
  have hm : mergeChild ca' = (ca', false) :=
    mergeChild_of_slash_edges (by rw [((hasNoChildren_iff ca').mp hca.1).1]; nofun)
  rw [(finishChild_of_not_merged n hm _).2, wfAt_iff]
  refine ⟨{ W with hseg := nofun, hc := fun x hx => ?_ }, rfl⟩
  obtain ⟨rfl, hx⟩ := kept_some_of_not_merged hm hx
  rw [hca.1, Bool.and_true] at hx
  exact hca.2 hx

theorem delTok_slash (inStatic : Bool) (r : List Char) : delTok inStatic '/' r = ('/', '/' :: r) := by
  unfold delTok
  simp [isEscape]

/-- below a single wildcard `delNode` only touches values and `/` edges: the node stays a proper wildcard node -/
theorem delNode_wildOk {n n' : RTree V} {path : List Char} (hwo : wildOk n = true)
    (hpath : path = [] ∨ ∃ r, path = '/' :: r) (h : delNode p n path false = some n') : wildOk n' = true := by
  rcases hpath with rfl | ⟨r, rfl⟩
  · rw [delNode_nil] at h
    obtain ⟨_, hs, hw, hc, _⟩ := delLeaf_fields h
    exact wildOk_of_edges hwo hw hc fun e he => .inl (hs ▸ he)
  · rw [delNode_cons, if_neg (by simp), if_neg (by simp), delTok_slash] at h
    obtain ⟨ch', hd, rfl⟩ := Option.map_eq_some_iff.mp h
    obtain ⟨pre, ch, post, hst, hpre, _, _⟩ := delStatic_some hd
    rw [finishChild_static hst hpre]
    exact wildOk_of_edges hwo rfl rfl fun e he =>
      (mem_edge_update (ch := ch) he).imp (fun h => hst ▸ h) fun ⟨x, _, h⟩ => h ▸ rfl

/-! ## the specification of one `Delete` on tables, in closed form -/

theorem UpdO.congr_right {T T' T'' : Table V} {pat : List PTok} {x : Option (Node V)} (h : UpdO T T' pat x)
    (he : ∀ q, getNode T'' q = getNode T' q) : UpdO T T'' pat x := by
  intro q; rw [he, h]

/-- the entry at `pat` after `delPat` (`some none`: the entry disappears), `none` when `delPat` fails -/
def delSpec (T : Table V) (pat : List PTok) : Option (Option (Node V)) :=
  (getNode T pat).bind fun nd =>
    if nd.values.any p then
      some (if (nd.values.filter (fun v => !p v)).isEmpty then none
            else some { nd with values := nd.values.filter (fun v => !p v) })
    else none

/-- the result `r` of `delNode` on the node `n` at the position `s`, `d`, `acc`, for the expression `pat`: `delNode`
    and `delPat` on the node's table fail alike, or succeed alike, and then the new node is well formed, keeps its path
    and stands for the node's table with the entry of `pat` pruned -/
def DelRel (r : Option (RTree V)) (n : RTree V) (s : Bool) (d : Nat) (pat : List PTok) (acc : List Char) : Prop :=
  Option.Rel (fun x n' => (wfAt (!s) d n' = true ∧ n'.path = n.path) ∧ UpdO (absAux n acc) (absAux n' acc) pat x)
    (delSpec p (absAux n acc) pat) r

theorem delSpec_lift (T T_c : Table V) (ps pat_c : List PTok)
    (hget : getNode T (ps ++ pat_c) = (getNode T_c pat_c).map (pushAll ps)) :
    delSpec p T (ps ++ pat_c) = (delSpec p T_c pat_c).map (fun x => x.map (pushAll ps)) := by
  unfold delSpec
  rw [hget]
  cases getNode T_c pat_c with
  | none => rfl
  | some nd =>
    rw [Option.map_some, Option.bind_some, Option.bind_some, show (pushAll ps nd).values = nd.values from rfl]
    by_cases ha : nd.values.any p = true
    · rw [if_pos ha, if_pos ha]
      by_cases he : (nd.values.filter (fun v => !p v)).isEmpty = true
      · rw [if_pos he, if_pos he]; rfl
      · rw [if_neg he, if_neg he]; rfl
    · rw [if_neg ha, if_neg ha]; rfl

/-- the statement about the recursive call into the child `ch` behind the slot `σ` lifted to the node: the child's
    table stands in that slot behind the tokens `ps`, and `g` puts what is left of the child back, changing no other
    slot -/
theorem DelRel.slot {s : Bool} {d : Nat} {acc : List Char} {n : RTree V} (A : At s d acc n) {r_c : Option (RTree V)}
    {ch : RTree V} {s_c : Bool} {d_c : Nat} {acc_c : List Char} {pat_c ps : List PTok} (g : RTree V → RTree V)
    (σ : Slot) (hrel : DelRel p r_c ch s_c d_c pat_c acc_c)
    (hslot : slotTab n acc σ = (absAux ch acc_c).map (pushAll ps)) (hσ : slotOf acc (ps ++ pat_c) = σ)
    (hg : ∀ c', r_c = some c' → wfAt (!s_c) d_c c' = true → c'.path = ch.path →
      (wfAt (!s) d (g c') = true ∧ (g c').path = n.path) ∧
      (∀ τ, τ ≠ σ → slotTab (g c') acc τ = slotTab n acc τ) ∧
      slotTab (g c') acc σ = (absAux c' acc_c).map (pushAll ps)) :
    DelRel p (r_c.map g) n s d (ps ++ pat_c) acc := by
  unfold DelRel
  rw [delSpec_lift p _ (absAux ch acc_c) ps pat_c
    (by rw [getNode_absAux_slot A.node A.flat, hσ, hslot, getNode_map_pushAll_append])]
  refine hrel.map fun x c' _ hr h => ?_
  obtain ⟨hwf, hsame, hat⟩ := hg c' hr h.1.1 h.1.2
  refine ⟨hwf, updO_slot A.node ((wfAt_iff _ _ _).mp hwf.1) (fun h => A.acc0 (by simpa using h))
    (by rw [hσ]; exact hsame) ?_⟩
  rw [hσ, hslot, hat]
  exact updO_map _ _ _ _ _ h.2

/-- nothing at `pat`: `delPat` fails -/
theorem DelRel.of_none {n : RTree V} {s : Bool} {d : Nat} {pat : List PTok} {acc : List Char}
    (h : getNode (absAux n acc) pat = none) : DelRel p none n s d pat acc := by
  unfold DelRel delSpec; rw [h]; exact .none

/-- `delSpec` is the closed form of `delPat` -/
theorem delPat_spec (T : Table V) (hnd : NodupPats T) (pat : List PTok) :
    Option.Rel (fun x T' => UpdO T T' pat x) (delSpec p T pat) (delPat T pat p) := by
  unfold delSpec
  cases hd : delPat T pat p with
  | some T' =>
    obtain ⟨nd, hg, ha⟩ := (delPat_some_iff T pat p).mp ⟨T', hd⟩
    rw [hg, Option.bind_some, if_pos ha]
    exact .some fun q => by rw [delPat_getNode T T' pat p hnd hd q, hg]; rfl
  | none =>
    cases hg : getNode T pat with
    | none => exact .none
    | some nd =>
      rw [Option.bind_some, if_neg fun ha => ?_]
      · exact .none
      · obtain ⟨T', hT'⟩ := (delPat_some_iff T pat p).mpr ⟨nd, hg, ha⟩
        rw [hd] at hT'
        cases hT'

/-! ## the expression `delNode` walks, seen from inside a static token -/

def delParser : LitParser (List PTok) where
  parse := parseDelToks
  push ps r := ps ++ r
  push_nil _ := rfl
  push_append := List.append_assoc
  sep rest := by rw [parseDelToks]; rfl
  lit s s' rest h := by rw [parseDelToks, h]; rfl

/-- as `patOf`, for `parseDel` (whatever follows a free wildcard is ignored) -/
def patDel (acc cs : List Char) : List PTok := patG delParser acc cs

theorem patDel_nil_eq (cs : List Char) : patDel [] cs = parseDelToks (tokenizeAux cs []) := patG_nil_eq _ cs

theorem patDel_leaf (acc : List Char) : patDel acc [] = flushP acc := by
  unfold patDel patG
  by_cases h : acc = []
  · subst h; rfl
  · rw [if_neg h, flushP_ne h]
    simp [afterSeg, segOf, tokenizeAux, flushSeg, parseDelToks, delParser]

theorem patDel_wild (r : List Char) : patDel [] (':' :: r) = .wild :: patDel [] (afterSeg r) := by
  rw [patDel_nil_eq, patDel_nil_eq, tokenizeAux_cons_ne (by decide), parseDelToks, classifySeg_wild]

theorem patDel_catch (r : List Char) : patDel [] ('*' :: r) = [.catchAll] := by
  rw [patDel_nil_eq, tokenizeAux_cons_ne (by decide), parseDelToks, classifySeg_catch]

/-! ## the static token as `delNode` sees it -/

theorem isEscape_of_ne {token : Char} (ht : token ≠ '\\') (l : List Char) : isEscape (token :: l) = false := by
  unfold isEscape
  split
  · rename_i heq
    exact absurd (List.cons.inj heq).1 ht
  · rfl

theorem isEscape_seg (token : Char) (ptail : List Char) :
    isEscape (token :: ptail) = isEscape (token :: segOf ptail) := by
  by_cases ht : token = '\\'
  · subst ht
    cases ptail with
    | nil => rfl
    | cons c r =>
      by_cases hc : c = '/'
      · subst hc; rw [segOf_slash]; rfl
      · rw [segOf_cons_ne hc]; rfl
  · rw [isEscape_of_ne ht, isEscape_of_ne ht]

theorem delTok_eq (inStatic : Bool) (token : Char) (ptail : List Char) :
    delTok inStatic token ptail =
      ((staticTok inStatic token ptail).1, (staticTok inStatic token ptail).2.1 ++ remOf token ptail) := by
  by_cases ht : token = '/'
  · subst ht; rw [delTok_slash, staticTok_slash]; rfl
  · simp only [delTok, staticTok, remOf, if_neg ht, ← isEscape_seg]
    by_cases he : (!inStatic && isEscape (token :: ptail)) = true
    · rw [if_pos he, if_pos he]
      obtain ⟨c, r, hcr, hc⟩ := isEscape_cons (Bool.and_eq_true_iff.mp he).2
      cases hcr
      have hc' : c ≠ '/' := by rcases hc with h | h | h <;> rw [h] <;> decide
      rw [segOf_cons_ne hc', afterSeg_cons_ne hc']
      show (c, c :: r) = (c, c :: (segOf r ++ afterSeg r))
      rw [segOf_append_afterSeg]
    · rw [if_neg he, if_neg he]
      show (token, token :: ptail) = (token, token :: (segOf ptail ++ afterSeg ptail))
      rw [segOf_append_afterSeg]

theorem prefix_of_append_slash {x tok rem : List Char} (hx : '/' ∉ x) (hrem : rem = [] ∨ ∃ r, rem = '/' :: r)
    (h : x <+: tok ++ rem) : x <+: tok := by
  rcases hrem with rfl | ⟨r, rfl⟩
  · rwa [List.append_nil] at h
  · rcases List.prefix_or_prefix_of_prefix h (List.prefix_append tok _) with h' | ⟨y, rfl⟩
    · exact h'
    · cases y with
      | nil => rw [List.append_nil]; exact List.prefix_refl _
      | cons a y =>
        have ha := (List.cons_prefix_cons.mp ((List.prefix_append_right_inj tok).mp h)).1
        exact absurd (by rw [ha]; simp) hx

/-- the expression seen from the node = the expression seen from the static child the path leads into -/
theorem patDel_step {inStatic : Bool} {acc : List Char} {token : Char} (S : StaticStep inStatic acc token)
    (ptail : List Char) (ch : RTree V) (he : edgeOk (delTok inStatic token ptail).1 ch = true)
    (hp : ch.path.isPrefixOf (delTok inStatic token ptail).2 = true) :
    patDel acc (token :: ptail) =
      childPre (delTok inStatic token ptail).1 acc ++
        patDel (childAcc (delTok inStatic token ptail).1 ch acc)
          ((delTok inStatic token ptail).2.drop ch.path.length) := by
  rw [delTok_eq] at he hp ⊢
  obtain ⟨⟨x, hx⟩, _⟩ := edge_path he
  have hpre : ch.path <+: (staticTok inStatic token ptail).2.1 := by
    by_cases ht : token = '/'
    · subst ht
      rw [staticTok_slash] at he ⊢
      rw [edge_slash he]
      exact List.prefix_refl _
    · have hrem : remOf token ptail = afterSeg ptail := by unfold remOf; rw [if_neg ht]
      exact prefix_of_append_slash (edge_noslash he (staticTok_idx_ne inStatic ht ptail)).2
        (hrem ▸ afterSeg_cases ptail) (List.isPrefixOf_iff_prefix.mp hp)
  have hstep := patG_step delParser S (idx := (staticTok inStatic token ptail).1)
    (tok := (staticTok inStatic token ptail).2.1) (skip := (staticTok inStatic token ptail).2.2) rfl ch
    ch.path.length (by rw [hx]; exact Nat.succ_pos _) hpre.length_le (List.prefix_iff_eq_take.mp hpre)
  rw [Nat.add_comm, ← List.drop_drop, staticTok_drop_rem] at hstep
  exact hstep

theorem routedTo_patDel {inStatic : Bool} {acc : List Char} {token : Char} (S : StaticStep inStatic acc token)
    (ptail : List Char) :
    RoutedTo acc (delTok inStatic token ptail).1 (patDel acc (token :: ptail)) := by
  obtain ⟨ps, r, hr, hrt⟩ := patG_routed delParser S ptail
  rw [delTok_eq, patDel, hr]
  exact hrt r

/-- a child whose path is no prefix of the rest of the path carries nothing for this expression -/
theorem getNode_absChild_noprefix_del {inStatic : Bool} {acc : List Char} {token : Char}
    (S : StaticStep inStatic acc token) (ptail : List Char) (ch : RTree V)
    (he : edgeOk (delTok inStatic token ptail).1 ch = true)
    (hp : ¬ ch.path.isPrefixOf (delTok inStatic token ptail).2 = true) :
    getNode (absChild ch acc) (patDel acc (token :: ptail)) = none := by
  rw [delTok_eq] at he hp
  by_cases ht : token = '/'
  · subst ht
    rw [staticTok_slash] at he hp
    exfalso; apply hp
    rw [edge_slash he]; simp [List.isPrefixOf]
  · obtain ⟨_, hne⟩ := staticTok_noslash inStatic ht ptail
    rw [patDel, patG_static delParser S ptail ht, patG_afterSeg _ _ _ (by simp [hne])]
    simp only [List.reverse_append, List.reverse_reverse]
    exact getNode_absChild_noprefix he (staticTok_idx_ne inStatic ht ptail) acc _
      (fun h => hp (List.isPrefixOf_iff_prefix.mpr (h.trans (List.prefix_append _ _)))) _

/-! ## the abstraction under `deleteChild` -/

theorem absAux_empty {x : RTree V} (hv : x.values.isEmpty = true) (hnc : hasNoChildren x = true)
    (acc : List Char) : absAux x acc = [] := by
  rw [absAux_of_noChildren hnc, absOwn, if_pos hv]

theorem absChild_empty {x : RTree V} (hv : x.values.isEmpty = true) (hnc : hasNoChildren x = true)
    (acc : List Char) : absChild x acc = [] := by
  unfold absChild
  rw [absAux_empty hv hnc, absAux_empty hv hnc]
  split <;> rfl

/-- merging a value-less static child with its only grandchild does not change its table -/
theorem merge_abs {c : Char} {d : Nat} {ch : RTree V} (he : edgeOk c ch = true)
    (hw : wfAt (ch.path == ['/']) d ch = true) (hv : ch.values.isEmpty = true) (acc : List Char) :
    absChild (mergeChild ch).1 acc = absChild ch acc := by
  rcases mergeChild_cases ch with hm | ⟨i, gc, hgc, hi, hpne, hm⟩ <;> rw [hm]
  have W := (wfAt_iff _ _ _).mp hw
  obtain ⟨hwn, hcn⟩ := W.hseg (by simpa using hpne)
  obtain ⟨hgne, hgns⟩ := edge_noslash (W.hedge (i, gc) (by rw [hgc]; simp)) hi
  have hmne : ch.path ++ gc.path ≠ ['/'] := by
    intro e
    have : '/' ∈ ch.path ++ gc.path := by rw [e]; simp
    rcases List.mem_append.mp this with h | h
    · exact (edge_path he).2.resolve_left hpne h
    · exact hgns h
  rw [absChild_noslash hpne, absChild_noslash (ch := ({ gc with path := ch.path ++ gc.path } : RTree V)) hmne,
    absAux_eq ch, hgc, hwn, hcn, absStatics_cons, absStatics_nil, absWild_none, absChild_noslash hgne]
  simp only [absOwn, hv, if_true, absCatch, List.nil_append, List.append_nil, List.reverse_append,
    List.append_assoc]
  exact absAux_congr (t := gc) (t' := { gc with path := ch.path ++ gc.path }) rfl rfl rfl rfl rfl rfl _

/-- what is left of the updated child carries the child's table -/
theorem slotTable_kept {idx : Char} {d : Nat} {ch' : RTree V} (he' : edgeOk idx ch' = true)
    (hw' : wfAt (!(idx != '/')) d ch' = true) (acc : List Char) :
    slotTable (kept ch') acc = absChild ch' acc := by
  have hw := edge_seg he' ▸ hw'
  cases hk : kept ch' with
  | none =>
    unfold kept at hk
    by_cases hv : ch'.values.isEmpty = true
    · rw [if_pos hv] at hk
      by_cases hd : ((mergeChild ch').1.values.isEmpty && hasNoChildren (mergeChild ch').1) = true
      · obtain ⟨h1, h2⟩ := Bool.and_eq_true_iff.mp hd
        rw [← merge_abs he' hw hv, absChild_empty h1 h2]
        rfl
      · rw [if_neg hd] at hk; cases hk
    · rw [if_neg hv] at hk; cases hk
  | some x =>
    rcases kept_some hk with rfl | ⟨hv, rfl⟩
    · rfl
    · exact merge_abs he' hw hv acc

theorem putStatic_finish {n : RTree V} (hnd : n.statics.Pairwise (fun a b => a.1 ≠ b.1)) {idx : Char} {ch : RTree V}
    {pre post : List (Char × RTree V)} (hst : n.statics = pre ++ (idx, ch) :: post) (hpre : ∀ e ∈ pre, e.1 ≠ idx)
    (ch' : RTree V) : PutStatic n (finishChild n .static ch' idx) idx (kept ch') := by
  rw [finishChild_static hst hpre]
  refine ⟨fun _ => rfl, rfl, rfl, fun c => ?_⟩
  have hnone : childAt (pre ++ post) idx = none := by
    rw [hst, List.pairwise_append] at hnd
    rw [childAt_append, childAt_eq_none hpre,
      childAt_eq_none fun e he => ((List.pairwise_cons.mp hnd.2.1).1 e he).symm]
    rfl
  show childAt (pre ++ ((kept ch').toList.map (fun x => (idx, x)) ++ post)) c = _
  rw [hst, childAt_split ch hpre]
  cases kept ch' with
  | some x =>
    show childAt (pre ++ (idx, x) :: post) c = _
    rw [childAt_split x hpre]
    split <;> rfl
  | none =>
    show childAt (pre ++ post) c = _
    split
    · next hc => rw [hc, hnone]
    · rfl

/-- an unmerged child that is pruned had an empty table -/
theorem absWild_absCatch_kept {x : RTree V} (hm : mergeChild x = (x, false)) (acc : List Char) :
    absWild (kept x) acc = absWild (some x) acc ∧ absCatch (kept x) acc = absCatch (some x) acc := by
  rw [kept_of_not_merged hm]
  by_cases h : (x.values.isEmpty && hasNoChildren x) = true
  · obtain ⟨h1, h2⟩ := Bool.and_eq_true_iff.mp h
    rw [if_pos h, absWild_none, absWild_some, absAux_empty h1 h2]
    simp only [absCatch, h1, if_true]
    exact ⟨rfl, trivial⟩
  · rw [if_neg h]
    exact ⟨rfl, rfl⟩

/-- the wildcard links, for a child that `deleteChild` does not merge: only the slot of the link changes, and what is
    left of the child carries the child's table -/
theorem finishChild_slots (n : RTree V) {x : RTree V} (hm : mergeChild x = (x, false)) (c : Char) (acc : List Char) :
    ((∀ τ, τ ≠ .wild → slotTab (finishChild n .wild x c) acc τ = slotTab n acc τ) ∧
      slotTab (finishChild n .wild x c) acc .wild = absWild (some x) acc) ∧
    ((∀ τ, τ ≠ .catchAll → slotTab (finishChild n .catchAll x c) acc τ = slotTab n acc τ) ∧
      slotTab (finishChild n .catchAll x c) acc .catchAll = absCatch (some x) acc) := by
  rw [(finishChild_of_not_merged n hm c).1, (finishChild_of_not_merged n hm c).2]
  refine ⟨⟨fun τ hτ => ?_, (absWild_absCatch_kept hm acc).1⟩, fun τ hτ => ?_, (absWild_absCatch_kept hm acc).2⟩
  · cases τ with
    | wild => exact absurd rfl hτ
    | _ => rfl
  · cases τ with
    | catchAll => exact absurd rfl hτ
    | _ => rfl

theorem delLeaf_abs {s : Bool} {d : Nat} {n : RTree V} (W : WFNode (!s) d n) (acc : List Char)
    (hflat : acc ≠ [] → n.wild = none ∧ n.catchAll = none) :
    DelRel p (delLeaf p n) n s d (flushP acc) acc := by
  have hR := getNode_rest_flush W.hedge acc hflat
  have hwf : ∀ n', delLeaf p n = some n' → wfAt (!s) d n' = true ∧ n'.path = n.path := fun n' h =>
    ⟨delLeaf_wf ((wfAt_iff _ _ _).mpr W) h, (delLeaf_fields h).1⟩
  unfold DelRel delSpec
  rw [show getNode (absAux n acc) (flushP acc) = getNode (absOwn n acc) (flushP acc) by
    rw [absAux_eq, getNode_append, hR, Option.or_none]]
  rw [delLeaf_eq] at hwf ⊢
  by_cases hv : n.values.isEmpty = true
  · have ha : n.values.any p = false := by rw [List.isEmpty_iff.mp hv]; rfl
    rw [absOwn, if_pos hv, ha]
    exact .none
  · have hown : absOwn n acc = [⟨flushP acc, n.keys, n.values, n.bt⟩] := by rw [absOwn, if_neg hv]
    have hget : getNode [(⟨flushP acc, n.keys, n.values, n.bt⟩ : Node V)] (flushP acc) =
        some ⟨flushP acc, n.keys, n.values, n.bt⟩ := List.find?_cons_of_pos (decide_eq_true rfl)
    rw [hown, hget]
    simp only [Option.bind_some]
    by_cases ha : n.values.any p = true
    · rw [if_pos ha] at hwf
      rw [if_pos ha, if_pos ha]
      refine .some ⟨hwf _ rfl, ?_⟩
      rw [absAux_eq n acc]
      by_cases he : (n.values.filter (fun v => !p v)).isEmpty = true
      · -- the emptied node has no entry of its own
        rw [if_pos he, if_pos he]
        exact (updO_own n acc _ none nofun hR).congr_right fun q => by rw [absAux_eq]; rfl
      · rw [if_neg he, if_neg he]
        refine (updO_own n acc _ (some _) (fun _ h => by cases h; rfl) hR).congr_right fun q => ?_
        rw [absAux_eq, absOwn, if_neg he]
        rfl
    · rw [if_neg ha, if_neg ha]
      exact .none

/-- **`delete` preserves well-formedness and commutes with the abstraction** (node level): `delNode` on a well-formed
node and `delPat` on its table fail alike or succeed alike; the new node is well formed, keeps its path, and its table
is the old one with the entry of the expression pruned as `delPat` does -/
theorem delNode_abs : ∀ (t : RTree V) (path : List Char) (inStatic : Bool) (d : Nat) (acc : List Char),
    At inStatic d acc t → DelRel p (delNode p t path inStatic) t inStatic d (patDel acc path) acc := by
  intro t
  induction t using RTree.induct with
  | h t ihs ihw _ =>
    intro path inStatic d acc A
    have W := A.node
    cases path with
    | nil =>
      rw [delNode_nil, patDel_leaf]
      exact delLeaf_abs p W acc A.flat
    | cons token ptail =>
      rw [delNode_cons]
      by_cases hcol : (!inStatic && decide (token = ':')) = true
      · rw [if_pos hcol]
        obtain ⟨rfl, rfl⟩ : inStatic = false ∧ token = ':' := by simpa using hcol
        cases A.acc0 rfl
        rw [patDel_wild]
        cases hwild : t.wild with
        | none =>
          rw [delWild_none]
          refine DelRel.of_none p ?_
          rw [getNode_absAux_slot W A.flat]
          show getNode (absWild t.wild []) _ = none
          rw [hwild]; rfl
        | some w =>
          rw [delWild_some]
          refine DelRel.slot p A (ps := [.wild]) _ .wild (ihw w hwild _ false (d + 1) [] (A.wild hwild)) ?_ rfl
            fun c' hr hw' _ => ?_
          · show absWild t.wild [] = _
            rw [hwild, absWild_some]; rfl
          · have hwo' := delNode_wildOk p (W.hwo w hwild) (afterSeg_cases ptail) hr
            obtain ⟨hsame, hat⟩ :=
              (finishChild_slots t (mergeChild_of_slash_edges ((wildOk_iff c').mp hwo').2.2) ':' []).1
            exact ⟨finishWild_wf W hwild hw' hwo' ':', hsame, by rw [hat, absWild_some]; rfl⟩
      · rw [if_neg hcol]
        by_cases hstar : (!inStatic && decide (token = '*')) = true
        · rw [if_pos hstar]
          obtain ⟨rfl, rfl⟩ : inStatic = false ∧ token = '*' := by simpa using hstar
          cases A.acc0 rfl
          rw [patDel_catch]
          cases hcatch : t.catchAll with
          | none =>
            refine DelRel.of_none p ?_
            rw [getNode_absAux_slot W A.flat]
            show getNode (absCatch t.catchAll []) _ = none
            rw [hcatch]; rfl
          | some ca =>
            obtain ⟨Wca, hcnc⟩ := catchOk_wfNode (W.hc ca hcatch)
            refine DelRel.slot p A (ps := [.catchAll]) (pat_c := []) _ .catchAll
              (delLeaf_abs p (s := false) Wca [] fun h => absurd rfl h) ?_ rfl fun c' hr _ _ => ?_
            · show absCatch t.catchAll [] = _
              rw [hcatch, absCatch_some hcnc]; rfl
            · obtain ⟨_, hf1, hf2, hf3, _⟩ := delLeaf_fields hr
              have hnc' : hasNoChildren c' = true := by
                rw [hasNoChildren_iff, hf1, hf2, hf3]; exact (hasNoChildren_iff ca).mp hcnc
              obtain ⟨hsame, hat⟩ := (finishChild_slots t (mergeChild_of_slash_edges
                (by rw [((hasNoChildren_iff c').mp hnc').1]; nofun)) '*' []).2
              exact ⟨finishCatch_wf W hcatch hr '*', hsame, by rw [hat, absCatch_some hnc']; rfl⟩
        · rw [if_neg hstar, delStatic_childAt]
          have S : StaticStep inStatic acc token :=
            ⟨fun h => by subst h; simpa using And.intro hstar hcol, A.acc0, A.acc1⟩
          have hσ := slotOf_routed (routedTo_patDel S ptail)
          cases hch : childAt t.statics (delTok inStatic token ptail).1 with
          | none =>
            refine DelRel.of_none p ?_
            rw [getNode_absAux_slot W A.flat, hσ]
            show getNode (slotTable (childAt t.statics _) acc) _ = none
            rw [hch]; rfl
          | some ch =>
            have hmem := childAt_mem hch
            have he := W.hedge _ hmem
            rw [Option.bind_some]
            by_cases hp : ch.path.isPrefixOf (delTok inStatic token ptail).2 = true
            · rw [if_pos hp]
              rw [patDel_step S ptail ch he hp] at hσ ⊢
              refine DelRel.slot p A _ (.static _) (ihs _ hmem _ _ d _ (A.static hmem)) ?_ hσ
                fun c' _ hw' hp' => ?_
              · show slotTable (childAt t.statics _) acc = _
                rw [hch, slotTable, absChild_eq he]
              · obtain ⟨pre, post, hst, hpre⟩ := childAt_some hch
                have he' := edgeOk_congr_path hp' he
                have P := putStatic_finish W.hnodup hst hpre c'
                exact ⟨finishStatic_wf W hst hpre hw' hp', P.same acc, by
                  rw [P.slot, slotTable_kept he' hw' acc, absChild_eq he', childAcc_path hp']⟩
            · rw [if_neg hp]
              refine DelRel.of_none p ?_
              rw [getNode_absAux_slot W A.flat, hσ]
              show getNode (slotTable (childAt t.statics _) acc) _ = none
              rw [hch]
              exact getNode_absChild_noprefix_del S ptail ch he hp

/-- `delNode_abs` at the root: `parseDel` is what `delNode` reads -/
theorem delete_abs (t : RTree V) (h : t.WF) (expr : String) :
    DelRel p (RTree.delete t expr p) t false 0 (parseDel expr) [] := by
  have hrel := delNode_abs p t expr.toList false 0 [] (At.root h)
  rwa [patDel_nil_eq] at hrel

/-- **`delete` preserves well-formedness.** -/
theorem delete_wf (t t' : RTree V) (expr : String) (p : V → Bool) (h : t.WF)
    (hdel : RTree.delete t expr p = some t') : t'.WF := by
  have hrel := delete_abs p t h expr
  rw [hdel] at hrel
  obtain ⟨_, _, h⟩ := Option.Rel.some_right hrel
  exact h.1.1

/-- **`delete` commutes with the abstraction.** `RTree.delete` on a well-formed tree and `Heimdall.del` on its abstraction
fail alike or succeed alike, and then the new tree's abstraction is the new table, as a function of the path
expression. -/
theorem rtree_delete_refines (t : RTree V) (h : t.WF) (expr : String) (p : V → Bool) :
    Option.Rel (fun t' T' => ∀ q, getNode t'.abs q = getNode T' q) (RTree.delete t expr p)
      (Heimdall.del t.abs expr p) := by
  refine ((delete_abs p t h expr).flip.trans (delPat_spec p t.abs (nodup_abs t h) (parseDel expr))).imp ?_
  rintro t' T' _ _ ⟨x, h₁, h₂⟩
  exact h₁.2.ext h₂ fun _ => rfl

end RTree
end Heimdall
