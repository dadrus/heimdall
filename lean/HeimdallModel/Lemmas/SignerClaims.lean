import HeimdallModel.Spec.Signer
/-! Helper lemmas about claim maps and claim programs (C16) -/
namespace Heimdall.Signer

variable {α : Type}

theorem lookup_nil (k : String) : lookup k ([] : Claims α) = none := rfl

theorem lookup_append (k : String) (a b : Claims α) :
    lookup k (a ++ b) = (lookup k b).or (lookup k a) := by
  induction a with
  | nil => simp [lookup]
  | cons kv rest ih =>
    simp only [List.cons_append, lookup, ih]
    cases lookup k b <;> simp

theorem lookup_filter_ne {k k' : String} (h : k ≠ k') (c : Claims α) :
    lookup k (c.filter (fun kv => kv.1 ≠ k')) = lookup k c := by
  induction c with
  | nil => rfl
  | cons kv rest ih =>
    rw [List.filter_cons]
    split
    · rw [lookup, lookup, ih]
    · rename_i e
      have : kv.1 ≠ k := fun x => h (x.symm.trans (by simpa using e))
      rw [ih, lookup, if_neg this, Option.or_none]

theorem lookup_put (k k' : String) (v : CVal α) (c : Claims α) :
    lookup k (put k' v c) = if k = k' then some v else lookup k c := by
  unfold put
  rw [lookup_append]
  by_cases h : k = k'
  · simp [lookup, h]
  · rw [lookup_filter_ne h]; simp [lookup, h, Ne.symm h]

theorem lookup_mergeInto (k : String) (custom dst : Claims α) :
    lookup k (mergeInto custom dst) = (lookup k custom).or (lookup k dst) := by
  unfold mergeInto
  induction custom generalizing dst with
  | nil => simp [lookup_nil]
  | cons kv rest ih =>
    rw [List.foldl_cons, ih, lookup_put, lookup]
    cases lookup k rest <;> by_cases h : k = kv.1 <;> simp [h, eq_comm (a := kv.1)]

theorem names_nodup_put (k : String) (v : CVal α) {c : Claims α} (h : (c.map (·.1)).Nodup) :
    ((put k v c).map (·.1)).Nodup := by
  unfold put
  rw [List.map_append, List.nodup_append]
  refine ⟨?_, by simp, ?_⟩
  · exact List.Nodup.sublist (List.Sublist.map _ List.filter_sublist) h
  · intro a ha b hb
    simp at hb
    subst hb
    rcases List.mem_map.mp ha with ⟨x, hx, rfl⟩
    have := (List.mem_filter.mp hx).2
    simpa using this

theorem names_nodup_mergeInto (custom : Claims α) {dst : Claims α} (h : (dst.map (·.1)).Nodup) :
    ((mergeInto custom dst).map (·.1)).Nodup :=
  List.foldlRecOn (motive := fun c : Claims α => (c.map (·.1)).Nodup) custom _ h fun _ hb _ _ => names_nodup_put _ _ hb

theorem names_nodup_fold (p : List ClaimOp) (custom : Claims α) (i : SignIn) (acc : Claims α)
    (h : (acc.map (·.1)).Nodup) : ((p.foldl (runOp custom i) acc).map (·.1)).Nodup :=
  List.foldlRecOn (motive := fun c : Claims α => (c.map (·.1)).Nodup) p _ h fun _ hb op _ => by
    cases op with
    | merge => exact names_nodup_mergeInto _ hb
    | set k s => exact names_nodup_put _ _ hb

theorem lookup_fold_untouched (k : String) (post : List ClaimOp) (custom : Claims α) (i : SignIn) (acc : Claims α)
    (h : untouched k post = true) : lookup k (post.foldl (runOp custom i) acc) = lookup k acc :=
  List.foldlRecOn (motive := fun c => lookup k c = lookup k acc) post _ rfl fun c hc op hop => by
    have := List.all_eq_true.mp h op hop
    cases op with
    | merge => cases this
    | set k' s => rw [runOp, lookup_put, if_neg fun e => of_decide_eq_true this e.symm, hc]

theorem reservedSrc_of_not_reserved {k : String} (hk : k ∉ reserved) : reservedSrc k = none := by
  simp only [reserved, List.mem_cons, List.not_mem_nil, or_false, not_or] at hk
  simp [reservedSrc, hk]

theorem unixSec_lt {a b : Int} (h : a + 1000000000 ≤ b) : unixSec a < unixSec b := by
  unfold unixSec; omega

end Heimdall.Signer
