import HeimdallModel.Lemmas.Inheritance
import HeimdallModel.Lemmas.Basic
/-!
# Lemmas for property C14: the rule factory model against the executable specification

The model (`Model/Factory.lean`) against `Spec.configOk`, `Spec.ruleOk`, `Spec.factory`, `Spec.effective`: one
iteration of `createExecutePipeline` (`execStep_ok_iff`), the loop with its accumulators (`execPipeline_ok_iff`),
`NewRuleFactory` and `CreateRule` (`newFactory_ok_iff`, `loadRule_ok_iff`), the loader (`load_cases`), histories
(`loadAll_eq_map`).  The executable specification against the declarative one is in `Lemmas/Inheritance.lean`.
Core Lean only.
-/
namespace Heimdall.Factory

/-! ## `Except` -/

theorem pure_ok_iff {ε α : Type} (a y : α) : (pure a : Except ε α) = .ok y ↔ a = y := by
  simp [pure, Except.pure]

theorem ite_error_ok_iff {ε α : Type} (c : Prop) [Decidable c] (e : ε) (x : Except ε α) (y : α) :
    (if c then .error e else x) = .ok y ↔ ¬c ∧ x = .ok y := by
  split <;> simp [*]

/-- a computation whose successes are characterised by a test `b` and a value `a₀` succeeds with `a₀` or fails -/
theorem ok_or_error {ε α : Type} {x : Except ε α} {b : Bool} {a₀ : α} (h : ∀ a, x = .ok a ↔ b = true ∧ a = a₀) :
    (b = true ∧ x = .ok a₀) ∨ (b = false ∧ ∃ e, x = .error e) := by
  cases x with
  | ok a => obtain ⟨hb, rfl⟩ := (h a).mp rfl; exact .inl ⟨hb, rfl⟩
  | error e =>
    refine .inr ⟨?_, e, rfl⟩
    cases b with
    | false => rfl
    | true => exact nomatch (h a₀).mpr ⟨rfl, rfl⟩

/-! ## One step -/

/-- the catalogue knows the mechanism and it accepts the override (if any) -/
def accepts (cat : Catalogue) (k : Kind) (id : String) (cfg : Option Nat) : Bool :=
  match cat k id, cfg with
  | none, _ => false
  | some _, none => true
  | some accepted, some t => accepted.contains t

/-- the three conditions of `ListsOk` on a single step of `execute` -/
def Step.ok (cat : Catalogue) (s : Step) : Bool := s.known cat && s.overrideOk cat && s.condOk

theorem accepts_isSome {cat : Catalogue} {k : Kind} {id : String} {cfg : Option Nat}
    (h : accepts cat k id cfg = true) : (cat k id).isSome = true := by
  unfold accepts at h
  cases hc : cat k id <;> simp [hc] at h ⊢

theorem create_ok_iff (cat : Catalogue) (k : Kind) (id : String) (c : Bool) (cfg : Option Nat) (m : Mech) :
    create cat k id c cfg = .ok m ↔ accepts cat k id cfg = true ∧ ⟨k, id, c, cfg⟩ = m := by
  unfold create accepts
  cases cat k id <;> cases cfg <;> simp
  split <;> simp_all

theorem compiles_iff (t : CelTy) : compiles t = true ↔ t = .bool := by
  cases t <;> simp [compiles]

theorem condition_ok_iff (c : Cond) (b : Bool) : condition c = .ok b ↔ c.usable = true ∧ c.isExpr = b := by
  cases c with
  | expr src t =>
    cases t with
    | none => simp [condition, Cond.usable]
    | some t =>
      simp only [condition, Cond.usable, Cond.isExpr, decide_eq_true_eq, Option.some.injEq, ← compiles_iff]
      split <;> simp [*]
  | _ => simp [condition, Cond.usable, Cond.isExpr]

theorem handler_ok_iff (cat : Catalogue) (k : Kind) (id : String) (s : Step) (m : Mech) :
    handler cat k id s = .ok m ↔
      accepts cat k id s.config = true ∧ s.cond.usable = true ∧ ⟨k, id, s.cond.isExpr, s.config⟩ = m := by
  simp only [handler, bind_ok_iff, condition_ok_iff, create_ok_iff, and_assoc, exists_and_left, exists_eq_left']
  exact and_left_comm

theorem known_overrideOk_eq_accepts (cat : Catalogue) (s : Step) :
    (s.known cat && s.overrideOk cat) =
      match s.target with
      | none => false
      | some (k, id) => accepts cat k id s.config := by
  unfold Step.known Step.overrideOk accepts
  cases s.target with
  | none => simp
  | some t =>
    obtain ⟨k, id⟩ := t
    cases h : cat k id <;> cases h2 : s.config <;> simp [h]

theorem ehOk_of_handler {cat : Catalogue} {s : Step} {id : String} (h : s.errorHandler = some id) :
    s.ehOk cat = (accepts cat .eh id s.config && s.cond.usable) := by
  rw [Bool.and_comm]; simp only [Step.ehOk, h]; rfl

theorem errStep_ok_iff (cat : Catalogue) (s : Step) (m : Mech) :
    errStep cat s = .ok m ↔ s.ehOk cat = true ∧ s.ehMech = some m := by
  unfold errStep Step.ehMech
  cases h : s.errorHandler with
  | none => simp [Step.ehOk, h]
  | some id =>
    simp only [handler_ok_iff, ehOk_of_handler h, Bool.and_eq_true, Option.map_some, Option.some.injEq, and_assoc]

/-! ## The accumulators of `createExecutePipeline` -/

/-- how far the accumulators have advanced in the stage order -/
def Pipes.phase (acc : Pipes) : Nat :=
  if !acc.fin.isEmpty then 2 else if !acc.sh.isEmpty then 1 else 0

def Pipes.push (acc : Pipes) (m : Mech) : Pipes :=
  match m.kind.stage with
  | .authentication => { acc with authn := acc.authn ++ [m] }
  | .handling => { acc with sh := acc.sh ++ [m] }
  | .finalization => { acc with fin := acc.fin ++ [m] }
  | .errorHandling => acc

def Pipes.extend (acc : Pipes) (ms : List Mech) : Pipes :=
  ⟨acc.authn ++ ms.filter (·.kind.stage == .authentication), acc.sh ++ ms.filter (·.kind.stage == .handling),
   acc.fin ++ ms.filter (·.kind.stage == .finalization)⟩

theorem extend_cons (acc : Pipes) (m : Mech) (ms : List Mech) : acc.extend (m :: ms) = (acc.push m).extend ms := by
  unfold Pipes.extend Pipes.push
  cases h : m.kind.stage <;>
    simp only [h, List.filter_cons, beq_iff_eq, reduceCtorEq, if_false, if_true, List.append_assoc,
      List.singleton_append]

/-- the order checks of `createExecutePipeline` look at the emptiness of the accumulators -/
theorem phase_le_zero (acc : Pipes) : acc.phase ≤ 0 ↔ ¬(!acc.sh.isEmpty || !acc.fin.isEmpty) = true := by
  unfold Pipes.phase; cases acc.fin.isEmpty <;> cases acc.sh.isEmpty <;> simp

theorem phase_le_one (acc : Pipes) : acc.phase ≤ 1 ↔ ¬(!acc.fin.isEmpty) = true := by
  unfold Pipes.phase; cases acc.fin.isEmpty <;> cases acc.sh.isEmpty <;> simp

theorem phase_le_two (acc : Pipes) : acc.phase ≤ 2 := by
  unfold Pipes.phase; cases acc.fin.isEmpty <;> cases acc.sh.isEmpty <;> simp

theorem phase_push (acc : Pipes) (m : Mech) (h : acc.phase ≤ m.kind.stage.rank)
    (hk : m.kind.stage ≠ .errorHandling) : (acc.push m).phase = m.kind.stage.rank := by
  unfold Pipes.push
  cases hs : m.kind.stage <;> rw [hs] at h
  · exact Nat.le_zero.mp h
  · have := (phase_le_one acc).mp h
    simp [Pipes.phase, Stage.rank, this]
  · simp [Pipes.phase, Stage.rank]
  · exact absurd hs hk

theorem execStep_ok_iff (cat : Catalogue) (acc acc' : Pipes) (s : Step) :
    execStep cat acc s = .ok acc' ↔
      ∃ m, s.mech = some m ∧ acc.phase ≤ m.kind.stage.rank ∧ s.ok cat = true ∧ acc.push m = acc' := by
  unfold Step.ok
  rw [known_overrideOk_eq_accepts]
  -- by which reference key is present (so that `Step.target` reduces); `phase_le_zero`, `phase_le_one` read the Go
  -- emptiness tests on the accumulators as `phase ≤ rank`
  obtain ⟨a, z, c, f, e, cond, cfg⟩ := s
  cases a
  cases z
  cases c
  cases f
  all_goals simp only [execStep, Step.mech, Step.target, Step.condOk, ite_error_ok_iff, bind_ok_iff, pure_ok_iff,
    create_ok_iff, handler_ok_iff, ← phase_le_zero, ← phase_le_one, phase_le_two, Pipes.push, Kind.stage,
    Stage.rank, and_assoc, exists_and_left, exists_eq_left', Option.some.injEq, Bool.and_eq_true,
    Option.isSome_some, Option.isSome_none, Bool.true_or, Bool.false_or, Bool.and_true, true_and, reduceCtorEq,
    false_and, exists_false]

theorem execPipeline_ok_iff (cat : Catalogue) (steps : List Step) : ∀ (acc acc' : Pipes),
    execPipeline cat acc steps = .ok acc' ↔
      orderedFrom acc.phase steps = true ∧ (∀ s ∈ steps, s.ok cat = true) ∧
        acc.extend (steps.filterMap Step.mech) = acc' := by
  induction steps with
  | nil => intro acc acc'; simp [execPipeline, pure_ok_iff, orderedFrom, Pipes.extend]
  | cons s ss ih =>
    intro acc acc'
    simp only [execPipeline, bind_ok_iff, execStep_ok_iff, ih, List.forall_mem_cons, orderedFrom, stage_eq_map_mech]
    constructor
    · rintro ⟨_, ⟨m, hm, hph, hok, rfl⟩, hord, hall, rfl⟩
      rw [phase_push _ _ hph (mech_stage_ne_eh hm)] at hord
      simpa [hm, hok, hph, hord, extend_cons] using hall
    · rintro ⟨hord, ⟨hok, hall⟩, rfl⟩
      cases hm : s.mech with
      | none => simp [hm] at hord
      | some m =>
        simp only [hm, Option.map_some, Bool.and_eq_true, decide_eq_true_eq] at hord
        refine ⟨_, ⟨m, rfl, hord.1, hok, rfl⟩, ?_, hall, by simp [hm, extend_cons]⟩
        rw [phase_push _ _ hord.1 (mech_stage_ne_eh hm)]; exact hord.2

theorem ehMech_isSome {cat : Catalogue} {s : Step} (h : s.ehOk cat = true) : ∃ m, s.ehMech = some m := by
  unfold Step.ehOk at h
  unfold Step.ehMech
  cases he : s.errorHandler <;> simp [he] at h ⊢

theorem errPipeline_ok_iff (cat : Catalogue) (steps : List Step) : ∀ ms : List Mech,
    errPipeline cat steps = .ok ms ↔ (∀ s ∈ steps, s.ehOk cat = true) ∧ steps.filterMap Step.ehMech = ms := by
  induction steps with
  | nil => intro ms; simp [errPipeline, pure_ok_iff]
  | cons s ss ih =>
    intro ms
    simp only [errPipeline, bind_ok_iff, pure_ok_iff, errStep_ok_iff, ih, List.forall_mem_cons]
    constructor
    · rintro ⟨m, ⟨hok, hm⟩, _, ⟨hall, rfl⟩, rfl⟩
      exact ⟨⟨hok, hall⟩, by simp [hm]⟩
    · rintro ⟨⟨hok, hall⟩, rfl⟩
      obtain ⟨m, hm⟩ := ehMech_isSome hok
      exact ⟨m, ⟨hok, hm⟩, _, ⟨hall, rfl⟩, by simp [hm]⟩

/-! ## `NewRuleFactory`, `CreateRule` and the loader against the executable specification -/

theorem orElse_eq_inherit (o d : List Mech) : orElse o d = inherit o d := by
  unfold orElse inherit; cases o <;> simp

/-- both pipeline constructors together, followed by whatever is done with their results: they succeed exactly on
usable lists, with the own mechanisms of the four stages -/
theorem pipelines_ok_iff (cat : Catalogue) (execute onError : List Step) (R : Pipes → List Mech → Prop) :
    (∃ p, execPipeline cat {} execute = .ok p ∧ ∃ eh, errPipeline cat onError = .ok eh ∧ R p eh) ↔
      Spec.listsOk cat execute onError = true ∧
        R ⟨own .authentication execute onError, own .handling execute onError, own .finalization execute onError⟩
          (own .errorHandling execute onError) := by
  have : ({} : Pipes).extend (execute.filterMap Step.mech) =
      ⟨own .authentication execute onError, own .handling execute onError, own .finalization execute onError⟩ := by
    simp [Pipes.extend, own]
  simp only [execPipeline_ok_iff, errPipeline_ok_iff, this, Spec.listsOk, Step.ok, Bool.and_eq_true,
    List.all_eq_true, and_assoc, exists_and_left, exists_eq_left']
  exact Iff.rfl

theorem factory_complete (proxy : Bool) (d : Option DefaultRule) (execute onError : List Step) :
    (Spec.factory proxy d).complete
      ⟨own .authentication execute onError, own .handling execute onError, own .finalization execute onError⟩
      (own .errorHandling execute onError) = Spec.pipelines d execute onError := by
  cases d <;> simp [Factory.complete, Spec.factory, Spec.pipelines, ownDefault, inherit_nil, orElse_eq_inherit]

theorem newFactory_ok_iff (cat : Catalogue) (proxy : Bool) (d : Option DefaultRule) (f : Factory) :
    newFactory cat proxy d = .ok f ↔ Spec.configOk cat d = true ∧ f = Spec.factory proxy d := by
  cases d with
  | none =>
    simp only [newFactory, pure_ok_iff, Spec.configOk, Spec.factory, true_and, Option.map_none, Option.getD_none]
    exact eq_comm
  | some d =>
    simp only [newFactory, ite_error_ok_iff, bind_ok_iff, pure_ok_iff, pipelines_ok_iff, Spec.configOk,
      Spec.factory, Spec.pipelines, ownDefault, inherit_nil, Option.map_some, Option.getD_some, Bool.and_eq_true,
      Bool.not_eq_true', Bool.not_eq_false, Bool.not_eq_true, and_assoc]
    exact ⟨fun ⟨ha, hb, hl, hne, h⟩ => ⟨hl, ha, hb, hne, h.symm⟩, fun ⟨hl, ha, hb, hne, h⟩ => ⟨ha, hb, hl, hne, h.symm⟩⟩

theorem factory_backtracking (proxy : Bool) (d : Option DefaultRule) (r : RuleDef) :
    (Spec.factory proxy d).backtrackingFor r.backtracking = Spec.backtracking d r := by
  unfold Spec.backtracking Spec.factory
  cases r.backtracking <;> rfl

/-- `CreateRule` behind the rule set validation, on the factory of a configuration -/
theorem loadRule_ok_iff (cat : Catalogue) (proxy validated : Bool) (d : Option DefaultRule) (r : RuleDef)
    (e : Effective) :
    loadRule cat validated (Spec.factory proxy d) r = .ok e ↔
      Spec.ruleOk cat proxy validated d r = true ∧ e = Spec.effective d r := by
  simp only [loadRule, createRule, ite_error_ok_iff, bind_ok_iff, pure_ok_iff, pipelines_ok_iff, factory_complete,
    factory_backtracking]
  simp only [Spec.ruleOk, Spec.effective, Spec.pipelines, Spec.factory, Bool.and_eq_true, Bool.or_eq_true,
    Decidable.not_and_iff_not_or_not, Bool.not_eq_true', Bool.not_eq_true, Bool.not_eq_false, and_assoc]
  exact ⟨fun ⟨hv, hp, hl, hne, h⟩ => ⟨hl, hv, hp, hne, h.symm⟩, fun ⟨hl, hv, hp, hne, h⟩ => ⟨hv, hp, hl, hne, h.symm⟩⟩

theorem load_cases (cat : Catalogue) (proxy validated : Bool) (d : Option DefaultRule) (r : RuleDef) :
    (Spec.configOk cat d = true ∧ Spec.ruleOk cat proxy validated d r = true ∧
      load cat proxy validated d r = .accepted (Spec.factory proxy d) (Spec.effective d r)) ∨
    (Spec.configOk cat d = true ∧ Spec.ruleOk cat proxy validated d r = false ∧
      ∃ why, load cat proxy validated d r = .ruleRejected why) ∨
    (Spec.configOk cat d = false ∧ ∃ why, load cat proxy validated d r = .configRejected why) := by
  unfold load
  rcases ok_or_error (newFactory_ok_iff cat proxy d) with ⟨hc, hf⟩ | ⟨hc, why, hf⟩
  · rcases ok_or_error (loadRule_ok_iff cat proxy validated d r) with ⟨hr, hl⟩ | ⟨hr, why, hl⟩
    · exact .inl ⟨hc, hr, by simp only [hf, hl]⟩
    · exact .inr (.inl ⟨hc, hr, why, by simp only [hf, hl]⟩)
  · exact .inr (.inr ⟨hc, why, by simp only [hf]⟩)

/-- a history is judged rule by rule: what the factory created before plays no role -/
theorem loadAll_eq_map (cat : Catalogue) (validated : Bool) (rs : List RuleDef) : ∀ f : Factory,
    loadAll cat validated f rs = rs.map (loadRule cat validated f) := by
  induction rs with
  | nil => intro f; rfl
  | cons r rs ih => intro f; simp [loadAll, Factory.createRuleM, ih]

end Heimdall.Factory
