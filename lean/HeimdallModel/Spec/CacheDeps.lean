import HeimdallModel.Model.CacheKey
/-!
# C11 — what a fresh evaluation reads (hand-written from the Go code, validated by the correspondence run)

For every caching mechanism: the typed inputs a fresh evaluation (rendering the request, calling the remote system,
parsing the response) depends on.  Inputs are named by what they *are* (`payload`, `values`, `subject`, …), not by how the
Go code happens to call them: the extractor finds the structure of every key function (which writes, in which order),
and the check binds every write to an input by behaviour — the real function is evaluated for probe configurations with
distinctive values and the assignment write ↦ input is the one for which SHA-256 of the written bytes is the real key
(`tools/c11_bind.py`).  Renaming, re-packaging of parameters into a struct, moving functions between files do not
change the generated module.

`id` stands for the whole prototype configuration of the mechanism instance (endpoint, payload template, subject
mapping, …): rule-level overrides can only change what is listed separately.  Rule-level *validation* (assertions,
expressions) is not listed: it is repeated on every cache hit (`rechecked`).
-/
namespace Heimdall.CacheKey

def deps : String → List Dep
  | "genericAuthenticator" => [.bytes "id", .bytes "credential", .list "fwdHeaderValues", .list "fwdCookieValues"]
  | "introspection" => [.bytes "id", .bytes "url", .bytes "token"]
  | "jwtAuthenticator" => [.bytes "id", .bytes "url", .bytes "keyID"]
  | "remoteAuthorizer" => [.bytes "id", .bytes "payload", .bytes "subject", .kvs "values"]
  | "genericContextualizer" =>
      [.bytes "id", .list "fwdHeaders", .list "fwdHeaderValues", .list "fwdCookies", .list "fwdCookieValues",
       .bytes "payload", .bytes "subject", .kvs "values"]
  | "jwtFinalizer" => [.bytes "signer", .bytes "claims", .num "ttl", .bytes "subject", .bytes "outputs"]
  | "clientCredentialsKey" => [.bytes "clientID", .bytes "clientSecret", .bytes "tokenURL", .list "scopes"]
  -- everything `Endpoint.CreateRequest` and `AuthenticationStrategy.Apply` put on the wire of a request without a
  -- body: the url (api key `in: query`), the method, all header fields (endpoint headers rendered for the request,
  -- forwarded headers, `Authorization`, api keys, cookies)
  | "httpCache" => [.bytes "url", .bytes "method", .kvs "headers"]
  -- nested digests: the object that is hashed
  | "subject" => [.bytes "json"]
  | "template" => [.bytes "text"]
  | "jwtSigner" => [.bytes "keyID", .bytes "algorithm", .bytes "issuer", .bytes "thumbprint"]
  | "endpoint" => [.bytes "url", .bytes "method", .kvs "headers", .opt "authStrategy?" (.bytes "authStrategy")]
  | "apiKey" => [.bytes "in", .bytes "name", .bytes "value"]
  | "basicAuth" => [.bytes "user", .bytes "password"]
  | "httpMessageSignatures" =>
      [.bytes "label", .list "components", .bytes "ttlBytes", .bytes "signerName", .bytes "keyID"]
  | "clientCredentialsHash" => [.bytes "clientID", .bytes "clientSecret", .bytes "tokenURL", .list "scopes"]
  | _ => []

/-- the key functions whose result is used as key of the (shared) cache -/
def keyUsers : List String :=
  ["genericAuthenticator", "introspection", "jwtAuthenticator", "remoteAuthorizer", "genericContextualizer",
   "jwtFinalizer", "clientCredentialsKey", "httpCache"]

/-- the leading constant of a field list -/
def tagOf : List Field → Option Bytes
  | .tag b :: _ => some b
  | _ => none

theorem tagOf_some {fs : List Field} {a : Bytes} (h : tagOf fs = some a) : ∃ r, fs = .tag a :: r := by
  unfold tagOf at h
  split at h
  · cases h; exact ⟨_, rfl⟩
  · cases h

/-- every two different users of the cache start their keys with different constants -/
def usersSeparated (table : List (String × List Field)) : Bool :=
  keyUsers.all fun n => keyUsers.all fun n' => n == n' ||
    match (table.lookup n).bind tagOf, (table.lookup n').bind tagOf with
    | some a, some b => a != b && decide (a.length < limit) && decide (b.length < limit)
    | _, _ => false

/-- mechanisms whose rule-level validation (assertions / expressions) is not part of the key: it has to be repeated
on **every** hit (`Validate` / `verify` → `eval` of the Go code). The extractor reports a call that is not executed on
every pass through the hit block (guarded by anything but an error check, behind a guarded early exit, in a loop or
closure) with a leading `?`, which does not count. -/
def rechecked : List (String × String) :=
  [("introspection", "Validate"), ("remoteAuthorizer", "verify"), ("remoteAuthorizer", "eval")]

/-- does the extracted hit path of the mechanism repeat the rule-level validation on every hit -/
def recheckOf (hitPath : List (String × List String)) (name : String) : Bool :=
  let need := rechecked.filter (·.1 == name)
  !need.isEmpty && need.all fun p => (hitPath.lookup name).any (·.contains p.2)

/-- `a` occurs in the call sequence, and storing (`Set`) occurs only after it -/
def before (a : String) : List String → Bool
  | [] => false
  | x :: xs => if x == "Set" then false else if x == a then xs.contains "Set" else before a xs

/-- mechanisms whose validation of the remote response does not depend on the rule and is therefore not repeated on a
hit (validation of the fetched JWK against the trust store, assertion of the session lifespan): it has to precede
storing. On the miss path the extractor appends to a call (other than `Set`) the conditions reading the receiver under which it is
executed: the session lifespan is asserted exactly if the mechanism is configured with one; any further condition
(e.g. a flag a rule could set) does not match. -/
def validatedBeforeStored : List (String × String) :=
  [("jwtAuthenticator", "validateJWK"), ("genericAuthenticator", "Assert?recv.sessionLifespanConf != nil")]

/-- the types (package : type) that may use the cache of the request context -/
def knownCacheSites : List String :=
  ["internal/httpcache:RoundTripper",
   "internal/rules/mechanisms/authenticators:genericAuthenticator",
   "internal/rules/mechanisms/authenticators:jwtAuthenticator",
   "internal/rules/mechanisms/authenticators:oauth2IntrospectionAuthenticator",
   "internal/rules/mechanisms/authorizers:remoteAuthorizer",
   "internal/rules/mechanisms/contextualizers:genericContextualizer",
   "internal/rules/mechanisms/finalizers:jwtFinalizer",
   "internal/rules/oauth2/clientcredentials:Config"]

end Heimdall.CacheKey
