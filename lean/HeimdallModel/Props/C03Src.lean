import HeimdallModel.Model.MatcherSrc
/-!
# C03 — the route matchers *as they stand in the source* decide what the C03 model decides

`Gen/MatcherSrc.lean` is regenerated on every run by the Go → Lean translator `extract/go2lean` (`cmd/matchers`) from the
whole bodies of `compositeMatcher.Matches`, `anyOfMatcher.Matches`, `schemeMatcher.Matches`, `methodMatcher.Matches`,
`hostMatcher.Matches` and `pathParamMatcher.Matches`; the `for … range` loops are structurally recursive functions over
the list. The theorems below hold for condition lists of **any length** and every behaviour of the conditions:

* `compositeMatcher` accepts iff **every** condition accepts, reports the refusal of the **first** one that refuses and
  asks no later one;
* `anyOfMatcher` (the `hosts` of a rule) accepts iff it is **empty or some** element accepts;
* scheme / method / host / path-parameter conditions are `schemeOk` / `methodOk` / `TM.matches` / `ppOk` of
  `Model/Matcher.lean` (a path parameter is looked up by name, checked on the decoded value when the request has a raw
  path, refused under `off` when the raw path contains an encoded slash);
* assembled as `CreateRule` assembles them, they accept iff `routeMatches` of the model accepts (`c03_src_route`) - so
  the theorems of `Props/C03.lean` about `routeMatches` speak about the loops and guards of the current source.
How the parameters of the translation are filled: `Model/MatcherSrc.lean`.
-/
-- the `simp` sets below carry more than the present translation needs: they have to close on every harmless
-- rewrite of the Go bodies too
set_option linter.unusedSimpArgs false

namespace Heimdall.Props.C03
open Heimdall Heimdall.Matcher Heimdall.Matcher.SrcTie

/-- **The tie holds for this run:** `Gen/MatcherSrc.lean` is the result of translating the current source. -/
theorem c03_src_translated : Src.translationOk = true := by decide

section Generic
variable {A Err : Type}

section
variable {g : A → Go.M Unit Unit (Option Err)} {b : A → Bool}

/-- a condition decides: it returns (no panic), and accepts iff it reports no refusal -/
theorem accepts_eq_some {m : Go.M Unit Unit (Option Err)} {b : Bool} :
    accepts m = some b ↔ ∃ e, m () = .done e () ∧ e.isNone = b := by
  unfold accepts
  cases m () with
  | done e u => simp
  | panic v u => simp

/-- **`compositeMatcher.Matches` accepts iff every condition accepts**, for lists of any length of conditions that decide. -/
theorem c03_src_allOf_accepts (h : ∀ a, accepts (g a) = some (b a)) (xs : List A) :
    accepts (Src.AllOf.Matches g () xs) = some (xs.all b) := by
  unfold Src.AllOf.Matches
  generalize (xs.length : Int) = n
  induction xs with
  | nil => simp [accepts, Src.AllOf.Matches_loop, Go.pure]
  | cons a xs ih =>
    obtain ⟨e, he, hb⟩ := accepts_eq_some.mp (h a)
    rw [List.all_cons, ← hb]
    unfold Src.AllOf.Matches_loop
    cases e with
    | none => simpa [accepts, Go.bind, Go.pure, Go.cond_app, he] using ih
    | some e => simp [accepts, Go.bind, Go.pure, Go.cond_app, he]

/-- The loop of `anyOfMatcher.Matches` with `err` holding the refusal of the previous element: it accepts iff some
element still to come accepts (or nothing is left and the previous refusal is none). -/
theorem c03_src_anyOf_loop (h : ∀ a, accepts (g a) = some (b a)) (n : Int) (xs : List A) (err : Option Err) :
    accepts (Src.AnyOf.Matches_loop g () n xs err) = some (xs.any b || (xs.isEmpty && err.isNone)) := by
  induction xs generalizing err with
  | nil => simp [accepts, Src.AnyOf.Matches_loop, Go.pure]
  | cons a xs ih =>
    obtain ⟨e, he, hb⟩ := accepts_eq_some.mp (h a)
    rw [List.any_cons, ← hb]
    unfold Src.AnyOf.Matches_loop
    cases e with
    | none => simp [accepts, Go.bind, Go.pure, Go.cond_app, he]
    | some e => simpa [accepts, Go.bind, Go.pure, Go.cond_app, he] using ih (some e)

/-- **`anyOfMatcher.Matches` returns (no panic of its own) and accepts iff it is empty or some element accepts**, for
lists of any length of conditions that decide. -/
theorem c03_src_anyOf_accepts (h : ∀ a, accepts (g a) = some (b a)) (xs : List A) :
    accepts (Src.AnyOf.Matches g () xs) = some (xs.isEmpty || xs.any b) := by
  cases xs with
  | nil => simp [accepts, Src.AnyOf.Matches, Src.AnyOf.Matches_loop, Go.pure, Go.cond_app]
  | cons a xs =>
    unfold Src.AnyOf.Matches
    -- the length is kept as a number known to be non-zero: a body that tests it before the loop is covered too
    generalize hN : ((a :: xs).length : Int) = N
    have hN0 : ¬ (N = 0) := by simp at hN; omega
    simp [hN0, Go.pure, Go.cond_app, c03_src_anyOf_loop h N (a :: xs) none]

end

/-- **`compositeMatcher.Matches` reports the first refusal** (`List.findSome?`) of conditions that only look (no effect
on the context, no panic), for lists of any length. -/
theorem c03_src_allOf_first_refusal (f : A → Option Err) (xs : List A) :
    Src.AllOf.Matches (Ctx := Unit) (PV := Unit) (fun a => Go.pure (f a)) () xs () = .done (xs.findSome? f) () := by
  unfold Src.AllOf.Matches
  generalize (xs.length : Int) = n
  induction xs with
  | nil => simp [Src.AllOf.Matches_loop, Go.pure]
  | cons a xs ih =>
    unfold Src.AllOf.Matches_loop
    cases h : f a <;> simp_all [Go.bind, Go.pure, Go.cond_app, List.findSome?]

/-- **No condition behind the first refusal is asked**: with conditions that log their being asked into the context,
`compositeMatcher.Matches` leaves exactly the conditions up to and including the first refusing one in the log. -/
theorem c03_src_allOf_asks_prefix (f : A → Option Err) (xs : List A) (log : List A) :
    Src.AllOf.Matches (PV := Unit) (fun a c => .done (f a) (c ++ [a])) () xs log
      = .done (xs.findSome? f)
          (log ++ (match xs.findIdx? (fun a => (f a).isSome) with | some i => xs.take (i + 1) | none => xs)) := by
  unfold Src.AllOf.Matches
  generalize (xs.length : Int) = n
  induction xs generalizing log with
  | nil => simp [Src.AllOf.Matches_loop, Go.pure]
  | cons a xs ih =>
    unfold Src.AllOf.Matches_loop
    cases h : f a with
    | some e => simp [Go.bind, Go.pure, Go.cond_app, h, List.findSome?, List.findIdx?_cons]
    | none =>
      simp only [Go.bind, Go.cond_app, h, Option.isSome_none, Option.isNone_none, cond_false, cond_true, ih,
        List.findSome?, List.findIdx?_cons]
      cases hi : xs.findIdx? (fun a => (f a).isSome) <;> simp [hi]

/-- **A panicking condition is not swallowed**: when the conditions before it accept, the panic of a condition leaves
`compositeMatcher.Matches` as a panic (never as an acceptance). -/
theorem c03_src_allOf_panic_propagates {PV : Type} [DecidableEq A] (f : A → Option Err) (pre post : List A) (bad : A) (v : PV)
    (hpre : ∀ a ∈ pre, f a = none) (nd : PV) :
    Src.AllOf.Matches (Ctx := Unit) (fun a => if a = bad then Go.panic v else Go.pure (f a)) nd (pre ++ bad :: post) ()
      = .panic v () ∨ bad ∈ pre := by
  by_cases hb : bad ∈ pre
  · exact Or.inr hb
  left
  unfold Src.AllOf.Matches
  generalize ((pre ++ bad :: post).length : Int) = n
  induction pre with
  | nil => simp [Src.AllOf.Matches_loop, Go.bind, Go.panic]
  | cons a pre ih =>
    have hne : a ≠ bad := fun h => hb (by simp [h])
    have ha : f a = none := hpre a (by simp)
    simp only [List.cons_append, Src.AllOf.Matches_loop, Go.bind, Go.cond_app, hne, if_false, Go.pure, ha,
      Option.isSome_none, Option.isNone_none, cond_false, cond_true]
    exact ih (fun x hx => hpre x (by simp [hx])) (fun h => hb (by simp [h]))

end Generic

/-- `schemeMatcher.Matches` accepts iff no scheme is demanded or the request has it (`schemeOk`). -/
theorem c03_src_scheme (r : RouteM) (q : ReqView) : accepts (schemeSrc r q) = some (schemeOk r q) := by
  unfold accepts schemeSrc Src.Scheme.Matches schemeOk
  cases h1 : r.scheme.isEmpty <;> cases h2 : (r.scheme == q.scheme) <;> simp [Go.pure, h1, h2, bne]

/-- `methodMatcher.Matches` accepts iff the list is empty or contains the request's method (`methodOk`). -/
theorem c03_src_method (r : RouteM) (q : ReqView) : accepts (methodSrc r q) = some (methodOk r q) := by
  unfold accepts methodSrc Src.Method.Matches methodOk
  cases h1 : r.methods.isEmpty <;> cases h2 : r.methods.contains q.method <;> simp [Go.pure, h1, h2]

/-- `hostMatcher.Matches` accepts iff the expression matches the request's host. -/
theorem c03_src_host (q : ReqView) (h : TM) : accepts (hostSrc q h) = some (h.matches q.host) := by
  unfold accepts hostSrc Src.Host.Matches
  cases h1 : h.matches q.host <;> simp [Go.pure, h1]

/-- `slices.Index` + `values[idx]` is the model's lookup by name, given a value for every name: the name is absent (index
`-1`, nothing found), or it stands at a proper index and the value at that index is found -/
theorem c03_src_lookup (name : String) (keys caps : List String) (hlen : keys.length ≤ caps.length) :
    (indexOf name keys = -1 ∧ lookupKey keys caps name = none) ∨
    (0 ≤ indexOf name keys ∧ lookupKey keys caps name = some (valueAt caps (indexOf name keys))) := by
  induction keys generalizing caps with
  | nil => exact .inl ⟨rfl, rfl⟩
  | cons k ks ih =>
    cases caps with
    | nil => exact absurd hlen (Nat.not_succ_le_zero _)
    | cons c cs =>
      unfold lookupKey indexOf
      by_cases hk : k = name
      · rw [if_pos hk, if_pos hk]; exact .inr ⟨Int.le_refl 0, rfl⟩
      · rw [if_neg hk, if_neg hk]
        rcases ih cs (Nat.le_of_succ_le_succ hlen) with ⟨hm, hl⟩ | ⟨h0, hl⟩
        · rw [if_pos hm]; exact .inl ⟨rfl, hl⟩
        · rw [if_neg (by omega), hl]
          refine .inr ⟨by omega, ?_⟩
          unfold valueAt
          rw [Int.toNat_add h0 (by decide : (0 : Int) ≤ 1)]
          rfl

/-- `pathParamMatcher.Matches` accepts iff `ppOk` of the model: the named wildcard exists, under `off` the raw path has
no encoded slash, and the expression matches the value - decoded when the request has a raw path. -/
theorem c03_src_pp (esh : SlashHandling) (q : ReqView) (keys caps : List String) (pp : String × TM)
    (hlen : keys.length ≤ caps.length) :
    accepts (ppSrc esh q keys caps pp) = some (ppOk esh q keys caps pp) := by
  unfold accepts ppSrc Src.PathParam.Matches ppOk
  rcases c03_src_lookup pp.1 keys caps hlen with ⟨hi, hl⟩ | ⟨h0, hl⟩
  · simp [hi, hl, Go.pure]
  · have hi : ¬ indexOf pp.1 keys = -1 := by omega
    simp only [hl, hi, decide_false, cond_false]
    -- what is left is a function of five truth values: evaluate it on each of them
    rw [show (esh == SlashHandling.off) = decide (esh = .off) from rfl]
    generalize q.rawPath.isEmpty = b₁
    generalize decide (esh = SlashHandling.off) = b₂
    generalize containsEncodedSlash q.rawPath = b₃
    generalize pp.2.matches (valueAt caps (indexOf pp.1 keys)) = b₄
    generalize pp.2.matches (unescapeCapture esh (valueAt caps (indexOf pp.1 keys))) = b₅
    cases b₁ <;> cases b₂ <;> cases b₃ <;> cases b₄ <;> cases b₅ <;> rfl

/-- **The matcher `CreateRule` assembles from the translated functions accepts exactly when `routeMatches` does**:
scheme ∧ method ∧ (no hosts ∨ some host) ∧ every path parameter - for any number of hosts and path parameters. -/
theorem c03_src_route (r : RouteM) (q : ReqView) (keys caps : List String) (hlen : keys.length ≤ caps.length) :
    accepts (routeSrc r q keys caps) = some (routeMatches r q keys caps) := by
  have hc : ∀ c, accepts (condSrc r q keys caps c) = some (match c with
      | .scheme => schemeOk r q
      | .method => methodOk r q
      | .hosts => hostOk r q
      | .pps => r.pps.all (ppOk r.esh q keys caps)) := by
    intro c
    cases c with
    | scheme => exact c03_src_scheme r q
    | method => exact c03_src_method r q
    | hosts => exact c03_src_anyOf_accepts (c03_src_host q) r.hosts
    | pps => exact c03_src_allOf_accepts (fun pp => c03_src_pp r.esh q keys caps pp hlen) r.pps
  rw [routeSrc, c03_src_allOf_accepts hc]
  simp only [routeMatches, List.all_cons, List.all_nil, Bool.and_true, Bool.and_assoc]

/-- the hypotheses of `c03_src_route` are met by a route with two hosts and a path parameter, and the translated
matcher decides it as the model does (evaluated) -/
example :
    let r : RouteM := { scheme := "https", methods := ["GET", "POST"], hosts := [.exact "a.example", .exact "b.example"],
                        pps := [("id", .exact "4 2")], esh := .off }
    let q : ReqView := { method := "GET", scheme := "https", host := "b.example", rawPath := "/u/4%202", path := "/u/4 2" }
    accepts (routeSrc r q ["id"] ["4%202"]) = some true ∧ routeMatches r q ["id"] ["4%202"] = true
      ∧ accepts (routeSrc r { q with host := "c.example" } ["id"] ["4%202"]) = some false := by
  decide +kernel

end Heimdall.Props.C03
