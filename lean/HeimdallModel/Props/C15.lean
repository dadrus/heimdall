import HeimdallModel.Lemmas.ProxyFwdMain
/-!
# C15 — proxy mode forwards exactly the rewritten request, pipeline headers win

`ProxyFwd.forward c` is the model of the whole way of one request through heimdall's proxy entry point
(`Model/ProxyFwd.lean`; it is what the correspondence check runs against the real proxy service, rule and upstream
test server).  `c : Case` ranges over all trusted-proxy lists, peers, listeners (plain / TLS), rules
(`forward_to.host`, `rewrite`, `allow_encoded_slashes`), pipeline results (headers in any casing and multiplicity,
cookies) and client requests (any method, request target, header lines incl. `Connection` and the forwarding headers,
body).  The "original URL" is the one of the request line, or the `X-Forwarded-Uri` of a trusted proxy
(`Spec.origTarget`).  The statements below say that whatever `forward` hands to the upstream meets the specification
`Spec/ProxyFwd.lean`; `c15_model_meets_spec_up_to_known_deviations` collects them into the oracle that the check also
evaluates on what the real upstream received.  Three clauses of the specification are *not* met by the implementation
(recorded findings, `Spec.deviations`); they are stated, the matching theorems carry the suffix `_partial` with the
decidable side condition, and the failure is proved at a concrete witness.
-/
namespace Heimdall.Props.C15
open Heimdall Heimdall.ProxyFwd

/-- A request that exercises every part at once (used as the witness that the hypotheses of the statements below can
be met): TLS listener, trusted peer with two `X-Forwarded-For` lines, an `X-Forwarded-Path` and an `X-Forwarded-Uri`
whose path has a raw `"` next to an encoded slash in lower-case hex and whose query has a listed parameter in another
spelling next to a malformed pair, a `Connection` header naming a client header and the pipeline's header, a pipeline
header colliding with a client header in another casing, strip and add prefix. -/
def witness : Case :=
  ⟨[b!"127.0.0.2"],
   ⟨.noDecode, b!"up:8080", some ⟨[], b!"/api", b!"/v%2F1", [b!"secret"]⟩⟩,
   ⟨[(b!"x-USER", b!"alice")], []⟩,
   ⟨b!"POST", b!"/ignored?z=1", b!"h",
    [(b!"X-uSeR", b!"mallory"), (b!"X-Forwarded-For", b!"1.1.1.1"), (b!"x-forwarded-for", b!"2.2.2.2"),
     (b!"X-Forwarded-Path", b!"/evil"), (b!"X-Forwarded-Uri", b!"/api/a\"%2fb?se%63ret=1&x=%zz"),
     (b!"Connection", b!"x-hop, X-User"), (b!"X-Hop", b!"1"), (b!"Keep-Alive", b!"timeout=5")],
    b!"body", b!"127.0.0.2", true⟩⟩

set_option maxRecDepth 100000 in
/-- the witness is forwarded — `forward c = .forwarded …`, the hypothesis of every statement, is satisfiable — and this
is what the upstream reads -/
example : forward witness = .forwarded true b!"up:8080"
    ⟨b!"POST", b!"/v%2F1/a%22%2fb", b!"x=%zz", b!"up:8080",
     [(b!"Accept-Encoding", b!"gzip"), (b!"X-Forwarded-For", b!"1.1.1.1, 2.2.2.2, 127.0.0.2"),
      (b!"X-Forwarded-Host", b!"h"), (b!"X-Forwarded-Proto", b!"https"), (b!"X-User", b!"alice")], b!"body"⟩ := by
  decide +kernel

set_option maxRecDepth 100000 in
example : Spec.addEncoded witness = true ∧ Spec.addDecodable witness = true ∧ Spec.mustForward witness = true ∧
    Spec.xFamily witness = true ∧ Spec.stripNames witness ≠ [] ∧ Spec.usesForwardedUri witness = true ∧
    Spec.addrSafe witness = true ∧ Spec.pipeSingleValued witness = true ∧
    Spec.pipeAvoidsContinued witness = true := by decide +kernel

/-! ## Where the request goes -/

/-- **Sent to `forward_to.host`.**  The connection goes to `forward_to.host` whatever the rewrite, the client's `Host`
or the pipeline say; the `Host` header names `forward_to.host` unless the pipeline produced a non-empty `Host` header
(any casing), which wins. -/
theorem c15_forward_to_host (c : Case) (tls : Bool) (dial : Bytes) (up : UpReq)
    (h : forward c = .forwarded tls dial up) :
    dial = c.rule.host ∧ up.host = Spec.expectedHost c := by
  obtain ⟨_, t, ht, _, _, hdial, hup⟩ := forward_forwarded h
  refine ⟨by rw [hdial]; exact ruleTarget_host _ _ _ ht, ?_⟩
  rw [hup]
  show (rewriteHeaders (inHeaders c) c.pipe c.req.peer c.req.host c.rule.host (listenerProto c.req.tls)).1 =
    Spec.expectedHost c
  rw [host_rewriteHeaders, Spec.expectedHost, firstOr_eq]
  unfold ProxyFwd.get
  rw [values_canonHeaders]
  rfl

/-- **Original scheme unless rewritten.**  TLS is spoken to the upstream exactly when the scheme is `https`, where the
scheme is `rewrite.scheme` if configured and otherwise the scheme of the original request: what `X-Forwarded-Proto`
says if a trusted proxy sent it, else the scheme of the listener the request arrived on. -/
theorem c15_scheme (c : Case) (tls : Bool) (dial : Bytes) (up : UpReq) (h : forward c = .forwarded tls dial up) :
    tls = decide (Spec.expectedScheme c = b!"https") := by
  obtain ⟨_, t, ht, _, htls, _, _⟩ := forward_forwarded h
  rw [htls, target_scheme c t ht]

example : Spec.expectedScheme
    ⟨[], ⟨.off, b!"up:80", none⟩, ⟨[], []⟩, ⟨b!"GET", b!"/", b!"h", [], [], b!"127.0.0.9", true⟩⟩ = b!"https" := by
  decide +kernel

/-! ## Path -/

/-- **The path is rewritten on its original spelling, nothing else changes.**  Provided `add_path_prefix` is itself a
proper encoding, the path in the request line is, byte for byte, `add_path_prefix ++ (original path without
strip_path_prefix)` (`/` if that is empty).  The original path is taken in `Spec.seenPath`: unit by unit the client's
own spelling — every `%XX` as written, hex digits in their case, every octet that may stand in a path as it is, any
other octet percent-encoded — unless the rule asks for decoding (`on`). -/
theorem c15_path_exact (c : Case) (tls : Bool) (dial : Bytes) (up : UpReq) (h : forward c = .forwarded tls dial up)
    (ha : Spec.addEncoded c = true) :
    up.path = Spec.expectedPath c := by
  obtain ⟨path, u, hdec, hhead, hu, hraw, _, hpath⟩ := target_path h
  rw [hpath]
  unfold Spec.expectedPath Spec.rewrittenPath
  cases hrw : c.rule.rewrite with
  | none => rfl
  | some rw =>
    simp only
    congr 1
    unfold Spec.addEncoded Spec.addDecodable Spec.addPrefix at ha
    simp only [hrw, Option.map_some, Option.getD_some, Bool.and_eq_true] at ha
    obtain ⟨hadd, hall⟩ := ha
    rw [← hu]
    refine rewrite_exact rw u ?_ (fun hnil => ?_) ?_
    · rw [hu]
      refine all_transformPath _ rw _ ?_ (seenPath_valid c)
      split at hall
      · exact validEncodedPath_of_canon _ hall
      · exact hall
    · -- no raw path: the rule says `on`, everything is in canonical encoding
      have hon : c.rule.slashes = .on := by
        rw [hraw] at hnil
        split at hnil
        · assumption
        · exact absurd hnil (escapeInvalid_ne_nil _ hhead)
      rw [hu]
      rw [if_pos hon] at hall
      exact all_transformPath _ rw _ hall (by rw [seenPath_on c hon]; exact escapePath_canon _)
    · rw [hu]
      exact transformPath_decodable rw _ hadd (by rw [seenPath_decodes c path hdec]; rfl)

example : Spec.addEncoded
    ⟨[], ⟨.noDecode, b!"up", some ⟨[], b!"/api", b!"/v%2F1", []⟩⟩, ⟨[], []⟩,
     ⟨b!"GET", b!"/api/a%2fb", b!"h", [], [], b!"127.0.0.1", false⟩⟩ = true := by decide +kernel

/-- **No double encoding.**  Provided `add_path_prefix` can be decoded at all, decoding once what is written in the
request line gives exactly the decoding of the rewritten original path — for every `allow_encoded_slashes` setting.
(Had an already escaped path been escaped again, one decoding would give back the escaped path, not the decoded
one.) -/
theorem c15_path_decodes_once (c : Case) (tls : Bool) (dial : Bytes) (up : UpReq)
    (h : forward c = .forwarded tls dial up) (ha : Spec.addDecodable c = true) :
    pathUnescapeL up.path = pathUnescapeL (Spec.expectedPath c) ∧ (pathUnescapeL up.path).isSome = true := by
  obtain ⟨path, u, hdec, _, hu, _, _, hpath⟩ := target_path h
  rw [hpath]
  unfold Spec.expectedPath Spec.rewrittenPath
  have hsd : pathUnescapeL (Spec.seenPath c) = some path := seenPath_decodes c path hdec
  cases hrw : c.rule.rewrite with
  | none => exact orSlash_decodes _ _ rfl (by rw [hsd]; rfl)
  | some rw =>
    simp only
    unfold Spec.addDecodable Spec.addPrefix at ha
    simp only [hrw, Option.map_some, Option.getD_some] at ha
    have hR := transformPath_decodable rw (Spec.seenPath c) ha (by rw [hsd]; rfl)
    cases hd : pathUnescapeL (transformPath rw (Spec.seenPath c)) with
    | none => simp [hd] at hR
    | some d =>
      have h1 : pathUnescapeL (rw.apply u).escapedPath = some d := rewrite_decodes rw u d (by rw [hu]; exact hd)
      exact orSlash_decodes _ _ (by rw [h1]; exact hd.symm) (by rw [h1]; rfl)

theorem c15_seen_path_same_path (c : Case) (path : Bytes) (h : pathUnescapeL (Spec.origRawPath c) = some path) :
    pathUnescapeL (Spec.seenPath c) = some path := seenPath_decodes c path h

/-- **Percent-encoding preserved.**  With a rule that does not decode (`off`, `no_decode`) and does not rewrite the
path, the path of the request line is the client's spelling in which only the octets that may not stand in a path are
encoded — and the client's, byte for byte, when it is a valid encoding. -/
theorem c15_encoding_preserved (c : Case) (tls : Bool) (dial : Bytes) (up : UpReq)
    (h : forward c = .forwarded tls dial up) (hs : c.rule.slashes ≠ .on)
    (hr : ∀ rw, c.rule.rewrite = some rw → rw.strip = [] ∧ rw.add = []) :
    up.path = escapeInvalid (Spec.origRawPath c) ∧
      (validEncodedPath (Spec.origRawPath c) = true → up.path = Spec.origRawPath c) := by
  obtain ⟨_, _, _, hhead, _, _, _, _⟩ := target_path h
  have hne := escapeInvalid_ne_nil _ hhead
  have ha : Spec.addEncoded c = true := by
    unfold Spec.addEncoded Spec.addDecodable Spec.addPrefix
    cases hrw : c.rule.rewrite with
    | none => simp [pathUnescapeL]
    | some rw => simp [(hr rw hrw).2, pathUnescapeL]
  have hp : up.path = escapeInvalid (Spec.origRawPath c) := by
    rw [c15_path_exact c tls dial up h ha]
    unfold Spec.expectedPath Spec.rewrittenPath orSlash
    rw [seenPath_off c hs]
    cases hrw : c.rule.rewrite with
    | none => simp [hne]
    | some rw =>
      obtain ⟨h1, h2⟩ := hr rw hrw
      simp [h1, h2, cutPrefix, hne]
  exact ⟨hp, fun hv => by rw [hp, escapeInvalid_id _ hv]⟩

example : escapeInvalid b!"/a\"%2fb/%7e%41!" = b!"/a%22%2fb/%7e%41!" := by decide +kernel

/-- **An encoded slash stays encoded** unless the rule says `on`: if the original path contains `%2F` or `%2f` and no
prefix is stripped, so does the path the upstream reads — also when the client's spelling contains octets Go does not
accept in a path (raw `"`, `|`, `^`, non-ASCII …). -/
theorem c15_encoded_slash_kept (c : Case) (tls : Bool) (dial : Bytes) (up : UpReq)
    (h : forward c = .forwarded tls dial up) (ha : Spec.addEncoded c = true) (hs : c.rule.slashes ≠ .on)
    (hst : Spec.stripPrefix c = []) (hsl : containsEncodedSlashL (Spec.origRawPath c) = true) :
    containsEncodedSlashL up.path = true := by
  obtain ⟨_, _, hdec, _⟩ := target_path h
  rw [c15_path_exact c tls dial up h ha]
  have hseen : containsEncodedSlashL (Spec.seenPath c) = true := by
    rw [seenPath_off c hs, containsEncodedSlashL_escapeInvalid hdec]
    exact hsl
  have hrew : containsEncodedSlashL (Spec.rewrittenPath c) = true := by
    unfold Spec.rewrittenPath
    unfold Spec.stripPrefix at hst
    cases hrw : c.rule.rewrite with
    | none => exact hseen
    | some rw =>
      rw [hrw] at hst
      apply containsEncodedSlashL_append
      rw [show rw.strip = [] from hst]
      exact hseen
  unfold Spec.expectedPath orSlash
  rw [if_neg fun e => by rw [e] at hrew; cases hrew]
  exact hrew

example : containsEncodedSlashL (Spec.origRawPath
    ⟨[], ⟨.noDecode, b!"up", none⟩, ⟨[], []⟩, ⟨b!"GET", b!"/a\"%2Fb", b!"h", [], [], b!"127.0.0.1", false⟩⟩) = true := by
  decide +kernel

/-! ## Query -/

/-- **Query untouched without `strip_query_parameters`** — byte for byte, malformed pairs included, also when it is
the query of a trusted `X-Forwarded-Uri`. -/
theorem c15_query_untouched (c : Case) (tls : Bool) (dial : Bytes) (up : UpReq)
    (h : forward c = .forwarded tls dial up) (hn : Spec.stripNames c = []) :
    up.query = Spec.origQuery c := by
  rw [target_query h, hn]
  simp [removeParams]

/-- **Exactly the listed parameters are removed.**  The `&`-separated pieces of the forwarded query — empty ones
included — are the pieces of the original query, as written and in their order, without those whose (decoded) name is
listed in `strip_query_parameters`, also when other pieces are malformed; if no piece is left there is no query. -/
theorem c15_query_only_listed_removed (c : Case) (tls : Bool) (dial : Bytes) (up : UpReq)
    (h : forward c = .forwarded tls dial up) :
    if Spec.keptPieces c = [] then up.query = [] else splitOn '&' up.query = Spec.keptPieces c := by
  rw [target_query h]
  exact splitOn_removeParams _ _

/-- **No listed parameter reaches the upstream, in any spelling**, and every other parameter keeps its values and
their order, as `url.ParseQuery` reads the two queries. -/
theorem c15_query_semantics (c : Case) (tls : Bool) (dial : Bytes) (up : UpReq)
    (h : forward c = .forwarded tls dial up) :
    parseQueryPairs up.query =
      (parseQueryPairs (Spec.origQuery c)).filter (fun kv => !(Spec.stripNames c).contains kv.1) := by
  rw [target_query h]
  exact parseQueryPairs_removeParams _ _

example : Spec.named [b!"secret"] b!"se%63ret=1" = true ∧ Spec.named [b!"secret"] b!"%zz=1" = false := by decide +kernel

/-! ## Method and body -/

/-- **Method and body untouched.**  The body is the client's for every request; the method is the client's unless a
trusted proxy supplied `X-Forwarded-Method`. -/
theorem c15_method_body (c : Case) (tls : Bool) (dial : Bytes) (up : UpReq) (h : forward c = .forwarded tls dial up) :
    up.body = c.req.body ∧ up.method = Spec.expectedMethod c ∧
      (Spec.believed c hXFMethod = [] → up.method = c.req.method) := by
  obtain ⟨_, t, _, _, _, _, hup⟩ := forward_forwarded h
  have hm : up.method = Spec.expectedMethod c := congrArg UpReq.method hup
  refine ⟨congrArg UpReq.body hup, hm, fun hb => ?_⟩
  rw [hm]
  unfold Spec.expectedMethod
  rw [hb]; rfl

example : Spec.believed
    ⟨[b!"10.0.0.0/8"], ⟨.off, b!"up", none⟩, ⟨[], []⟩,
     ⟨b!"GET", b!"/", b!"h", [(b!"X-Forwarded-Method", b!"DELETE")], [], b!"127.0.0.1", false⟩⟩ hXFMethod = [] := by
  decide +kernel

/-! ## Headers -/

/-- **Every header name carries exactly what the specification says** (`Spec.expectedValues`): the value computed by
heimdall for `X-Forwarded-Proto` and `-Host` when it continues that family; else what the pipeline produced under that name
(in any casing); else nothing for the seven forwarding headers and for hop-by-hop headers (the standard ones and those
the client lists in `Connection`); else the client's values in their order — each value as the upstream reads it
(`Spec.asRead`: Go writes a value without the blanks and tabs around it, so a value of blanks only is read as the empty
value).  Partial: for names under which the pipeline produced one value at most, and which are not the forwarding header
heimdall continues (`Spec.deviations`). -/
theorem c15_headers_partial (c : Case) (tls : Bool) (dial : Bytes) (up : UpReq)
    (h : forward c = .forwarded tls dial up) (k : Bytes) (vs : List Bytes)
    (he : Spec.expectedValues c k = some vs) (hr : Spec.repeatedPipeName c k = false)
    (hpc : Spec.pipeContinued c k = false) : values up.headers k = Spec.asRead vs := by
  -- branch by branch through `Spec.expectedValues`
  unfold Spec.expectedValues at he
  replace he := ite_eq_cases he
  rcases he with ⟨_, he⟩ | ⟨hg, he⟩
  · cases he -- names the specification leaves alone
  simp only [Bool.or_eq_true, decide_eq_true_eq, not_or] at hg
  obtain ⟨⟨⟨⟨hto, hcn⟩, h1⟩, h2⟩, h3⟩ := hg
  replace he := ite_eq_cases he
  rcases he with ⟨hx, he⟩ | ⟨hxp, he⟩
  · -- `X-Forwarded-Proto` of a continued family
    obtain ⟨hX, rfl⟩ : Spec.xFamily c = true ∧ k = hXFProto := by simpa using hx
    rw [upstream_forwarding h _ xfproto_untrusted, outValues_xfproto c hX, ← Option.some.inj he]
  replace he := ite_eq_cases he
  rcases he with ⟨hx, he⟩ | ⟨hxh, he⟩
  · -- `X-Forwarded-Host` of a continued family
    obtain ⟨hX, rfl⟩ : Spec.xFamily c = true ∧ k = hXFHost := by simpa using hx
    rw [upstream_forwarding h _ xfhost_untrusted, outValues_xfhost c hX, ← Option.some.inj he]
  replace he := ite_eq_cases he
  rcases he with ⟨_, he⟩ | ⟨hck, he⟩
  · cases he -- `Cookie` next to pipeline cookies
  have ho : Ordinary c k := ⟨by simpa using hto, h1, h2, h3, by
    by_cases e : k = hCookie
    · exact Or.inr (by simpa [e] using hck)
    · exact Or.inl e⟩
  -- what the pipeline produced, else what the client sent end to end
  have hsrc : outValues c k = if Spec.pipeValues c k ≠ [] then Spec.pipeValues c k else Spec.endToEnd c k := by
    rw [outValues_of_not_continued c k (not_continued c k hcn hxp hxh)]
    exact oneOr_head _ _ (by simpa [Spec.repeatedPipeName] using hr)
  rw [← hsrc] at he
  replace he := ite_eq_cases he
  rcases he with ⟨rfl, he⟩ | ⟨hua, he⟩
  · -- `User-Agent`
    rw [upstream_userAgent h, ← Option.some.inj he]
    match outValues c hUserAgent with
    | [] => rfl
    | v :: _ => by_cases hv : v = [] <;> simp [uaRead, hv, Spec.asRead, wireValue]
  obtain ⟨g, hv, _, hg⟩ := upstream_values h k ho hua
  rw [hv]
  replace he := ite_eq_cases he
  rcases he with ⟨_, he⟩ | ⟨hae, he⟩
  · -- `Accept-Encoding`
    match hvr : outValues c k, he with
    | [], he => cases he
    | v :: rest, he =>
      replace he := ite_eq_cases he
      rcases he with ⟨_, he⟩ | ⟨hne, he⟩
      · cases he
      · rw [hg (Or.inr (by rw [hvr]; exact hne)), ← Option.some.inj he, List.append_nil]
  · -- every other name
    rw [hg (Or.inl hae), List.append_nil, hsrc]
    replace he := ite_eq_cases he
    rcases he with ⟨hp, he⟩ | ⟨hp, he⟩
    · rw [if_pos hp, ← Option.some.inj he]
    · rw [if_neg hp, ← Option.some.inj he]

/-- **Pipeline headers win.**  If the pipeline produced one header whose canonical name is `k` — in whatever casing,
and whatever the client sent under that name in whatever casing and however often, whether or not the client lists
the name in `Connection` — the upstream reads exactly one line for `k`, carrying the pipeline's value (without
surrounding blanks).  `v` is arbitrary: when the template of a `header` finalizer rendered the **empty** string (or
blanks only) the upstream reads one line with an empty value and none of the client's.  (Not for
`Host`, see `c15_forward_to_host`; `User-Agent` / `Accept-Encoding` see below; not for framing headers, for the
forwarding header heimdall continues, for `Te`/`Connection`/`Upgrade`, and for `Cookie` when the pipeline produced
cookies, which are appended.) -/
theorem c15_pipeline_header_wins (c : Case) (tls : Bool) (dial : Bytes) (up : UpReq)
    (h : forward c = .forwarded tls dial up) (k v : Bytes) (hv : Spec.pipeValues c k = [v])
    (h1 : Spec.transportOwned k = false) (h2 : Spec.continued c k = false)
    (h3 : k ≠ hCookie ∨ c.pipe.cookies = [])
    (h4 : k ≠ hTe ∧ k ≠ hConnection ∧ k ≠ hUpgrade ∧ k ≠ hUserAgent ∧ k ≠ hAcceptEncoding) :
    values up.headers k = [trimOWS v] := by
  obtain ⟨g, hvals, _, hg⟩ := upstream_values h k ⟨h1, h4.1, h4.2.1, h4.2.2.1, h3⟩ h4.2.2.2.1
  rw [hvals, hg (Or.inl h4.2.2.2.2), outValues_of_not_continued c k h2, hv]
  rfl

example : Spec.pipeValues
    ⟨[], ⟨.off, b!"up", none⟩, ⟨[(b!"x-USER", b!"alice")], []⟩,
     ⟨b!"GET", b!"/", b!"h", [(b!"X-uSeR", b!"mallory"), (b!"x-user", b!"eve"), (b!"Connection", b!"x-user")], [],
      b!"127.0.0.1", false⟩⟩
    b!"X-User" = [b!"alice"] := by decide +kernel

set_option maxRecDepth 100000 in
/-- a value of blanks only (what `{{ .Subject.Attributes.role }}` renders for the attribute `" "`) is read as the empty
value, and replaces the client's lines all the same; blanks around a value are not read -/
example : (match forward
    ⟨[], ⟨.off, b!"up", none⟩, ⟨[(b!"x-user-ROLE", b!" \t"), (b!"X-Id", b!" 42 ")], []⟩,
     ⟨b!"GET", b!"/", b!"h", [(b!"X-User-Role", b!"admin"), (b!"x-id", b!"0")], [], b!"127.0.0.1", false⟩⟩ with
    | .forwarded _ _ up => (values up.headers b!"X-User-Role", values up.headers b!"X-Id")
    | _ => ([], [])) = ([[]], [b!"42"]) := by decide +kernel

/-- **The pipeline also wins for `User-Agent` and `Accept-Encoding`**, the two names Go's HTTP client writes itself: a
non-empty value the pipeline produced is the only one the upstream reads. -/
theorem c15_pipeline_wins_library_headers (c : Case) (tls : Bool) (dial : Bytes) (up : UpReq)
    (h : forward c = .forwarded tls dial up) (k v : Bytes) (hk : k = hUserAgent ∨ k = hAcceptEncoding)
    (hv : Spec.pipeValues c k = [v]) (hne : v ≠ []) : values up.headers k = [trimOWS v] := by
  obtain ⟨ho, hnc⟩ := ordinary_of_library c hk
  have hout := outValues_of_not_continued c k hnc
  rw [hv] at hout
  rcases hk with rfl | rfl
  · rw [upstream_userAgent h, hout]
    simp [uaRead, oneOr, hne, wireValue]
  · obtain ⟨g, hvals, _, hg⟩ := upstream_values h hAcceptEncoding ho (by decide)
    rw [hvals, hg (Or.inr (by rw [hout]; exact hne)), hout]
    rfl

/-- **Nothing the client sent survives under a name the pipeline produced** — the property's "every header produced by
the pipeline replaces any same-named header sent by the client" as a safety statement.  If the pipeline produced a
header under the canonical name `k`, with whatever value (the **empty** string a template renders for a subject
without the attribute and values of blanks only included), in whatever casing and however often, then every value the
upstream reads under `k` is one of the values the pipeline produced (as read: without surrounding blanks) — or, for
`Accept-Encoding`, the `gzip` line Go's HTTP client adds itself.  No hypothesis on the client's header lines: same
name in any casing, any number of lines, listed in `Connection` or not.  (`Spec.pipelineOwned` leaves out `Host` and the
framing headers, the forwarding header heimdall continues, `Te`/`Connection`/`Upgrade`, and `Cookie` when the pipeline
produced cookies too.) -/
theorem c15_client_value_replaced (c : Case) (tls : Bool) (dial : Bytes) (up : UpReq)
    (h : forward c = .forwarded tls dial up) (k : Bytes) (hk : Spec.pipelineOwned c k = true) :
    Spec.clientReplaced c up k = true := by
  unfold Spec.pipelineOwned at hk
  simp only [Bool.and_eq_true, Bool.not_eq_true', ne_eq, decide_not, Bool.and_eq_false_iff,
    decide_eq_false_iff_not] at hk
  obtain ⟨⟨⟨⟨⟨⟨hpv, hto⟩, hco⟩, h1⟩, h2⟩, h3⟩, hck⟩ := hk
  have ho : Ordinary c k := ⟨hto, h1, h2, h3, hck.imp id (by simp)⟩
  have hout := outValues_of_not_continued c k hco
  cases hp : Spec.pipeValues c k with
  | nil => exact absurd hp hpv
  | cons v0 rest =>
    rw [hp] at hout
    -- the one line written from the header map carries the pipeline's first value
    have hin : ∀ w ∈ Spec.asRead [v0], ((Spec.asRead (v0 :: rest)).contains w ||
        (decide (k = hAcceptEncoding) && decide (w = b!"gzip"))) = true := fun w hw => by
      rw [List.mem_singleton.mp hw]
      simp [Spec.asRead]
    unfold Spec.clientReplaced
    rw [hp, List.all_eq_true]
    intro w hw
    by_cases hua : k = hUserAgent
    · subst hua
      rw [upstream_userAgent h, hout] at hw
      apply hin
      unfold uaRead oneOr at hw
      split at hw <;> simp_all [Spec.asRead, wireValue]
    · obtain ⟨g, hvals, hgz, _⟩ := upstream_values h k ho hua
      rw [hvals, hout] at hw
      rcases List.mem_append.mp hw with hw | hw
      · exact hin w hw
      · simp [hgz w hw]

example : Spec.pipelineOwned
    ⟨[], ⟨.off, b!"up", none⟩, ⟨[(b!"x-user-ROLE", [])], []⟩,
     ⟨b!"GET", b!"/", b!"h", [(b!"X-User-Role", b!"admin"), (b!"x-user-role", b!"root")], [], b!"127.0.0.1", false⟩⟩
    b!"X-User-Role" = true := by decide +kernel

set_option maxRecDepth 100000 in
/-- a header the pipeline rendered empty replaces the client's lines: the upstream reads the name with an empty value -/
example : (match forward
    ⟨[], ⟨.off, b!"up", none⟩, ⟨[(b!"x-user-ROLE", [])], []⟩,
     ⟨b!"GET", b!"/", b!"h", [(b!"X-User-Role", b!"admin"), (b!"x-user-role", b!"root")], [], b!"127.0.0.1", false⟩⟩ with
    | .forwarded _ _ up => values up.headers b!"X-User-Role"
    | _ => [b!"?"]) = [[]] := by decide +kernel

/-- **`X-Forwarded-Method`, `-Uri`, `-Path` cannot be passed through** — from no peer, trusted or not, in no casing:
the upstream reads these names only with a value the pipeline produced. -/
theorem c15_no_forwarded_passthrough (c : Case) (tls : Bool) (dial : Bytes) (up : UpReq)
    (h : forward c = .forwarded tls dial up) (k : Bytes) (hk : k = hXFMethod ∨ k = hXFUri ∨ k = hXFPath)
    (hp : Spec.pipeValues c k = []) : values up.headers k = [] := by
  have hu : untrustedHeaders.contains k = true := by
    rcases hk with rfl | rfl | rfl
    · exact xfmethod_untrusted
    · exact xfuri_untrusted
    · exact xfpath_untrusted
  rw [upstream_forwarding h k hu, outValues_of_not_continued c k (not_continued_of_dropped c k hk), hp,
    Spec.endToEnd, hu, Bool.or_true, if_pos rfl]
  rfl

/-- **Everything else as the client sent it, hop-by-hop headers excepted.**  A header name that the pipeline did not
produce and that is none of the forwarding headers reaches the upstream with the client's values, all of them, in
order — unless it is hop-by-hop for this request (a standard hop-by-hop name, or listed in the client's `Connection`
header), in which case the upstream does not read it at all. -/
theorem c15_other_headers (c : Case) (tls : Bool) (dial : Bytes) (up : UpReq)
    (h : forward c = .forwarded tls dial up) (k : Bytes) (h1 : Spec.transportOwned k = false)
    (h2 : untrustedHeaders.contains k = false) (h3 : Spec.pipeValues c k = [])
    (h4 : k ≠ hCookie ∨ c.pipe.cookies = [])
    (h5 : k ≠ hTe ∧ k ≠ hConnection ∧ k ≠ hUpgrade ∧ k ≠ hUserAgent ∧ k ≠ hAcceptEncoding) :
    values up.headers k = Spec.asRead (if Spec.hopByHop c k then [] else values (Spec.clientHeaders c) k) := by
  obtain ⟨g, hv, _, hg⟩ := upstream_values h k ⟨h1, h5.1, h5.2.1, h5.2.2.1, h4⟩ h5.2.2.2.1
  rw [hv, hg (Or.inl h5.2.2.2.2), outValues_of_not_continued c k (not_continued_of_not_untrusted c k h2), h3,
    Spec.endToEnd, h2, Bool.or_false, List.append_nil]
  rfl

example : Spec.hopByHop
    ⟨[], ⟨.off, b!"up", none⟩, ⟨[], []⟩,
     ⟨b!"GET", b!"/", b!"h", [(b!"connection", b!"close , x-custom"), (b!"X-Custom", b!"1")], [], b!"127.0.0.1",
      false⟩⟩ b!"X-Custom" = true := by decide +kernel

/-- **`X-Forwarded-For` or `Forwarded` is extended by the peer address.**  If a trusted peer used the `X-Forwarded-*`
family, the upstream reads one `X-Forwarded-For` line whose elements are all elements received from that peer (every
header line, in order) followed by the peer's address.  Otherwise it reads one `Forwarded` line whose elements are all
`Forwarded` elements received from a trusted peer followed by one element with the parameter `for=<peer>`.  What an
untrusted peer sent under these names is not part of either, and a pipeline header of that name does not change it.
Partial: for peer addresses and `Host` values free of `,` `;` `"` and blanks (`Spec.addrSafe`, deviation `devHost`). -/
theorem c15_forwarded_extended_partial (c : Case) (tls : Bool) (dial : Bytes) (up : UpReq)
    (h : forward c = .forwarded tls dial up) (hs : Spec.addrSafe c = true) : Spec.extendedByPeer c up = true := by
  have hs' : (c.req.peer ++ c.req.host).all cleanChar = true := hs
  rw [List.all_append, Bool.and_eq_true] at hs'
  obtain ⟨v, hv, hel⟩ := upstream_continued h
  unfold Spec.extendedByPeer
  rw [hv]
  simp only [hel]
  unfold continuedPrior appendedElem
  -- what heimdall appends is one element
  cases hX : Spec.xFamily c
  · have hproto : elemOK (listenerProto c.req.tls) := by
      unfold listenerProto
      split <;> exact elemOK_of_all _ (by decide)
    obtain ⟨hok, hfor⟩ := forwardedElem_elem _ _ _ hs'.1 (elemOK_of_clean _ hs'.2).1 hproto
    simp only [Bool.false_eq_true, if_false, listElems_single _ hok]
    simpa using hfor
  · simp only [if_true, listElems_single _ (elemOK_of_clean _ hs'.1).1]
    simp

set_option maxRecDepth 100000 in
/-- the deviation `devHost` at a witness: the `Host` of an untrusted client adds an element to `Forwarded`, the last
element no longer names the peer -/
example : Spec.violations
    ⟨[], ⟨.noDecode, b!"up", none⟩, ⟨[], []⟩, ⟨b!"GET", b!"/", b!"a,for=6.6.6.6;x", [], [], b!"127.0.0.1", false⟩⟩
    (forward ⟨[], ⟨.noDecode, b!"up", none⟩, ⟨[], []⟩,
      ⟨b!"GET", b!"/", b!"a,for=6.6.6.6;x", [], [], b!"127.0.0.1", false⟩⟩) = [Spec.devHost] :=
  -- clause names are string literals, which `rfl` compares as literals (`decide` goes through `String`'s `DecidableEq`)
  rfl

/-! ## Which requests are forwarded at all -/

/-- **An encoded slash is refused when the rule says `off`** (the default): `%2F` and `%2f` alike, wherever they
stand in the original path and whatever other octets that path contains, before anything is sent to the upstream. -/
theorem c15_refuses_encoded_slash (c : Case) (h : Spec.mustRefuse c = true) : forward c = .rejected 400 := by
  unfold Spec.mustRefuse at h
  simp only [Bool.and_eq_true, decide_eq_true_eq] at h
  obtain ⟨⟨hw, hoff⟩, hsl⟩ := h
  have hr := ruleTarget_view c hw
  rw [hoff, hsl] at hr
  rw [forward_wellFormed c hw]
  cases ht : ruleTarget c.rule (viewUrl c) with
  | none => rfl
  | some t => rw [ht] at hr; cases hr

example : Spec.mustRefuse
    ⟨[], ⟨.off, b!"up", none⟩, ⟨[], []⟩, ⟨b!"GET", b!"/a|%2fb", b!"h", [], [], b!"127.0.0.1", false⟩⟩ = true := by
  decide +kernel

/-- **Everything else that is well-formed is forwarded**: a request line in origin form whose path can be decoded, no
encoded slash under `off`, scheme `http` or `https`. -/
theorem c15_accepts (c : Case) (h : Spec.mustForward c = true) : ∃ tls dial up, forward c = .forwarded tls dial up := by
  unfold Spec.mustForward at h
  simp only [Bool.and_eq_true, Bool.not_eq_true', Bool.or_eq_true, decide_eq_true_eq] at h
  obtain ⟨⟨hw, hsl⟩, hsch⟩ := h
  have hf := forward_wellFormed c hw
  obtain ⟨t, ht⟩ := Option.isSome_iff_exists.mp (by rw [ruleTarget_view c hw, hsl]; rfl)
  rw [ht] at hf
  have hts := target_scheme c t ht
  have : (t.scheme ≠ b!"http" && t.scheme ≠ b!"https") = false := by
    rw [hts]
    rcases hsch with e | e <;> rw [e] <;> decide
  simp only [this, Bool.false_eq_true, if_false] at hf
  exact ⟨_, _, _, hf⟩

example : Spec.mustForward
    ⟨[], ⟨.noDecode, b!"up", some ⟨b!"https", [], [], []⟩⟩, ⟨[], []⟩,
     ⟨b!"GET", b!"/a%2fb?x=%zz", b!"h", [], [], b!"127.0.0.1", false⟩⟩ = true := by decide +kernel

/-! ## The oracle -/

/-- what a violated clause can be: one of the recorded deviations, and then the case belongs to its input class -/
theorem c15_violated_clause_is_deviation (c : Case) (tls : Bool) (dial : Bytes) (up : UpReq) (hf : forward c = .forwarded tls dial up)
    (cl : Spec.Clause) (hcl : cl ∈ Spec.clauses) (happ : cl.applies c = true) (hnot : cl.holds c up = false) :
    cl.name ∈ Spec.deviations ∧
      ¬ (Spec.pipeSingleValued c = true ∧ Spec.pipeAvoidsContinued c = true ∧ Spec.addrSafe c = true) := by
  -- a clause that is proved for this request cannot be the one that fails
  have no : ∀ {b : Bool}, b = true → b = false → False := fun h h' => by rw [h] at h'; cases h'
  have all : ∀ {p : Bytes → Bool}, (∀ k, p k = true) → (Spec.namesOf c up).all p = true :=
    fun h => List.all_eq_true.mpr fun k _ => h k
  simp only [Spec.clauses, List.mem_cons, List.mem_nil_iff, or_false] at hcl
  -- one case per clause, in the order of `Spec.clauses`
  rcases hcl with e | e | e | e | e | e | e | e | e | e | e | e | e | e <;> subst e <;> dsimp only at happ hnot
  · -- host
    exact (no (decide_eq_true (c15_forward_to_host c tls dial up hf).2) hnot).elim
  · -- path: exact spelling
    exact (no (decide_eq_true (c15_path_exact c tls dial up hf happ)) hnot).elim
  · -- path: decodes once
    have := c15_path_decodes_once c tls dial up hf happ
    exact (no (Bool.and_eq_true _ _ ▸ ⟨decide_eq_true this.1, this.2⟩) hnot).elim
  · -- path: encoded slash kept
    simp only [Bool.and_eq_true, decide_eq_true_eq] at happ
    exact (no (c15_encoded_slash_kept c tls dial up hf happ.1.1.1 happ.1.1.2 happ.1.2 happ.2) hnot).elim
  · -- query: untouched
    exact (no (decide_eq_true (c15_query_untouched c tls dial up hf (by simpa using happ))) hnot).elim
  · -- query: only listed removed
    have := c15_query_only_listed_removed c tls dial up hf
    exact (no (by split at this <;> simp [*]) hnot).elim
  · -- query: as `url.ParseQuery` reads it
    exact (no (decide_eq_true (c15_query_semantics c tls dial up hf)) hnot).elim
  · -- method and body
    have := c15_method_body c tls dial up hf
    exact (no (by simp [this.1, this.2.1]) hnot).elim
  · -- forwarding header extended
    exact (no (c15_forwarded_extended_partial c tls dial up hf happ) hnot).elim
  · -- headers: what the specification expects
    refine (no (all fun k => ?_) hnot).elim
    cases hr : Spec.repeatedPipeName c k
    · cases hp : Spec.pipeContinued c k
      · unfold Spec.headerOK
        cases he : Spec.expectedValues c k with
        | none => rfl
        | some vs => simpa using c15_headers_partial c tls dial up hf k vs he hr hp
      · rfl
    · rfl
  · -- headers: client values replaced
    refine (no (all fun k => ?_) hnot).elim
    cases ho : Spec.pipelineOwned c k
    · rfl
    · exact c15_client_value_replaced c tls dial up hf k ho
  · -- `devRepeated`
    exact ⟨by simp [Spec.deviations], fun ⟨h1, _, _⟩ => no (all fun k => by simp [single_valued c h1 k]) hnot⟩
  · -- `devContinued`
    exact ⟨by simp [Spec.deviations], fun ⟨_, h2, _⟩ => no (all fun k => by simp [avoids_continued c h2 k]) hnot⟩
  · -- `devHost`
    exact ⟨by simp [Spec.deviations], fun ⟨_, _, h3⟩ => by simp [h3] at happ⟩

theorem c15_violations_forwarded (c : Case) (tls : Bool) (dial : Bytes) (up : UpReq)
    (hf : forward c = .forwarded tls dial up) (v : String) (hv : v ∈ Spec.violations c (.forwarded tls dial up)) :
    ∃ cl ∈ Spec.clauses, cl.applies c = true ∧ cl.holds c up = false ∧ cl.name = v := by
  have h0 : Spec.mustRefuse c = false := by
    cases hr : Spec.mustRefuse c
    · rfl
    · rw [c15_refuses_encoded_slash c hr] at hf
      cases hf
  have h1 := (c15_forward_to_host c tls dial up hf).1
  have h2 := c15_scheme c tls dial up hf
  unfold Spec.violations at hv
  simp only [List.mem_append] at hv
  rcases hv with ((hv | hv) | hv) | hv
  · simp [h0] at hv
  · simp [h1] at hv
  · simp [h2] at hv
  · simp only [List.mem_map, List.mem_filter, Bool.and_eq_true, Bool.not_eq_true'] at hv
    obtain ⟨cl, ⟨hcl, happ, hnot⟩, hname⟩ := hv
    exact ⟨cl, hcl, happ, hnot, hname⟩

/-- a refused request never violates a clause -/
theorem c15_violations_rejected (c : Case) (st : Nat) (hf : forward c = .rejected st) :
    Spec.violations c (.rejected st) = [] := by
  unfold Spec.violations
  have h1 : Spec.mustForward c = false := by
    cases hm : Spec.mustForward c
    · rfl
    · obtain ⟨_, _, _, hh⟩ := c15_accepts c hm
      rw [hf] at hh
      cases hh
  by_cases hr : Spec.mustRefuse c = true
  · have := c15_refuses_encoded_slash c hr
    rw [hf] at this
    simp only [Outcome.rejected.injEq] at this
    simp [h1, this]
  · simp [h1, hr]

/-- **The model meets the specification up to the recorded deviations**: for every case, the only clauses of
`Spec.violations` — the very function the check evaluates on what the real upstream test server received — that what
the model forwards or refuses can violate are the three `Spec.deviations`. -/
theorem c15_model_meets_spec_up_to_known_deviations (c : Case) :
    ∀ v ∈ Spec.violations c (forward c), v ∈ Spec.deviations := by
  intro v hv
  cases hf : forward c with
  | unmodelled => rw [hf] at hv; simp [Spec.violations] at hv
  | rejected st => rw [hf, c15_violations_rejected c st hf] at hv; simp at hv
  | forwarded tls dial up =>
    rw [hf] at hv
    obtain ⟨cl, hcl, happ, hnot, hname⟩ := c15_violations_forwarded c tls dial up hf v hv
    rw [← hname]
    exact (c15_violated_clause_is_deviation c tls dial up hf cl hcl happ hnot).1

/-- **Outside the three recorded input classes the model meets every clause**: the pipeline produced at most one value
per name, none under the name of the forwarding header heimdall continues, and peer address and `Host` are free of
list delimiters. -/
theorem c15_model_meets_spec_partial (c : Case) (h1 : Spec.pipeSingleValued c = true)
    (h2 : Spec.pipeAvoidsContinued c = true) (h3 : Spec.addrSafe c = true) :
    Spec.violations c (forward c) = [] := by
  cases hf : forward c with
  | unmodelled => rfl
  | rejected st => exact c15_violations_rejected c st hf
  | forwarded tls dial up =>
    apply List.eq_nil_iff_forall_not_mem.mpr
    intro v hv
    obtain ⟨cl, hcl, happ, hnot, _⟩ := c15_violations_forwarded c tls dial up hf v hv
    exact (c15_violated_clause_is_deviation c tls dial up hf cl hcl happ hnot).2 ⟨h1, h2, h3⟩

set_option maxRecDepth 100000 in
/-- the deviations `devRepeated` and `devContinued` at a witness: the second value the pipeline produced under one name
is dropped; a `Forwarded` header produced by the pipeline is replaced by heimdall's own -/
example : Spec.violations
    ⟨[], ⟨.noDecode, b!"up", none⟩, ⟨[(b!"X-Groups", b!"a"), (b!"x-groups", b!"b"), (b!"Forwarded", b!"for=9.9.9.9")], []⟩,
     ⟨b!"GET", b!"/", b!"h", [], [], b!"127.0.0.1", false⟩⟩
    (forward ⟨[], ⟨.noDecode, b!"up", none⟩,
      ⟨[(b!"X-Groups", b!"a"), (b!"x-groups", b!"b"), (b!"Forwarded", b!"for=9.9.9.9")], []⟩,
      ⟨b!"GET", b!"/", b!"h", [], [], b!"127.0.0.1", false⟩⟩) = [Spec.devRepeated, Spec.devContinued] :=
  rfl -- string literals, as for `devHost`

end Heimdall.Props.C15
