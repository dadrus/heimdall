import HeimdallModel.Gen.PathNormSrc
import HeimdallModel.Lemmas.UrlEscape
/-!
# C08 — `normalizeUnreserved` and its byte-level helpers *as they stand in the source*

`Gen/PathNormSrc.lean` (namespace `Heimdall.PathNorm.Src`) is regenerated on every run of the C08 check by the Go → Lean
translator `extract/go2lean` (`cmd/pathnorm`) from the whole bodies of `isUnreserved`, `unhex` and
`normalizeUnreserved` (`internal/rules/repository_impl.go`, found by name in any non-test file). A Go byte is an `Int`
in 0 … 255, the model (`Base/UrlEscape.lean`, over which `normalizeL` and the C08 theorems are stated) has one `Char`
per byte: byte `n` ↔ `Char.ofNat n`. The theorems about `isUnreserved` and `unhex` are stated for **all 256 bytes**
and proved by evaluation, so every semantics-preserving rewrite of the two functions (a `switch` instead of the chain
of `||`, reordered alternatives, constants by number) keeps proving and every change of a value on some byte does not.
What concerns two hex digits at once follows from these one-byte facts and `unhex c < 16`. The index loop of
`normalizeUnreserved` is then the model's `normalizeL` on every byte string (`c08_src_normalize_loop`,
`c08_src_normalize`), by recursion on the string.
-/
-- the `simp` lists of the loop proofs are wider than the present translation needs: they have to survive
-- re-translations of the Go body
set_option linter.unusedSimpArgs false

namespace Heimdall.Props.C08
open Heimdall

/-- **The tie holds for this run.** -/
theorem c08_src_translated : PathNorm.Src.translationOk = true := by decide

/-- **`isUnreserved` of the source is the model's predicate**, on every byte: exactly `A–Z a–z 0–9 - . _ ~`. -/
theorem c08_src_is_unreserved :
    ∀ n : Nat, n < 256 → PathNorm.Src.isUnreserved (n : Int) = Heimdall.isUnreserved (Char.ofNat n) := by
  decide +kernel

/-- Spelled out: the unreserved bytes are the 66 of RFC 3986, in particular `~` is one and `/`, `%` are not. -/
theorem c08_src_unreserved_set :
    ((List.range 256).filter fun (n : Nat) => PathNorm.Src.isUnreserved (n : Int)) =
      [45, 46] ++ (List.range 10).map (· + 48) ++ (List.range 26).map (· + 65) ++ [95] ++ (List.range 26).map (· + 97)
        ++ [126] := by decide +kernel

/-- **`unhex` of the source is the model's `unhex`** on every hex digit **of either case** and `-1` on every other
byte. -/
theorem c08_src_unhex :
    ∀ n : Nat, n < 256 → PathNorm.Src.unhex (n : Int) =
      if isHex (Char.ofNat n) then (Heimdall.unhex (Char.ofNat n) : Int) else -1 := by decide +kernel

theorem src_unhex_of_isHex {n : Nat} (hn : n < 256) (h : isHex (Char.ofNat n) = true) :
    PathNorm.Src.unhex (n : Int) = (Heimdall.unhex (Char.ofNat n) : Int) := by
  rw [c08_src_unhex n hn, if_pos h]

theorem src_unhex_nonneg_iff {n : Nat} (hn : n < 256) :
    0 ≤ PathNorm.Src.unhex (n : Int) ↔ isHex (Char.ofNat n) = true := by
  rw [c08_src_unhex n hn]
  split <;> simp [*]

/-- both hex cases decode to the same value, digits to themselves -/
theorem c08_src_unhex_cases :
    (∀ k : Nat, k < 10 → PathNorm.Src.unhex ((48 + k : Nat) : Int) = k) ∧
    (∀ k : Nat, k < 6 → PathNorm.Src.unhex ((65 + k : Nat) : Int) = 10 + k ∧
      PathNorm.Src.unhex ((97 + k : Nat) : Int) = 10 + k) := by decide +kernel

/-- An escape `%XY` of an unreserved octet, written in either hex case, denotes that octet: the value
`byte(hi<<4 | lo)` the source computes from the two digits is `16·hi + lo`, and the translated `isUnreserved` accepts
it exactly when the model does; `%2F` / `%2f` (47) and `%25` (37) are not accepted. -/
theorem c08_src_escape_value :
    (∀ a : Nat, a < 256 → 0 ≤ PathNorm.Src.unhex (a : Int) → ∀ b : Nat, b < 256 → 0 ≤ PathNorm.Src.unhex (b : Int) →
      PathNorm.Src.isUnreserved (PathNorm.Src.unhex (a : Int) * 16 + PathNorm.Src.unhex (b : Int))
        = Heimdall.isUnreserved (octet (Char.ofNat a) (Char.ofNat b))) ∧
    PathNorm.Src.isUnreserved (PathNorm.Src.unhex 50 * 16 + PathNorm.Src.unhex 70) = false ∧
    PathNorm.Src.isUnreserved (PathNorm.Src.unhex 50 * 16 + PathNorm.Src.unhex 102) = false ∧
    PathNorm.Src.isUnreserved (PathNorm.Src.unhex 50 * 16 + PathNorm.Src.unhex 53) = false := by
  refine ⟨fun a ha h0a b hb h0b => ?_, by decide +kernel⟩
  -- both digits are the model's values `< 16`, so `hi·16 + lo` is a byte and `c08_src_is_unreserved` applies to it
  rw [src_unhex_of_isHex ha ((src_unhex_nonneg_iff ha).mp h0a), src_unhex_of_isHex hb ((src_unhex_nonneg_iff hb).mp h0b)]
  rw [octet, ← c08_src_is_unreserved _ (unhex_pair_lt _ _)]
  congr 1
  omega

example : (0 : Int) ≤ PathNorm.Src.unhex 52 ∧ (0 : Int) ≤ PathNorm.Src.unhex 101 := by decide

/-- a byte string as the translated functions see it -/
def asInts (l : List Nat) : List Int := l.map Int.ofNat

/-- a byte string as the model sees it (one `Char` per byte) -/
def asChars (l : List Nat) : List Char := l.map Char.ofNat

/-- the model's result read back as bytes -/
def ofChars (l : List Char) : List Int := l.map fun c => (c.toNat : Int)

theorem byte_is_percent {n : Nat} (hn : n < 256) : Char.ofNat n = '%' ↔ (n : Int) = 37 := by
  constructor
  · intro h
    have := congrArg Char.toNat h
    rw [toNat_ofNat_of_lt hn] at this
    exact congrArg Int.ofNat this
  · intro h
    rw [Int.ofNat_inj.mp h]

/-- `byte(hi<<4 | lo)` of two hex digits is the octet the model computes -/
theorem byte_octet {m n : Nat} (hm : m < 256) (hM : isHex (Char.ofNat m) = true) (hn : n < 256)
    (hN : isHex (Char.ofNat n) = true) :
    (((PathNorm.Src.unhex (m : Int) * 16).toNat ||| (PathNorm.Src.unhex (n : Int)).toNat : Nat) : Int) % 256
      = ((octet (Char.ofNat m) (Char.ofNat n)).toNat : Int) := by
  have e : ((Heimdall.unhex (Char.ofNat m) : Int) * 16).toNat = 2 ^ 4 * Heimdall.unhex (Char.ofNat m) := by
    rw [Nat.mul_comm]; exact Int.toNat_natCast (_ * 16)
  rw [src_unhex_of_isHex hm hM, src_unhex_of_isHex hn hN, e, Int.toNat_natCast,
    ← Nat.two_pow_add_eq_or_of_lt (unhex_lt _), octet_toNat]
  exact congrArg Int.ofNat (Nat.mod_eq_of_lt (unhex_pair_lt _ _))

/-- **The index loop at index `i` with the bytes `l` still to come writes what the model's `normalizeL` makes of
`l`**, for every byte string and every `i`. -/
theorem c08_src_normalize_loop : ∀ l : List Nat, (∀ n ∈ l, n < 256) → ∀ i : Int,
    PathNorm.Src.normalizeUnreserved_loop i (asInts l) = ofChars (normalizeL (asChars l))
  | [], _, i => by simp [PathNorm.Src.normalizeUnreserved_loop, asInts, asChars, ofChars, normalizeL]
  | [c], hb, i => by
    have hc := toNat_ofNat_of_lt (hb c (by simp))
    simp [PathNorm.Src.normalizeUnreserved_loop, asInts, asChars, ofChars, normalizeL, hc]
  | [c, a], hb, i => by
    have hc := toNat_ofNat_of_lt (hb c (by simp))
    have ha := toNat_ofNat_of_lt (hb a (by simp))
    simp [PathNorm.Src.normalizeUnreserved_loop, asInts, asChars, ofChars, normalizeL, hc, ha]
  | c :: a :: b :: rest, hb, i => by
    obtain ⟨hcb, hb1⟩ := List.forall_mem_cons.mp hb
    obtain ⟨hab, hb2⟩ := List.forall_mem_cons.mp hb1
    obtain ⟨hbb, hb3⟩ := List.forall_mem_cons.mp hb2
    have hc := toNat_ofNat_of_lt hcb
    have ih1 := c08_src_normalize_loop (a :: b :: rest) hb1 (i + 1)
    have ih2 := c08_src_normalize_loop rest hb3 (i + 2 + 1)
    have hp' := byte_is_percent hcb
    have hha' := src_unhex_nonneg_iff hab
    have hhb' := src_unhex_nonneg_iff hbb
    change PathNorm.Src.normalizeUnreserved_loop _ ((a : Int) :: (b : Int) :: asInts rest) =
      ofChars (normalizeL (_ :: _ :: asChars rest)) at ih1
    change PathNorm.Src.normalizeUnreserved_loop _ ((c : Int) :: (a : Int) :: (b : Int) :: asInts rest) =
      ofChars (normalizeL (_ :: _ :: _ :: asChars rest))
    unfold PathNorm.Src.normalizeUnreserved_loop
    have hlen : i + 2 < i + ((((a : Int) :: (b : Int) :: asInts rest).length : Int) + 1) := by
      simp only [List.length_cons]; omega
    by_cases hpc : (c : Int) = 37
    · have hcp : Char.ofNat c = '%' := hp'.mpr hpc
      have h2 : (2 : Int) < ↑(asInts rest).length + 1 + 1 + 1 := by omega
      by_cases hAB : isHex (Char.ofNat a) = true ∧ isHex (Char.ofNat b) = true
      case neg =>
        have hsrc : ¬ (0 ≤ PathNorm.Src.unhex (a : Int) ∧ 0 ≤ PathNorm.Src.unhex (b : Int)) := by rwa [hha', hhb']
        have hmod : (isHex (Char.ofNat a) && isHex (Char.ofNat b)) = false := by
          rw [← Bool.not_eq_true, Bool.and_eq_true]; exact hAB
        simp [normalizeL, hcp, hpc, hmod, hsrc, ih1, ofChars, h2]
      case pos =>
        obtain ⟨hA, hB⟩ := hAB
        simp only [hA, hB] at hha' hhb'
        have ho := byte_octet hab hA hbb hB
        have hu := c08_src_is_unreserved _ (octet_lt (Char.ofNat a) (Char.ofNat b))
        rw [Char.ofNat_toNat] at hu
        simp only [normalizeL, hcp, hpc, hA, hB, hha', hhb', ih1, ih2, ofChars, h2, ho, hu, hlen, List.getD_cons_zero,
          List.getD_cons_succ, List.drop_succ_cons, List.drop_zero, ge_iff_le, and_self, if_true, true_and, Bool.and_true,
          Bool.true_and, decide_true]
        split <;> simp
    · have hcp : ¬ Char.ofNat c = '%' := fun h => hpc (hp'.mp h)
      simp [normalizeL, hcp, hpc, ih1, ofChars, hc]

theorem ofChars_asChars (l : List Nat) (hb : ∀ n ∈ l, n < 256) : ofChars (asChars l) = asInts l := by
  induction l with
  | nil => rfl
  | cons c t ih =>
    have hc := toNat_ofNat_of_lt (hb c (by simp))
    have := ih (fun n hn => hb n (List.mem_cons_of_mem _ hn))
    simp [ofChars, asChars, asInts, hc] at this ⊢
    exact this

/-- **`normalizeUnreserved` of the source is the model's normalisation**, for ALL byte strings: the translated
function on the bytes `l` returns the bytes of `normalizeL` on the same string (`Base/UrlEscape.lean`; the C08 theorems
of `Props/C08.lean` are stated over it). Byte `n` ↔ `Char.ofNat n`. -/
theorem c08_src_normalize (l : List Nat) (hb : ∀ n ∈ l, n < 256) :
    PathNorm.Src.normalizeUnreserved (asInts l) = ofChars (normalizeL (asChars l)) := by
  unfold PathNorm.Src.normalizeUnreserved
  split
  · next hno =>
    have hall : ∀ c ∈ asChars l, c ≠ '%' := List.forall_mem_map.mpr fun n hn heq =>
      hno (List.contains_iff_mem.mpr (List.mem_map.mpr ⟨n, hn, (byte_is_percent (hb n hn)).mp heq⟩))
    rw [normalizeL_no_percent _ hall, ofChars_asChars l hb]
  · exact c08_src_normalize_loop l hb 0

example : ∀ n ∈ [47, 37, 55, 101], n < 256 := by decide

/-- A string without `%` is returned as it is (directly on the translated function, any list). -/
theorem c08_src_normalize_no_percent (s : List Int) (h : s.contains 37 = false) :
    PathNorm.Src.normalizeUnreserved s = s := by
  unfold PathNorm.Src.normalizeUnreserved
  have hm : 37 ∉ s := by
    intro hm
    have : s.contains 37 = true := List.contains_iff_mem.mpr hm
    rw [h] at this
    cases this
  simp [hm]

example : ([47, 97] : List Int).contains 37 = false := by decide

/-- **An escape of an unreserved octet is decoded in either hex case also when it is the last three bytes of the
string** (the loop at any index `i` with exactly `%XY` left), and an escape of a reserved octet — `%2F`, `%2f`, `%25`,
… — is written back byte for byte, wherever it stands. -/
theorem c08_src_escape_at_end_and_reserved (i : Int) (a b : Nat) (ha : a < 256) (hb : b < 256)
    (hA : isHex (Char.ofNat a) = true) (hB : isHex (Char.ofNat b) = true) (rest : List Nat) (hr : ∀ n ∈ rest, n < 256) :
    (isUnreserved (octet (Char.ofNat a) (Char.ofNat b)) = true →
      PathNorm.Src.normalizeUnreserved_loop i [37, (a : Int), (b : Int)]
        = [((octet (Char.ofNat a) (Char.ofNat b)).toNat : Int)]) ∧
    (isUnreserved (octet (Char.ofNat a) (Char.ofNat b)) = false →
      PathNorm.Src.normalizeUnreserved_loop i (asInts (37 :: a :: b :: rest))
        = 37 :: (a : Int) :: (b : Int) :: ofChars (normalizeL (asChars rest))) := by
  have key : ∀ rest : List Nat, (∀ n ∈ rest, n < 256) →
      PathNorm.Src.normalizeUnreserved_loop i (asInts (37 :: a :: b :: rest)) =
        ofChars (normalizeL ('%' :: Char.ofNat a :: Char.ofNat b :: asChars rest)) := fun rest hr =>
    c08_src_normalize_loop (37 :: a :: b :: rest)
      (List.forall_mem_cons.mpr ⟨by decide, List.forall_mem_cons.mpr ⟨ha, List.forall_mem_cons.mpr ⟨hb, hr⟩⟩⟩) i
  have ca := toNat_ofNat_of_lt ha
  have cb := toNat_ofNat_of_lt hb
  constructor
  · intro hu
    have h0 := key [] (fun _ h => nomatch h)
    rw [normalizeL_esc _ _ hA hB] at h0
    simpa [hu, ofChars, normalizeL, asInts, asChars] using h0
  · intro hu
    have h1 := key rest hr
    rw [normalizeL_esc _ _ hA hB] at h1
    simpa [hu, ofChars, ca, cb] using h1

example : isHex (Char.ofNat 55) = true ∧ isHex (Char.ofNat 101) = true ∧
    isUnreserved (octet (Char.ofNat 55) (Char.ofNat 101)) = true ∧
    isUnreserved (octet (Char.ofNat 50) (Char.ofNat 102)) = false := by decide

end Heimdall.Props.C08
