import HeimdallModel.Model.ProvidersSrc
/-!
# C18 — the decision kernels of the http_endpoint and file_system providers *as they stand in the source* are those of the C18 model

`Gen/ProvidersSrc.lean` is regenerated on every run by the Go → Lean translator `extract/go2lean` (`cmd/providers`) from
the whole bodies of `(*provider).ruleSetsUpdated` (http_endpoint) and of `(*Provider).ruleSetCreatedOrUpdated` and
`ruleSetDeleted` (file_system). For **every** state (book of remembered digests, active rule sets), every fetched rule
set (empty or with any digest) resp. every state of the file, and every set of sources the processor refuses, the
translated function makes exactly the processor call the model's `httpUpdated` / `fsCreatedOrUpdated` / `fsDeleted` makes
(created for an unknown source with rules, updated only for a different digest, deleted for a known source without
rules, none otherwise), reports an error iff the model does, and changes the remembered digest **only after the
processor accepted** - so the convergence theorems of `Props/C18.lean`, stated over `httpStep` and `fsStep`, speak about
the branches of the current source.

The proof scripts have to go through when the source is rewritten and translated anew: they split on what the kernel
can look at (refused or not, remembered digest, rule set) and hand `simp` the whole vocabulary of the translated
kernels, whichever branch uses which part of it; hence the linter for unused `simp` arguments is off.
-/
set_option linter.unusedSimpArgs false

namespace Heimdall.Props.C18
open Heimdall Heimdall.Prov Heimdall.Prov.SrcTie

variable {σ : Type} [DecidableEq σ]

/-- **The tie holds for this run:** `Gen/ProvidersSrc.lean` is the result of translating the current source. -/
theorem c18_src_translated : Src.translationOk = true := by decide

/-- **`ruleSetsUpdated` is `httpUpdated`**: same state afterwards (book and active rule sets), same processor calls
with the same answers, an error iff the model reports one. -/
theorem c18_src_http_updated (rej : List σ) (st : St σ) (id : σ) (rs : Option Hash) :
    httpSrc rej id rs (st, []) =
      .done (if (httpUpdated rej st id rs).err then some () else none)
        ((httpUpdated rej st id rs).st, (httpUpdated rej st id rs).calls) := by
  unfold httpSrc Src.HttpEndpoint.ruleSetsUpdated httpUpdated
  by_cases hr : id ∈ rej <;> rcases hb : st.book.get id with _ | h' <;> rcases rs with _ | h <;>
    simp [Go.bind, Go.pure, Go.cond_app, hb, hr, Out.quiet, emit, processor, Call.src]
  -- left: a known endpoint and a rule set with rules, with the same digest or another one
  all_goals
    have hbeq : (h' == h) = decide (h' = h) := by by_cases he : h' = h <;> simp [he]
    by_cases he : h' = h <;> simp [he, hbeq]

/-- **The remembered digest changes only after the processor accepted**: when the processor refuses the endpoint's
source the book is what it was. -/
theorem c18_src_refused_keeps_book (rej : List σ) (st : St σ) (id : σ) (rs : Option Hash) (h : id ∈ rej) :
    (httpUpdated rej st id rs).st = st ∧
      httpSrc rej id rs (st, []) =
        .done (if (httpUpdated rej st id rs).err then some () else none) (st, (httpUpdated rej st id rs).calls) := by
  have hst : (httpUpdated rej st id rs).st = st := by
    unfold httpUpdated emit
    cases st.book.get id with
    | none => cases rs <;> simp [Out.quiet, Call.src, h]
    | some h' =>
      cases rs with
      | none => simp [Out.quiet, Call.src, h]
      | some h2 => by_cases he : h' = h2 <;> simp [Out.quiet, Call.src, h, he]
  refine ⟨hst, ?_⟩
  rw [c18_src_http_updated, hst]

/-- **An unchanged rule set causes no call**: same digest as remembered, nothing is reported and nothing changes. -/
theorem c18_src_unchanged_is_silent (rej : List σ) (st : St σ) (id : σ) (h : Hash) (hb : st.book.get id = some h) :
    httpSrc rej id (some h) (st, []) = .done none (st, []) := by
  rw [c18_src_http_updated]
  simp [httpUpdated, hb, Out.quiet]

/-- the theorems are not vacuous: an endpoint known with digest 1 that now serves digest 2 is reported as updated and
the book moves to 2; refused, the book stays at 1 (evaluated on the translated function) -/
example :
    let st : St Nat := ⟨[(7, 1)], [(7, 1)]⟩
    httpSrc [] 7 (some 2) (st, []) = .done none (⟨[(7, 2)], [(7, 2)]⟩, [(.updated 7 2, true)]) ∧
      httpSrc [7] 7 (some 2) (st, []) = .done (some ()) (st, [(.updated 7 2, false)]) ∧
      httpSrc [] 7 none (st, []) = .done none (⟨[], []⟩, [(.deleted 7, true)]) := by
  exact ⟨rfl, rfl, rfl⟩

/-! ## file_system -/

/-- **`ruleSetDeleted` of the file_system provider is `fsDeleted`**: a file the provider never loaded causes no call; a
loaded one is reported as deleted and forgotten only after the processor accepted. -/
theorem c18_src_fs_deleted (rej : List σ) (st : St σ) (name : σ) :
    fsDeletedSrc rej name (st, []) =
      .done (if (fsDeleted rej st name).err then some FileState.invalid else none)
        ((fsDeleted rej st name).st, (fsDeleted rej st name).calls) := by
  unfold fsDeletedSrc Src.FileSystem.ruleSetDeleted fsDeleted
  by_cases hr : name ∈ rej <;> cases hb : st.book.get name <;>
    simp [Go.bind, Go.pure, Go.map, Go.Res.map, Go.cond_app, hb, hr, Out.quiet, emit, processor, Call.src]

/-- **`ruleSetCreatedOrUpdated` of the file_system provider is `fsCreatedOrUpdated`**, for every state, every state of
the file (valid with any digest, empty, missing, unreadable) and every refusing processor: created for a file not
loaded before (or remembered with the empty digest), updated only for a different digest, handed to `ruleSetDeleted`
when the file is gone or empty, an error and no call for an unreadable file; the digest is remembered only after the
processor accepted. -/
theorem c18_src_fs_created_or_updated (rej : List σ) (st : St σ) (name : σ) (file : FileState) :
    fsChangedSrc rej name file (st, []) =
      .done (if (fsCreatedOrUpdated rej st name file).err then some FileState.invalid else none)
        ((fsCreatedOrUpdated rej st name file).st, (fsCreatedOrUpdated rej st name file).calls) := by
  cases file with
  | valid h =>
    unfold fsChangedSrc Src.FileSystemChanged.ruleSetCreatedOrUpdated fsCreatedOrUpdated
    by_cases hr : name ∈ rej <;> rcases hb : st.book.get name with _ | h' <;>
      simp [Go.bind, Go.pure, Go.map, Go.Res.map, Go.cond_app, loadOf, digestLen, hb, hr, Out.quiet, emit, processor,
        Call.src]
    -- left: a file loaded before, remembered with the empty digest, the same digest or another one
    all_goals
      have hbeq : (h' == h) = decide (h' = h) := by by_cases he : h' = h <;> simp [he]
      by_cases he : h' = h
      · subst he; by_cases h0 : h' = 0 <;> simp [h0]
      · by_cases h0 : h' = 0 <;> simp [h0, he, hbeq]
  | _ =>
    simp [fsChangedSrc, Src.FileSystemChanged.ruleSetCreatedOrUpdated, fsCreatedOrUpdated, loadOf, Go.bind, Go.pure,
      Go.cond_app, Bool.cond_eq_ite, c18_src_fs_deleted, Out.failed] <;> rfl

end Heimdall.Props.C18
