import HeimdallModel.Lemmas.Factory
import HeimdallModel.Lemmas.FactoryOverride
import HeimdallModel.Lemmas.FactoryProbe
import HeimdallModel.Lemmas.FactoryCel
import HeimdallModel.Model.FactoryCel
/-!
# C14 — effective pipelines follow stage-wise inheritance; malformed rules are rejected

Theorems about the rule factory model (`Model/Factory.lean`: `NewRuleFactory`, `createExecutePipeline`,
`createOnErrorPipeline`, `CreateRule` and the rule set validation in front of it; tied to
`internal/rules/rule_factory_impl.go` by the correspondence check of the `factory` family, which runs the very
function `Factory.load` these theorems are about).

All statements hold for every mechanism catalogue, both operation modes, every default rule (absent, partial,
complete, malformed) and every rule definition — lists of any length, any mix of keys, conditions and overrides.
The specification they refer to (`own`, `inherit`, `Ordered`, `WellFormed`, `Spec.effective`) is in
`Spec/Inheritance.lean`.  The later sections are about rule-level overrides as typed values
(`Model/FactoryOverride.lean`), about unknown references, conditions and expressions, and about which mechanism an error names.
-/
namespace Heimdall.Props.C14
open Heimdall.Factory

/-- a catalogue with two authenticators, an authorizer, a contextualizer, a finalizer and two error handlers;
override tag 1 is acceptable for `z1` only -/
def cat₀ : Catalogue := fun k id =>
  match k, id with
  | .authn, "g1" => some [0]
  | .authn, "anon" => some [0]
  | .authz, "z1" => some [0, 1]
  | .ctx, "c1" => some [0]
  | .fin, "f1" => some [0]
  | .eh, "e1" => some [0]
  | .eh, "e2" => some [0]
  | _, _ => none

/-- a complete default rule with backtracking switched on -/
def dflt₀ : DefaultRule :=
  { backtracking := true
    execute := [{ authenticator := some "anon" }, { authorizer := some "z1" }, { finalizer := some "f1" }]
    onError := [{ errorHandler := some "e1" }] }

/-- a rule that names nothing but one *conditional* contextualizer -/
def rule₀ : RuleDef := { execute := [{ contextualizer := some "c1", cond := .expr "c" (some .bool) }] }

/-- **The loader implements the specification.**  A configuration and a rule are accepted exactly when the default
rule (if any) and the rule are well-formed, and then the factory state and the effective rule are the ones the
property prescribes: per stage the own mechanisms if there is at least one, otherwise the default rule's; the own
backtracking setting, otherwise the default rule's, otherwise off. -/
theorem c14_accepted_iff (cat : Catalogue) (proxy validated : Bool) (d : Option DefaultRule) (r : RuleDef)
    (f : Factory) (e : Effective) :
    load cat proxy validated d r = .accepted f e ↔
      ConfigWellFormed cat d ∧ WellFormed cat proxy validated d r ∧ f = Spec.factory proxy d ∧ e = Spec.effective d r := by
  rw [← configOk_iff, ← ruleOk_iff]
  rcases load_cases cat proxy validated d r with ⟨hc, hw, h⟩ | ⟨_, hw, _, h⟩ | ⟨hc, _, h⟩
  · simp only [h, hc, hw, Outcome.accepted.injEq, true_and, eq_comm]
  · simp [h, hw]
  · simp [h, hc]

example : load cat₀ false true (some dflt₀) rule₀ =
    .accepted (Spec.factory false (some dflt₀)) (Spec.effective (some dflt₀) rule₀) := by decide +kernel

/-- **Stage-wise inheritance.**  Every stage of an accepted rule consists of the rule's own mechanisms of that
stage if it names at least one, otherwise of the default rule's (nothing, when there is no default rule). -/
theorem c14_effective_stages {cat : Catalogue} {proxy validated : Bool} {d : Option DefaultRule} {r : RuleDef}
    {f : Factory} {e : Effective} (h : load cat proxy validated d r = .accepted f e) (st : Stage) :
    e.stage st = inherit (own st r.execute r.onError) (ownDefault st d) := by
  obtain ⟨_, _, _, rfl⟩ := (c14_accepted_iff cat proxy validated d r f e).mp h
  cases st <;> rfl

/-- the four stages of the example: authentication, finalization and error handling come from the default rule,
the authorization/contextualization stage is the rule's own -/
example : (Spec.effective (some dflt₀) rule₀).authn = [⟨.authn, "anon", false, none⟩] ∧
    (Spec.effective (some dflt₀) rule₀).sh = [⟨.ctx, "c1", true, none⟩] ∧
    (Spec.effective (some dflt₀) rule₀).fin = [⟨.fin, "f1", false, none⟩] ∧
    (Spec.effective (some dflt₀) rule₀).eh = [⟨.eh, "e1", false, none⟩] := by decide +kernel

/-- **A conditional step defines its stage.**  As soon as `execute` contains a step of a stage — even one guarded
by an `if` that may never hold — the default rule contributes nothing to that stage. -/
theorem c14_conditional_step_defines_stage {cat : Catalogue} {proxy validated : Bool} {d : Option DefaultRule}
    {r : RuleDef} {f : Factory} {e : Effective} (h : load cat proxy validated d r = .accepted f e)
    (s : Step) (hs : s ∈ r.execute) (st : Stage) (hst : s.stage = some st) :
    e.stage st = own st r.execute r.onError := by
  rw [c14_effective_stages h st]
  exact if_pos (own_ne_nil_of_stage hs hst)

example : rule₀.execute.head?.bind Step.stage = some .handling ∧
    (rule₀.execute.all fun s => s.cond == .expr "c" (some .bool)) = true := by decide +kernel

/-- **Backtracking inheritance.**  The effective setting is the rule's own if given, otherwise the default
rule's, otherwise off — whether or not a default rule is configured. -/
theorem c14_backtracking {cat : Catalogue} {proxy validated : Bool} {d : Option DefaultRule} {r : RuleDef}
    {f : Factory} {e : Effective} (h : load cat proxy validated d r = .accepted f e) :
    e.backtracking = r.backtracking.getD ((d.map (·.backtracking)).getD false) := by
  obtain ⟨_, _, _, rfl⟩ := (c14_accepted_iff cat proxy validated d r f e).mp h
  rfl

/-- a rule that switches backtracking on where no default rule is configured (the combination the code used to
get wrong) -/
def rule₁ : RuleDef := { backtracking := some true, execute := [{ authenticator := some "g1" }] }

/-- "no default rule, own setting on"; "inherited from the default rule"; "nothing given anywhere" -/
example : load cat₀ false true none rule₁ = .accepted (Spec.factory false none) (Spec.effective none rule₁) ∧
    (Spec.effective none rule₁).backtracking = true ∧
    (Spec.effective (some dflt₀) rule₀).backtracking = true ∧
    (Spec.effective none { rule₁ with backtracking := none }).backtracking = false := by decide +kernel

/-- **Rejection is exactly malformedness.**  With a loadable configuration, a rule is refused if and only if it
is not well-formed, i.e. iff `execute` is missing, or is not ordered authenticators – authorizers/contextualizers
– finalizers (or contains a step that is none of these), or a step references a mechanism the catalogue does not
know, carries an override its mechanism refuses or an unusable condition, or `on_error` has such a step, or proxy
mode lacks `forward_to`, or neither the rule nor the default rule provides an authenticator. -/
theorem c14_rejected_iff (cat : Catalogue) (proxy validated : Bool) (d : Option DefaultRule) (r : RuleDef)
    (hc : ConfigWellFormed cat d) :
    (∃ why, load cat proxy validated d r = .ruleRejected why) ↔ ¬ WellFormed cat proxy validated d r := by
  rw [← configOk_iff] at hc
  rw [← ruleOk_iff]
  rcases load_cases cat proxy validated d r with ⟨_, hw, h⟩ | ⟨_, hw, _, h⟩ | ⟨hc', _⟩
  · simp [h, hw]
  · simp [h, hw]
  · rw [hc] at hc'; cases hc'

example : ConfigWellFormed cat₀ (some dflt₀) := (configOk_iff cat₀ (some dflt₀)).mp (by decide +kernel)

/-- **The malformed rules of the property are rejected.**  Each of the five defects the property lists makes the
loader refuse the rule (the configuration being loadable): wrong order, no authenticator in the end, unknown
mechanism, bad override, proxy mode without `forward_to` — and so do an unusable step of `on_error` and an `if` that is
not a boolean expression. -/
theorem c14_malformed_rejected (cat : Catalogue) (proxy validated : Bool) (d : Option DefaultRule) (r : RuleDef)
    (hc : ConfigWellFormed cat d)
    (h : ¬ Ordered r.execute ∨
      inherit (own .authentication r.execute r.onError) (ownDefault .authentication d) = [] ∨
      (∃ s ∈ r.execute, s.known cat = false) ∨
      (∃ s ∈ r.execute, s.overrideOk cat = false) ∨
      (∃ s ∈ r.onError, s.ehOk cat = false) ∨
      (proxy = true ∧ r.forwardTo = false) ∨
      (∃ s ∈ r.execute, s.condOk = false)) :
    ∃ why, load cat proxy validated d r = .ruleRejected why := by
  rw [c14_rejected_iff cat proxy validated d r hc]
  intro hw
  rcases h with h | h | ⟨s, hs, h⟩ | ⟨s, hs, h⟩ | ⟨s, hs, h⟩ | ⟨hp, h⟩ | ⟨s, hs, h⟩
  · exact h hw.ordered
  · exact hw.authenticator h
  · simp [hw.known s hs] at h
  · simp [hw.overrides s hs] at h
  · simp [hw.handlers s hs] at h
  · simp [hw.forward hp] at h
  · simp [hw.conds s hs] at h

/-- one witness per defect, all of them rejected by the model: finalizer before authorizer; authenticator after an
authorizer; no authenticator and no default rule; unknown mechanism; refused override (tag 1 on `f1`); unknown
error handler; proxy mode without `forward_to` -/
example :
    ¬ Ordered [({ finalizer := some "f1" } : Step), { authorizer := some "z1" }] ∧
    load cat₀ false true none
      { execute := [{ authenticator := some "g1" }, { finalizer := some "f1" }, { authorizer := some "z1" }] }
      = .ruleRejected .handlerAfterFinalizer ∧
    load cat₀ false true none { execute := [{ authorizer := some "z1" }, { authenticator := some "g1" }] }
      = .ruleRejected .authenticatorAfterOther ∧
    load cat₀ false true none { execute := [{ authorizer := some "z1" }] } = .ruleRejected .noAuthenticator ∧
    load cat₀ false true none { execute := [{ authenticator := some "nope" }] } = .ruleRejected .unknownMechanism ∧
    load cat₀ false true none
      { execute := [{ authenticator := some "g1" }, { finalizer := some "f1", config := some 1 }] }
      = .ruleRejected .badOverride ∧
    load cat₀ false true none
      { execute := [{ authenticator := some "g1" }], onError := [{ errorHandler := some "e9" }] }
      = .ruleRejected .unknownMechanism ∧
    load cat₀ true true none { execute := [{ authenticator := some "g1" }] } = .ruleRejected .noForwardTo := by
  refine ⟨?_, by decide +kernel⟩
  rw [← ordered_iff]; decide +kernel

/-- **A configuration is refused exactly when its default rule is malformed**: lists that are not well-formed,
repeated entries, or no authenticator.  Without a default rule every configuration loads. -/
theorem c14_config_rejected_iff (cat : Catalogue) (proxy validated : Bool) (d : Option DefaultRule) (r : RuleDef) :
    (∃ why, load cat proxy validated d r = .configRejected why) ↔ ¬ ConfigWellFormed cat d := by
  rw [← configOk_iff]
  rcases load_cases cat proxy validated d r with ⟨hc, _, h⟩ | ⟨hc, _, _, h⟩ | ⟨hc, _, h⟩ <;> simp [h, hc]

example : load cat₀ false true (some { execute := [{ authorizer := some "z1" }] }) rule₀
    = .configRejected .noAuthenticator := by decide +kernel

/-- **The executable specification is the loader.**  `Spec.load` — the oracle the correspondence check runs next
to the model — gives the same verdict and the same effective rule as `load` on every input. -/
theorem c14_spec_oracle (cat : Catalogue) (proxy validated : Bool) (d : Option DefaultRule) (r : RuleDef) :
    Spec.load cat proxy validated d r =
      match load cat proxy validated d r with
      | .configRejected _ => none
      | .ruleRejected _ => some none
      | .accepted f e => some (some (f, e)) := by
  rcases load_cases cat proxy validated d r with ⟨hc, hw, h⟩ | ⟨hc, hw, _, h⟩ | ⟨hc, _, h⟩
  · simp [Spec.load, h, hc, hw]
  · simp [Spec.load, h, hc, hw]
  · simp [Spec.load, h, hc]

/-- **A stage without own mechanisms is inherited**, however the rule spells that: if the rule names no mechanism
of stage `st` (key absent, `null`, empty list, or only steps of other stages), the stage is the default rule's. -/
theorem c14_empty_stage_inherits {cat : Catalogue} {proxy validated : Bool} {d : Option DefaultRule} {r : RuleDef}
    {f : Factory} {e : Effective} (h : load cat proxy validated d r = .accepted f e) (st : Stage)
    (hown : own st r.execute r.onError = []) :
    e.stage st = ownDefault st d := by
  rw [c14_effective_stages h st, hown]; rfl

/-- a rule with an explicitly empty `on_error` list under the complete default rule: the error handling stage is
the default rule's; a rule without `execute` coming from a kubernetes resource (no rule set validation) inherits
all four stages -/
example : own .errorHandling rule₀.execute (Listed.items []).steps = [] ∧
    (Spec.effective (some dflt₀) { rule₀ with onError := (Listed.items []).steps }).eh = [⟨.eh, "e1", false, none⟩] ∧
    load cat₀ false false (some dflt₀) {} = .accepted (Spec.factory false (some dflt₀)) (Spec.effective (some dflt₀) {}) ∧
    (Spec.effective (some dflt₀) {}).toPipelines = (Spec.factory false (some dflt₀)).dflt.getD {} ∧
    load cat₀ false true (some dflt₀) {} = .ruleRejected .emptyExecute := by decide +kernel

/-- **The spelling of a list is irrelevant.**  An absent key, `null` and an explicitly empty list decode to the same
rule, for `execute` and for `on_error`; and rule set documents that decode to the same rules load alike. -/
theorem c14_spelling_irrelevant (cat : Catalogue) (proxy validated : Bool) (d : Option RawDefault)
    (r : RawRule) (rs₁ rs₂ : List RawRule) :
    ({ r with onError := .items [] }).decode = ({ r with onError := .absent }).decode ∧
    ({ r with onError := .null }).decode = ({ r with onError := .absent }).decode ∧
    ({ r with execute := .items [] }).decode = ({ r with execute := .absent }).decode ∧
    ({ r with execute := .null }).decode = ({ r with execute := .absent }).decode ∧
    (rs₁.map RawRule.decode = rs₂.map RawRule.decode →
      loadDocuments cat proxy validated d rs₁ = loadDocuments cat proxy validated d rs₂) := by
  refine ⟨rfl, rfl, rfl, rfl, ?_⟩
  intro h
  unfold loadDocuments
  rw [h]

/-- for the default rule the configuration schema insists on an array: `null` is refused, an empty list is the
same as an absent key -/
example : loadDocuments cat₀ false true (some { execute := .items dflt₀.execute, onError := .null }) [] =
      .configRejected .notAList ∧
    loadDocuments cat₀ false true (some { execute := .items dflt₀.execute, onError := .items [] }) [] =
      loadDocuments cat₀ false true (some { execute := .items dflt₀.execute }) [] := by decide +kernel

/-- **History independence.**  The result of creating a rule does not depend on what the factory created before
(nor on what it creates afterwards): in any history of rules loaded by one factory, the entry of a rule is the
result of loading that rule alone with the same configuration. -/
theorem c14_history_independent (cat : Catalogue) (proxy validated : Bool) (d : Option DefaultRule)
    (pre post : List RuleDef) (r : RuleDef) :
    match loadHistory cat proxy validated d (pre ++ r :: post) with
    | .configRejected why => load cat proxy validated d r = .configRejected why
    | .loaded f results =>
      ∃ res, results[pre.length]? = some res ∧
        load cat proxy validated d r =
          match res with
          | .ok e => .accepted f e
          | .error why => .ruleRejected why := by
  unfold loadHistory load
  cases hf : newFactory cat proxy d with
  | error why => rfl
  | ok f =>
    refine ⟨loadRule cat validated f r, ?_, ?_⟩
    · simp [loadAll_eq_map]
    · cases hl : loadRule cat validated f r <;> simp [hl]

theorem history_accepted {cat : Catalogue} {proxy validated : Bool} {d : Option DefaultRule}
    {pre post : List RuleDef} {r : RuleDef} {f : Factory} {results : List (Except Reason Effective)} {e : Effective}
    (hl : loadHistory cat proxy validated d (pre ++ r :: post) = .loaded f results)
    (hk : results[pre.length]? = some (.ok e)) : load cat proxy validated d r = .accepted f e := by
  have h := c14_history_independent cat proxy validated d pre post r
  simp only [hl, hk, Option.some.injEq, exists_eq_left'] at h
  exact h

/-- a shared id: `keto` is an authorizer, a contextualizer and a finalizer; `z1` is an authorizer only -/
def cat₁ : Catalogue := fun k id =>
  match k, id with
  | .authn, "anon" => some [0]
  | .authz, "keto" => some [0]
  | .ctx, "keto" => some [0]
  | .fin, "keto" => some [0]
  | .authz, "z1" => some [0]
  | _, _ => none

/-- after a rule that used the authorizer `keto` and the authorizer `z1`, a rule referencing the finalizer `keto`
gets the finalizer, and a rule referencing a finalizer `z1` is refused as before -/
example : loadHistory cat₁ false true none
      [{ execute := [{ authenticator := some "anon" }, { authorizer := some "keto" }, { authorizer := some "z1" }] },
       { execute := [{ authenticator := some "anon" }, { finalizer := some "keto" }] },
       { execute := [{ authenticator := some "anon" }, { finalizer := some "z1" }] }] =
    .loaded (Spec.factory false none)
      [.ok { authn := [⟨.authn, "anon", false, none⟩], sh := [⟨.authz, "keto", false, none⟩, ⟨.authz, "z1", false, none⟩] },
       .ok { authn := [⟨.authn, "anon", false, none⟩], fin := [⟨.fin, "keto", false, none⟩] },
       .error .unknownMechanism] := by decide +kernel

/-- **The specification of a history is the loader**: `Spec.loadHistory`, the oracle of the correspondence check
for histories, judges every rule by itself and agrees with `loadHistory` on every input. -/
theorem c14_spec_oracle_history (cat : Catalogue) (proxy validated : Bool) (d : Option DefaultRule)
    (rs : List RuleDef) :
    Spec.loadHistory cat proxy validated d rs =
      match loadHistory cat proxy validated d rs with
      | .configRejected _ => none
      | .loaded _ results => some (results.map fun res =>
          match res with
          | .ok e => some e
          | .error _ => none) := by
  unfold Spec.loadHistory loadHistory
  rcases ok_or_error (newFactory_ok_iff cat proxy d) with ⟨hc, hf⟩ | ⟨hc, _, hf⟩
  · simp only [hf, hc, Bool.not_true, Bool.false_eq_true, if_false, loadAll_eq_map, List.map_map, Option.some.injEq]
    apply List.map_congr_left
    intro r _
    rcases ok_or_error (loadRule_ok_iff cat proxy validated d r) with ⟨hr, hl⟩ | ⟨hr, _, hl⟩ <;> simp [hl, hr]
  · simp [hf, hc]

/-! ## Rule-level overrides are values: every rule is judged by its OWN override, whatever was created before

`Model/FactoryOverride.lean`: a `config` is a typed value tree (`Val`); what `prototype.WithConfig` returns is a
function `overlay` of the prototype and that value; `Typed.catalogue` is the abstract catalogue (accepted tags) that
a typed catalogue and a table of values induce, so every theorem above applies to it. -/

/-- an anonymous authenticator (subject `anon`), a header finalizer and a www_authenticate error handler -/
def typed₀ : Typed :=
  { mech := fun k id =>
      match k, id with
      | .authn, "anon" => some { type := .anonymous, proto := { subject := t!"anon" } }
      | .fin, "f1" => some { type := .header, proto := { headers := [(t!"X-Fin", t!"f1/base")] } }
      | .eh, "w1" => some { type := .wwwAuthenticate, proto := { realm := t!"base" } }
      | _, _ => none
    ovr := fun n =>
      match n with
      | 100 => some (.obj (.cons t!"subject" (.str t!"1") .nil))      -- subject: "1"
      | 101 => some (.obj (.cons t!"subject" (.num 1) .nil))          -- subject: 1
      | 102 => some (.obj (.cons t!"headers" (.obj (.cons t!"X-A" (.str t!"1 X-B:2") .nil)) .nil))
      | 103 => some (.obj (.cons t!"headers" (.obj (.cons t!"X-A" (.str t!"1") (.cons t!"X-B" (.str t!"2") .nil))) .nil))
      | _ => none
    tags := [100, 101, 102, 103] }

/-- the two subjects, and the two header maps, print alike — and are different values -/
example : (typed₀.ovr 100).map Val.render = (typed₀.ovr 101).map Val.render ∧ typed₀.ovr 100 ≠ typed₀.ovr 101 ∧
    (typed₀.ovr 102).map Val.render = (typed₀.ovr 103).map Val.render ∧ typed₀.ovr 102 ≠ typed₀.ovr 103 ∧
    Val.render (.str t!"[a b]") = Val.render (.list (.cons (.str t!"a") (.cons (.str t!"b") .nil))) ∧
    Val.render (.str t!"<nil>") = Val.render .null ∧ Val.render (.str t!"true") = Val.render (.bool true) := by decide +kernel

/-- **A variant is a function of the prototype and the rule's own override value.**  In every history of `Create…`
calls on one mechanism factory, the answer to a call is `WithConfig` of the catalogue entry with the value of
*that* call: nothing an earlier (or later) call was given plays a role. -/
theorem c14_variant_is_overlay_of_own_override (T : Typed) (pre post : List Request) (k : Kind) (id : String)
    (v : Val) :
    (T.createAll (pre ++ (k, id, some v) :: post))[pre.length]? =
      some ((T.mech k id).bind fun m => overlay T.cel m.type m.proto v) := by
  unfold Typed.createAll
  rw [List.map_append, List.map_cons, List.getElem?_append_right (by simp)]
  simp only [List.length_map, Nat.sub_self, List.getElem?_cons_zero, Typed.create]
  cases T.mech k id <;> rfl

/-- `subject: "1"` gives the subject `1`, `subject: 1` is refused — also right after the look-alike was accepted;
the two header maps give one header and two headers -/
example : typed₀.createAll [(.authn, "anon", typed₀.ovr 100), (.authn, "anon", typed₀.ovr 101),
      (.fin, "f1", typed₀.ovr 102), (.fin, "f1", typed₀.ovr 103)] =
    [some { subject := t!"1" }, none, some { headers := [(t!"X-A", t!"1 X-B:2")] },
     some { headers := [(t!"X-A", t!"1"), (t!"X-B", t!"2")] }] := by decide +kernel

/-- **A memo is harmless exactly as long as its key tells values apart.**  A factory that remembers the variants
it has created under (kind, id, `key config`) answers every history like the factory without memo, provided `key`
is injective. -/
theorem c14_memo_with_injective_key_is_invisible (T : Typed) (key : Val → Text)
    (hinj : ∀ a b, key a = key b → a = b) (h : List Request) : T.memoAll key [] h = T.createAll h :=
  memoAll_eq_createAll T key hinj h [] (memoOk_nil T key)

/-- … and a memo keyed by what `fmt.Sprint` prints is not: the rule with `subject: 1` is accepted after the rule
with `subject: "1"` and gets that rule's authenticator; the rule that sets two headers gets the finalizer of the
rule that sets one -/
example : typed₀.memoAll Val.render [] [(.authn, "anon", typed₀.ovr 100), (.authn, "anon", typed₀.ovr 101),
      (.fin, "f1", typed₀.ovr 102), (.fin, "f1", typed₀.ovr 103)] =
    [some { subject := t!"1" }, some { subject := t!"1" }, some { headers := [(t!"X-A", t!"1 X-B:2")] },
     some { headers := [(t!"X-A", t!"1 X-B:2")] }] ∧
    typed₀.memoAll Val.render [] [(.authn, "anon", typed₀.ovr 101), (.authn, "anon", typed₀.ovr 100)] =
      typed₀.createAll [(.authn, "anon", typed₀.ovr 101), (.authn, "anon", typed₀.ovr 100)] := by decide +kernel

/-- **An accepted rule got mechanisms built from its own overrides — in every history.**  If one factory loads
`pre ++ r :: post` and accepts `r`, then the effective rule is the prescribed one and every mechanism `r` names
exists and accepts the override *value* that `r` itself carries for it (so the variant in `r`'s pipeline is
`overlay prototype value`): what the rules of `pre` carried for the same mechanism is irrelevant. -/
theorem c14_accepted_rule_gets_own_variants (T : Typed) (proxy validated : Bool) (d : Option DefaultRule)
    (pre post : List RuleDef) (r : RuleDef) (f : Factory) (results : List (Except Reason Effective)) (e : Effective)
    (hl : loadHistory T.catalogue proxy validated d (pre ++ r :: post) = .loaded f results)
    (hk : results[pre.length]? = some (.ok e)) :
    e = Spec.effective d r ∧
    (∀ s ∈ r.execute, ∀ k id, s.target = some (k, id) → (T.variant k id s.config).isSome = true) ∧
    (∀ s ∈ r.onError, ∀ id, s.errorHandler = some id → (T.variant .eh id s.config).isSome = true) := by
  obtain ⟨_, hw, _, he⟩ := (c14_accepted_iff T.catalogue proxy validated d r f e).mp (history_accepted hl hk)
  exact ⟨he, fun s hs k id ht => step_variant_of_ok T s ht (hw.known s hs) (hw.overrides s hs),
    fun s hs id hi => ehStep_variant_of_ok T s hi (hw.handlers s hs)⟩

/-- **A rule whose own override is refused is rejected in every history.**  If some step of `r` names a mechanism
that does not exist or whose `WithConfig` refuses the value the step carries, `r` is rejected at whatever position
of whatever history it is loaded — also behind rules whose overrides print like `r`'s. -/
theorem c14_refused_override_rejected_in_every_history (T : Typed) (proxy validated : Bool) (d : Option DefaultRule)
    (pre post : List RuleDef) (r : RuleDef) (hc : ConfigWellFormed T.catalogue d)
    (h : (∃ s ∈ r.execute, ∃ k id, s.target = some (k, id) ∧ T.variant k id s.config = none) ∨
      (∃ s ∈ r.onError, ∃ id, s.errorHandler = some id ∧ T.variant .eh id s.config = none)) :
    ∃ f results why, loadHistory T.catalogue proxy validated d (pre ++ r :: post) = .loaded f results ∧
      results[pre.length]? = some (.error why) := by
  rw [← configOk_iff] at hc
  have hf := (newFactory_ok_iff T.catalogue proxy d _).mpr ⟨hc, rfl⟩
  rcases ok_or_error (loadRule_ok_iff T.catalogue proxy validated d r) with ⟨hr, _⟩ | ⟨_, why, hl⟩
  · exfalso
    have hw := (ruleOk_iff T.catalogue proxy validated d r).mp hr
    rcases h with ⟨s, hs, k, id, ht, hv⟩ | ⟨s, hs, id, hi, hv⟩
    · simpa [hv] using step_variant_of_ok T s ht (hw.known s hs) (hw.overrides s hs)
    · simpa [hv] using ehStep_variant_of_ok T s hi (hw.handlers s hs)
  · exact ⟨Spec.factory proxy d, loadAll T.catalogue validated (Spec.factory proxy d) (pre ++ r :: post), why,
      by simp only [loadHistory, hf], by simp [loadAll_eq_map, hl]⟩

/-- witnesses: after the rule with `subject: "1"` the rule with `subject: 1` is rejected, in the other order the
first one is rejected and the second one accepted; the hypotheses of the two theorems hold for these histories -/
example :
    loadHistory typed₀.catalogue false true none
      [{ execute := [{ authenticator := some "anon", config := some 100 }] },
       { execute := [{ authenticator := some "anon", config := some 101 }] }] =
      .loaded (Spec.factory false none)
        [.ok { authn := [⟨.authn, "anon", false, some 100⟩] }, .error .badOverride] ∧
    loadHistory typed₀.catalogue false true none
      [{ execute := [{ authenticator := some "anon", config := some 101 }] },
       { execute := [{ authenticator := some "anon", config := some 100 }] }] =
      .loaded (Spec.factory false none)
        [.error .badOverride, .ok { authn := [⟨.authn, "anon", false, some 100⟩] }] ∧
    typed₀.variant .authn "anon" (some 100) = some { subject := t!"1" } ∧
    typed₀.variant .authn "anon" (some 101) = none ∧
    typed₀.variant .fin "f1" (some 103) = some { headers := [(t!"X-A", t!"1"), (t!"X-B", t!"2")] } ∧
    ConfigWellFormed typed₀.catalogue none := by
  simp only [ConfigWellFormed, and_true]
  decide +kernel

/-! ## Unknown references, conditions and expressions

The catalogue is the only source of mechanisms: a reference is usable iff the catalogue defines that id **for that
kind** — whatever the id looks like (the name of a mechanism type such as `allow`, `noop`, `default`, `anonymous`; an
id another kind defines; a catalogue id in another case or with white space around it).  An `if` is usable iff it is
absent or an expression whose **static result type is `bool`**: expressions of type `int`, `string`, list, map — and
`dyn`, i.e. every attribute / index chain ending in `Subject.…`, `Payload.…`, `Outputs.…`, `Request.…` — are refused
like expressions that do not compile.  The same holds for the `expressions` a rule puts over a cel / remote authorizer. -/

/-- **A reference the catalogue does not define for its kind makes the rule malformed** — on `execute` steps of every
kind and on error handlers. -/
theorem c14_unknown_reference_rejected (cat : Catalogue) (proxy validated : Bool) (d : Option DefaultRule)
    (r : RuleDef) (hc : ConfigWellFormed cat d)
    (h : (∃ s ∈ r.execute, ∃ k id, s.target = some (k, id) ∧ cat k id = none) ∨
      (∃ s ∈ r.onError, ∃ id, s.errorHandler = some id ∧ cat .eh id = none)) :
    ∃ why, load cat proxy validated d r = .ruleRejected why := by
  rw [c14_rejected_iff cat proxy validated d r hc]
  intro hw
  rcases h with ⟨s, hs, k, id, ht, hn⟩ | ⟨s, hs, id, hi, hn⟩
  · simpa [Step.known, ht, hn] using hw.known s hs
  · simpa [Step.ehOk, hi, hn] using hw.handlers s hs

/-- **An accepted rule references defined mechanisms only**: every step of `execute` names an id the catalogue
defines for the kind of its key, every step of `on_error` an error handler of the catalogue.  Nothing is created on
the fly. -/
theorem c14_accepted_references_defined {cat : Catalogue} {proxy validated : Bool} {d : Option DefaultRule}
    {r : RuleDef} {f : Factory} {e : Effective} (h : load cat proxy validated d r = .accepted f e) :
    (∀ s ∈ r.execute, ∃ k id, s.target = some (k, id) ∧ (cat k id).isSome = true) ∧
    (∀ s ∈ r.onError, ∃ id, s.errorHandler = some id ∧ (cat .eh id).isSome = true) := by
  obtain ⟨_, hw, _, _⟩ := (c14_accepted_iff cat proxy validated d r f e).mp h
  constructor
  · intro s hs
    have hk := hw.known s hs
    unfold Step.known at hk
    cases ht : s.target with
    | none => simp [ht] at hk
    | some t => exact ⟨t.1, t.2, rfl, by simpa [ht] using hk⟩
  · intro s hs
    have hk := hw.handlers s hs
    cases hi : s.errorHandler with
    | none => simp [Step.ehOk, hi] at hk
    | some id =>
      rw [ehOk_of_handler hi, Bool.and_eq_true] at hk
      exact ⟨id, rfl, accepts_isSome hk.1⟩

/-- ids named like mechanism types, an authorizer id used as finalizer, a catalogue id in capitals / with a trailing
blank: all unknown to `cat₀` for that kind, all rejected (also under the complete default rule, whose stage the step
would otherwise replace); the same ids where the catalogue defines them are accepted -/
example :
    load cat₀ false true (some dflt₀) { execute := [{ authorizer := some "allow" }] } = .ruleRejected .unknownMechanism ∧
    load cat₀ false true (some dflt₀) { execute := [{ finalizer := some "noop" }] } = .ruleRejected .unknownMechanism ∧
    load cat₀ false true (some dflt₀) { execute := [{ authenticator := some "anonymous" }] }
      = .ruleRejected .unknownMechanism ∧
    load cat₀ false true (some dflt₀)
      { execute := [{ authenticator := some "g1" }], onError := [{ errorHandler := some "default" }] }
      = .ruleRejected .unknownMechanism ∧
    load cat₀ false true none { execute := [{ authenticator := some "g1" }, { finalizer := some "z1" }] }
      = .ruleRejected .unknownMechanism ∧
    load cat₀ false true none { execute := [{ authenticator := some "g1" }, { authorizer := some "Z1" }] }
      = .ruleRejected .unknownMechanism ∧
    load cat₀ false true none { execute := [{ authenticator := some "g1" }, { authorizer := some "z1 " }] }
      = .ruleRejected .unknownMechanism ∧
    load cat₀ false true none { execute := [{ authenticator := some "g1" }, { authorizer := some "z1" }] }
      = .accepted (Spec.factory false none)
          { authn := [⟨.authn, "g1", false, none⟩], sh := [⟨.authz, "z1", false, none⟩] } := by
  decide +kernel

/-- **A condition is usable exactly when it is absent or boolean**: `getExecutionCondition` succeeds iff the `if` is
absent or an expression that compiles with the static result type `bool`. -/
theorem c14_condition_usable_iff_bool (c : Cond) :
    (∃ b, condition c = .ok b) ↔ c = .absent ∨ ∃ src, c = .expr src (some .bool) := by
  simp only [condition_ok_iff, exists_and_left, exists_eq', and_true]
  cases c <;> simp [Cond.usable]

/-- **A step guarded by a non-boolean expression makes the rule malformed**: if a step of `execute` that is not an
authenticator, or a step of `on_error`, carries an `if` that does not compile or whose static type is not `bool`
(`dyn` included), the rule is rejected when its rule set is loaded. -/
theorem c14_nonboolean_condition_rejected (cat : Catalogue) (proxy validated : Bool) (d : Option DefaultRule)
    (r : RuleDef) (hc : ConfigWellFormed cat d)
    (h : (∃ s ∈ r.execute, s.authenticator = none ∧ ∃ src t, s.cond = .expr src t ∧ t ≠ some .bool) ∨
      (∃ s ∈ r.onError, ∃ src t, s.cond = .expr src t ∧ t ≠ some .bool)) :
    ∃ why, load cat proxy validated d r = .ruleRejected why := by
  rw [c14_rejected_iff cat proxy validated d r hc]
  intro hw
  rcases h with ⟨s, hs, ha, src, t, hcnd, hne⟩ | ⟨s, hs, src, t, hcnd, hne⟩
  · simpa [Step.condOk, ha, hcnd, Cond.usable, hne] using hw.conds s hs
  · have hk := hw.handlers s hs
    unfold Step.ehOk at hk
    cases he : s.errorHandler <;> simp [he, hcnd, Cond.usable, hne] at hk

/-- **The static type decides.**  A step whose `if` is the expression `e` is usable iff the type checker gives `e`
the type `bool` (`Model/FactoryCel.lean`). -/
theorem c14_expression_usable_iff_static_bool (e : Cel) (src : String) :
    (e.cond src).usable = true ↔ e.check = some .bool := by
  simp [Cel.cond, Cond.usable]

/-- **Attribute chains of the dynamically typed variables are `dyn`.**  `Subject`, `Payload`, `Request` followed by
any number of field selections (`Subject.Attributes.external`, `Payload.x.y`, `Request.URL.Path`) have the static type
`dyn` — never `bool`. -/
theorem c14_attribute_chain_is_dyn (root : String) (hroot : declared root = some .dyn) (fields : List String) :
    (fields.foldl Cel.sel (.var root)).check = some .dyn :=
  check_sel_chain fields (.var root) hroot

/-- the values of `Outputs` and everything selected from them (`Outputs.y`, `Outputs.y.z`) are `dyn` too -/
theorem c14_outputs_chain_is_dyn (key : String) (fields : List String) :
    (fields.foldl Cel.sel (.sel (.var "Outputs") key)).check = some .dyn :=
  check_sel_chain fields _ (by simp [Cel.check, declared])

/-- **A rule guarded by an attribute of a dynamically typed variable is rejected**, on every kind of step that reads
its `if`: whatever follows `Subject.` / `Payload.` / `Request.`, the condition is not boolean. -/
theorem c14_dyn_condition_rejected (cat : Catalogue) (proxy validated : Bool) (d : Option DefaultRule) (r : RuleDef)
    (hc : ConfigWellFormed cat d) (root : String) (hroot : declared root = some .dyn) (fields : List String)
    (src : String)
    (h : (∃ s ∈ r.execute, s.authenticator = none ∧ s.cond = (fields.foldl Cel.sel (.var root)).cond src) ∨
      (∃ s ∈ r.onError, s.cond = (fields.foldl Cel.sel (.var root)).cond src)) :
    ∃ why, load cat proxy validated d r = .ruleRejected why := by
  have hdyn : (fields.foldl Cel.sel (.var root)).cond src = .expr src (some .dyn) := by
    unfold Cel.cond; rw [c14_attribute_chain_is_dyn root hroot fields]
  exact c14_nonboolean_condition_rejected cat proxy validated d r hc <| h.imp
    (fun ⟨s, hs, ha, hcnd⟩ => ⟨s, hs, ha, src, some .dyn, hcnd.trans hdyn, by decide⟩)
    (fun ⟨s, hs, hcnd⟩ => ⟨s, hs, src, some .dyn, hcnd.trans hdyn, by decide⟩)

/-- `Subject.Attributes.external` -/
def subjectExternal : Cel := .sel (.sel (.var "Subject") "Attributes") "external"
/-- `Subject.Attributes.groups[0]` -/
def subjectGroup0 : Cel := .idx (.sel (.sel (.var "Subject") "Attributes") "groups") (.int 0)
/-- `Payload.x` -/
def payloadX : Cel := .sel (.var "Payload") "x"
/-- `Outputs.y` -/
def outputsY : Cel := .sel (.var "Outputs") "y"
/-- `Subject.Attributes.x == true`: boolean over a `dyn` sub-term -/
def attrIsTrue : Cel := .eq (.sel (.sel (.var "Subject") "Attributes") "x") (.bool true)
/-- `Subject.Attributes.a && Subject.Attributes.b`: boolean over `dyn` sub-terms -/
def attrsBoth : Cel :=
  .and (.sel (.sel (.var "Subject") "Attributes") "a") (.sel (.sel (.var "Subject") "Attributes") "b")

/-- the static types of the witnesses: four `dyn`-typed expressions, two boolean ones over `dyn` sub-terms, the
query parameters (`map(string, list(string))`), a literal, an undeclared variable, an operator without overload,
text the parser refuses -/
example : subjectExternal.check = some .dyn ∧ subjectGroup0.check = some .dyn ∧ payloadX.check = some .dyn ∧
    outputsY.check = some .dyn ∧ attrIsTrue.check = some .bool ∧ attrsBoth.check = some .bool ∧
    (Cel.call0 (.sel (.var "Request") "URL") "Query").check = some (.map (.list .str)) ∧
    (Cel.int 1).check = some .int ∧ (Cel.var "subject").check = none ∧
    (Cel.eq (.int 1) (.str "a")).check = none ∧ Cel.garbage.check = none ∧
    subjectExternal = ["Attributes", "external"].foldl Cel.sel (.var "Subject") := by decide +kernel

/-- **a `dyn`-typed condition is rejected** — on an authorizer, a contextualizer, a finalizer and an error handler,
with and without default rule — while the boolean conditions over `dyn` sub-terms are accepted and a `dyn`-typed `if`
on an authenticator step is never read; statically non-boolean conditions and conditions that do not compile are
rejected alike -/
example :
    load cat₀ false true none
      { execute := [{ authenticator := some "g1" }, { authorizer := some "z1", cond := subjectExternal.cond }] }
      = .ruleRejected .badCondition ∧
    load cat₀ false true (some dflt₀) { execute := [{ contextualizer := some "c1", cond := subjectGroup0.cond }] }
      = .ruleRejected .badCondition ∧
    load cat₀ false true (some dflt₀) { execute := [{ finalizer := some "f1", cond := payloadX.cond }] }
      = .ruleRejected .badCondition ∧
    load cat₀ false true none
      { execute := [{ authenticator := some "g1" }], onError := [{ errorHandler := some "e1", cond := outputsY.cond }] }
      = .ruleRejected .badCondition ∧
    load cat₀ false true none
      { execute := [{ authenticator := some "g1" }, { authorizer := some "z1", cond := (Cel.int 1).cond }] }
      = .ruleRejected .badCondition ∧
    load cat₀ false true none
      { execute := [{ authenticator := some "g1" }, { authorizer := some "z1", cond := Cel.garbage.cond }] }
      = .ruleRejected .badCondition ∧
    load cat₀ false true none
      { execute := [{ authenticator := some "g1" }, { authorizer := some "z1", cond := attrIsTrue.cond },
                    { finalizer := some "f1", cond := attrsBoth.cond }] }
      = .accepted (Spec.factory false none)
          { authn := [⟨.authn, "g1", false, none⟩], sh := [⟨.authz, "z1", true, none⟩], fin := [⟨.fin, "f1", true, none⟩] } ∧
    load cat₀ false true none { execute := [{ authenticator := some "g1", cond := subjectExternal.cond }] }
      = .accepted (Spec.factory false none) { authn := [⟨.authn, "g1", false, none⟩] } := by
  decide +kernel

/-- the text of an `if` is part of the step: a default rule with two steps that differ in that text only has no
repeated entry (`uniqueItems`), with the same text it has -/
example :
    (match newFactory cat₀ false (some { execute := [{ authenticator := some "g1" },
        { finalizer := some "f1", cond := .expr "a" (some .bool) },
        { finalizer := some "f1", cond := .expr "b" (some .bool) }] }) with
      | .ok f => (f.dflt.map (·.fin.length)) == some 2
      | .error _ => false) = true ∧
    newFactory cat₀ false (some { execute := [{ authenticator := some "g1" },
        { finalizer := some "f1", cond := .expr "a" (some .bool) },
        { finalizer := some "f1", cond := .expr "a" (some .bool) }] }) = .error .duplicateSteps := by
  decide +kernel

/-- the hypotheses of `c14_dyn_condition_rejected` / `c14_nonboolean_condition_rejected` hold for the first witness -/
example : declared "Subject" = some .dyn ∧ ConfigWellFormed cat₀ none ∧
    (({ authorizer := some "z1", cond := subjectExternal.cond } : Step).authenticator = none) ∧
    subjectExternal.cond = .expr "" (some .dyn) ∧ some CelTy.dyn ≠ some CelTy.bool := by
  refine ⟨by decide +kernel, trivial, rfl, by decide +kernel, by decide +kernel⟩

/-- **An `expressions` override is accepted iff every expression is boolean** (cel authorizer): a rule-level
`config: {expressions: [{expression: src}]}` is accepted by `WithConfig` iff the static type of `src` is `bool`. -/
theorem c14_cel_expression_override_accepted_iff (Γ : CelEnv) (p : Shown) (src : Text) (hne : src ≠ []) :
    (overlay Γ .cel p (.obj (.cons t!"expressions"
      (.list (.cons (.obj (.cons t!"expression" (.str src) .nil)) .nil)) .nil))).isSome = true ↔ Γ src = some .bool := by
  have hk : ∀ v, knownKeys (.cons t!"expressions" v .nil) [t!"expressions"] = true := fun _ => rfl
  have hg : ∀ v, Flds.get (.cons t!"expressions" v .nil) t!"expressions" = some v := fun _ => rfl
  simp only [overlay, Flds.isEmpty, hk, hg, decExpressions_single Γ src hne, Bool.false_eq_true, if_false, if_true]
  by_cases h : Γ src = some .bool <;> simp [h]

/-- The remote authorizer's `WithConfig` accepts `config: {expressions: [{expression: src}]}` under the same condition:
the static type of `src` is `bool`. -/
theorem c14_remote_expression_override_accepted_iff (Γ : CelEnv) (p : Shown) (src : Text) (hne : src ≠ []) :
    (overlay Γ .remote p (.obj (.cons t!"expressions"
      (.list (.cons (.obj (.cons t!"expression" (.str src) .nil)) .nil)) .nil))).isSome = true ↔ Γ src = some .bool := by
  have hk : ∀ v, knownKeys (.cons t!"expressions" v .nil) [t!"cache_ttl", t!"values", t!"expressions"] = true :=
    fun _ => rfl
  have hg : ∀ v, Flds.get (.cons t!"expressions" v .nil) t!"expressions" = some v := fun _ => rfl
  have hd : ∀ v, decDuration (Flds.get (.cons t!"expressions" v .nil) t!"cache_ttl") = true := fun _ => rfl
  have ht : ∀ v, decTemplates (Flds.get (.cons t!"expressions" v .nil) t!"values") = some [] := fun _ => rfl
  simp only [overlay, Flds.isEmpty, hk, hg, hd, ht, decExpressions_single Γ src hne, Bool.false_eq_true, if_false,
    if_true, Bool.and_self]
  by_cases h : Γ src = some .bool <;> simp [h]

/-- a cel authorizer `x1` and a remote authorizer `z1`; the override values: `expressions` holding
`Subject.Attributes.admin` (100), `Subject.Attributes.x == true` (101), `Payload.x` (102); the expression table is
filled by the type checker -/
def typed₁ : Typed :=
  { mech := fun k id =>
      match k, id with
      | .authn, "anon" => some { type := .anonymous, proto := { subject := t!"anon" } }
      | .authz, "x1" => some { type := .cel, proto := { expressions := [t!"true"] } }
      | .authz, "z1" => some { type := .remote, proto := {} }
      | _, _ => none
    ovr := fun n =>
      let one (src : Text) : Val :=
        .obj (.cons t!"expressions" (.list (.cons (.obj (.cons t!"expression" (.str src) .nil)) .nil)) .nil)
      match n with
      | 100 => some (one t!"Subject.Attributes.admin")
      | 101 => some (one t!"Subject.Attributes.x == true")
      | 102 => some (one t!"Payload.x")
      | _ => none
    tags := [100, 101, 102]
    cel := fun src =>
      if src = t!"Subject.Attributes.admin" then (Cel.sel (.sel (.var "Subject") "Attributes") "admin").check
      else if src = t!"Subject.Attributes.x == true" then attrIsTrue.check
      else if src = t!"Payload.x" then payloadX.check
      else none }

/-- the `dyn`-typed expression is refused by both authorizers, the boolean one over a `dyn` sub-term is accepted and
shown by the variant; in a history the rule with the bad override is rejected after (and before) the rule with the
good one -/
example :
    typed₁.variant .authz "x1" (some 100) = none ∧ typed₁.variant .authz "z1" (some 102) = none ∧
    typed₁.variant .authz "x1" (some 101) = some { expressions := [t!"Subject.Attributes.x == true"] } ∧
    typed₁.variant .authz "z1" (some 101) = some { expressions := [t!"Subject.Attributes.x == true"] } ∧
    loadHistory typed₁.catalogue false true none
      [{ execute := [{ authenticator := some "anon" }, { authorizer := some "x1", config := some 101 }] },
       { execute := [{ authenticator := some "anon" }, { authorizer := some "x1", config := some 100 }] },
       { execute := [{ authenticator := some "anon" }, { authorizer := some "z1", config := some 102 }] }] =
      .loaded (Spec.factory false none)
        [.ok { authn := [⟨.authn, "anon", false, none⟩], sh := [⟨.authz, "x1", false, some 101⟩] },
         .error .badOverride, .error .badOverride] := by
  decide +kernel

/-! ## Identity: the mechanism an error names is one the stage's owner references

A stage "consists of the rule's own mechanisms" also means: of the catalogue entries the rule *names*, not of other
entries that happen to behave alike.  A mechanism that calls nobody (a cel authorizer) shows which entry it is through
the error it raises: `Error.Source` in the conditions of the `on_error` steps, `Trace.src` in the executed trace
(`Model/FactoryProbe.lean`).  For every way the mechanisms show themselves (`sh`, `fl`), every set of mechanisms that
refuse a request (`den`) and every request (`p`): -/

/-- **The source of an error is a mechanism of the stage-wise inherited pipeline.**  Whatever request an accepted
rule executes, the error it ends with names nobody, or an authenticator, authorizer or contextualizer that the rule
references itself if it defines that stage, and one the default rule references otherwise. -/
theorem c14_error_source_is_stage_member {cat : Catalogue} {proxy validated : Bool} {d : Option DefaultRule}
    {r : RuleDef} {f : Factory} {e : Effective} (h : load cat proxy validated d r = .accepted f e)
    (sh : Showing) (fl : Flavours) (den : Refusing) (p : Probe) :
    (execute sh fl den e p).src = "" ∨
      ∃ st, (st = .authentication ∨ st = .handling) ∧
        ∃ m ∈ inherit (own st r.execute r.onError) (ownDefault st d), m.id = (execute sh fl den e p).src := by
  rcases execute_src sh fl den e p with h0 | ⟨m, hm, hid⟩ | ⟨m, hm, _, hid⟩
  · exact .inl h0
  · exact .inr ⟨.authentication, .inl rfl, m, c14_effective_stages h .authentication ▸ hm, hid⟩
  · exact .inr ⟨.handling, .inr rfl, m, c14_effective_stages h .handling ▸ hm, hid⟩

/-- **A refused request blames the first listening mechanism of the rule's own stage.**  If an accepted rule defines
the authorization/contextualization stage itself and one of its mechanisms refuses the request, the refusing
mechanism is the first own mechanism of that stage that refuses, it is referenced — kind and id — by a step of the
rule's `execute`, and without an error pipeline in the way the trace names exactly its id.  The default rule's
mechanisms play no role, whatever they are configured with. -/
theorem c14_refused_request_blames_own_step {cat : Catalogue} {proxy validated : Bool} {d : Option DefaultRule}
    {r : RuleDef} {f : Factory} {e : Effective} (h : load cat proxy validated d r = .accepted f e)
    (hown : own .handling r.execute r.onError ≠ [])
    (fl : Flavours) (den : Refusing) (p : Probe) (m : Mech) (href : (reached fl den p e.sh).2 = some m) :
    (∃ pre post, own .handling r.execute r.onError = pre ++ m :: post ∧
      (∀ x ∈ pre, x.refuses fl den p = false) ∧ m.refuses fl den p = true) ∧
    (∃ s ∈ r.execute, s.target = some (m.kind, m.id) ∧ m.kind.stage = .handling) ∧
    (∀ (sh : Showing) (kind : String), (errorStage sh fl p kind m.id []).src = m.id) := by
  have hst : e.sh = own .handling r.execute r.onError := (c14_effective_stages h .handling).trans (if_pos hown)
  rw [hst] at href
  exact ⟨(reached_some_iff fl den p m _).mp href, own_mem_step (by decide) (reached_some_mem href).1,
    fun sh kind => errorStage_nil_src sh fl p kind m.id⟩

/-- **A rule that defines both stages is never blamed on foreign mechanisms**: if the rule names at least one
authenticator and at least one authorizer / contextualizer, every error any request ends with names nobody or a
mechanism — kind and id — that a step of the rule's own `execute` references. -/
theorem c14_error_source_names_own_step {cat : Catalogue} {proxy validated : Bool} {d : Option DefaultRule}
    {r : RuleDef} {f : Factory} {e : Effective} (h : load cat proxy validated d r = .accepted f e)
    (ha : own .authentication r.execute r.onError ≠ []) (hh : own .handling r.execute r.onError ≠ [])
    (sh : Showing) (fl : Flavours) (den : Refusing) (p : Probe) :
    (execute sh fl den e p).src = "" ∨
      ∃ s ∈ r.execute, ∃ k, s.target = some (k, (execute sh fl den e p).src) := by
  rcases c14_error_source_is_stage_member h sh fl den p with h0 | ⟨st, hst, m, hm, hid⟩
  · exact .inl h0
  · have hne : st ≠ .errorHandling ∧ own st r.execute r.onError ≠ [] := by
      rcases hst with rfl | rfl
      · exact ⟨by decide, ha⟩
      · exact ⟨by decide, hh⟩
    rw [inherit, if_pos hne.2] at hm
    obtain ⟨s, hs, ht, _⟩ := own_mem_step hne.1 hm
    exact .inr ⟨s, hs, m.kind, hid ▸ ht⟩

/-- **… at every position of every history**: what the factory (or the mechanism catalogue behind it) created for
other rules before — the same rule-level config over another catalogue entry, say — does not change whom the errors
of a rule name. -/
theorem c14_error_source_in_every_history (cat : Catalogue) (proxy validated : Bool) (d : Option DefaultRule)
    (pre post : List RuleDef) (r : RuleDef) (f : Factory) (results : List (Except Reason Effective)) (e : Effective)
    (hl : loadHistory cat proxy validated d (pre ++ r :: post) = .loaded f results)
    (hk : results[pre.length]? = some (.ok e))
    (sh : Showing) (fl : Flavours) (den : Refusing) (p : Probe) :
    (execute sh fl den e p).src = "" ∨
      ∃ st, (st = .authentication ∨ st = .handling) ∧
        ∃ m ∈ inherit (own st r.execute r.onError) (ownDefault st d), m.id = (execute sh fl den e p).src :=
  c14_error_source_is_stage_member (history_accepted hl hk) sh fl den p

/-- two cel authorizers `x1`, `x2` whose prototypes listen to the request that asks to be refused, an anonymous
authenticator, a `default` error handler; override 100 is the listening expression again, 101 is `true` -/
def typed₂ : Typed :=
  { mech := fun k id =>
      match k, id with
      | .authn, "anon" => some { type := .anonymous, proto := { subject := t!"anon" } }
      | .authz, "x1" => some { type := .cel, proto := { expressions := [t!"deny"] } }
      | .authz, "x2" => some { type := .cel, proto := { expressions := [t!"deny"] } }
      | .eh, "edef" => some { type := .dflt, proto := {} }
      | _, _ => none
    ovr := fun n =>
      let one (src : Text) : Val :=
        .obj (.cons t!"expressions" (.list (.cons (.obj (.cons t!"expression" (.str src) .nil)) .nil)) .nil)
      match n with
      | 100 => some (one t!"deny")
      | 101 => some (one t!"true")
      | _ => none
    tags := [100, 101]
    cel := fun src => if src = t!"deny" ∨ src = t!"true" then some .bool else none }

def flav₂ : Flavours := fun k id =>
  match k, id with
  | .authn, _ => .constant
  | .authz, _ => .silent
  | _, _ => .passthrough

def show₂ : Showing := fun m => (typed₂.variant m.kind m.id m.config).getD {}

/-- `deny` spells `Request.Header("X-Deny") != "1"` -/
def trees₂ : CelTrees := fun src =>
  if src = t!"deny" then some (.ne (.call1 (.var "Request") "Header" (.str "X-Deny")) (.str "1"))
  else if src = t!"true" then some (.bool true) else none

def deny₂ : Probe := { authnOk := true, skip := false, deny := true }

/-- the default rule puts the listening expression over `x1`, the rule the same value over `x2` -/
def dflt₂ : DefaultRule :=
  { execute := [{ authenticator := some "anon" }, { authorizer := some "x1", config := some 100 }] }
def rule₂ : RuleDef := { execute := [{ authorizer := some "x2", config := some 100 }] }

/-- the rule is accepted with its own `x2`, the refused request names `x2` — with
and without a `default` error handler — and `x1` when the rule leaves the stage to the default rule; a rule
overriding `x2` with `true` is not refused at all; an effective rule holding the default rule's instance in place of
the rule's own (what a mechanism factory sharing variants by config alone hands out) names `x1`, which no step of the
rule references: it contradicts `c14_refused_request_blames_own_step` -/
example :
    load typed₂.catalogue false true (some dflt₂) rule₂ =
      .accepted (Spec.factory false (some dflt₂)) (Spec.effective (some dflt₂) rule₂) ∧
    (Spec.effective (some dflt₂) rule₂).sh = [⟨.authz, "x2", false, some 100⟩] ∧
    (execute show₂ flav₂ (refusing show₂ trees₂) (Spec.effective (some dflt₂) rule₂) deny₂).src = "x2" ∧
    (execute show₂ flav₂ (refusing show₂ trees₂)
      (Spec.effective (some dflt₂) { rule₂ with onError := [{ errorHandler := some "edef" }] }) deny₂).src = "x2" ∧
    (execute show₂ flav₂ (refusing show₂ trees₂)
      (Spec.effective (some dflt₂) { execute := [{ authenticator := some "anon" }] }) deny₂).src = "x1" ∧
    (execute show₂ flav₂ (refusing show₂ trees₂)
      (Spec.effective (some dflt₂) { execute := [{ authorizer := some "x2", config := some 101 }] }) deny₂).src = "" ∧
    (execute show₂ flav₂ (refusing show₂ trees₂)
      { Spec.effective (some dflt₂) rule₂ with sh := [⟨.authz, "x1", false, some 100⟩] } deny₂).src = "x1" ∧
    (rule₂.execute.all fun s => s.target.map (·.2) != some "x1") = true ∧
    own .handling rule₂.execute rule₂.onError ≠ [] ∧
    (reached flav₂ (refusing show₂ trees₂) deny₂ (Spec.effective (some dflt₂) rule₂).sh).2 =
      some ⟨.authz, "x2", false, some 100⟩ := by
  decide +kernel

end Heimdall.Props.C14
