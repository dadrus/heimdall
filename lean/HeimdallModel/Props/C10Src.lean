import HeimdallModel.Gen.CacheTTLSrc
import HeimdallModel.Spec.CacheTTLBound
/-!
# C10 — the TTL functions *as they stand in the source* are the model the C10 theorems speak about

`Gen/CacheTTLSrc.lean` (namespace `Heimdall.Validity.Src`) is regenerated on every run of the C10 check by the Go → Lean
translator `extract/go2lean`: the whole bodies of `getCacheTTL` / `isCacheEnabled` of the introspection, JWT and generic
authenticators and of the client-credentials strategy, statement by statement, and the conditions and TTL arguments
of the cache reads and writes inside `Execute` of the JWT finalizer, the remote authorizer and the generic
contextualizer. The theorems below are proof obligations about *that* code, for **all** inputs (`Int` is unbounded):

* `c10_src_*_ttl` / `c10_src_*_enabled`: the translated function **equals** the hand-written model
  `Heimdall.Validity.cacheTTL` / `lookupEnabled` (`Model/CacheTTL.lean`) of the mechanism. So everything `Props/C10.lean`
  proves about the model (`c10_ttl_le_remaining`, `c10_ttl_le_configured`, `c10_nonpositive_ttl_disables`,
  `c10_reuse_within_validity`, …) is a statement about the current source, not about a sampled correspondence only.
* `c10_src_*_defined`: on no input does the function dereference a nil `ttl`, index an empty certificate list or read an
  expiry it has not found to be present.
* `c10_src_*_within_spec`: stated on the translated function directly, with no model in between — the TTL is at most
  `max 0 (remaining − cache leeway)`, **strictly below** the remaining lifetime whenever positive (the condition under
  which counting in whole seconds is sound: `Unix()` truncates), at most the configured `cache_ttl`; a `cache_ttl ≤ 0`
  switches the lookup off and a switched-off cache gets TTL 0. These keep proving when the code drifts from the model
  in a way the property does not care about, and tell such a drift from a violation.

Correspondence of the parameters: configured `cache_ttl` = `cfg : Option Int` (whole seconds; `none` = not configured)
↔ the pointer field `a.ttl` / `c.TTL` (`nil` = `none`), for the generic authenticator the plain field `a.ttl` =
`cfg.getD 0`; remaining lifetime `rem : Option Int` of the model ↔ `exp.map (· - now)` where `exp : Option Int` is the
expiry found in the remote party's answer as Unix seconds (`none`: `introspectResp.Expiry == nil`,
`len(key.Certificates) == 0`, `resp.Expiry.IsZero()`; generic authenticator: no session lifespan object — `session =
false` — or its `exp` is the zero time) and `now = time.Now().Unix()`.

Every proof is the same script — case distinction on the optional parameters, `simp` with the definitions (listed once,
below, for all mechanisms: more than any one proof needs), case analysis on every remaining `if` and linear arithmetic
(`src_arith`) — deliberately uniform, so that a semantics-preserving edit of the Go code (inverted early return, nested `if` instead of an `if` chain, an extra local variable, a constant hoisted
to package level, a helper method extracted) keeps proving, and an edit that changes a value on some input does not.
-/
namespace Heimdall.Props.C10
open Heimdall.Validity

/-- closes what is left after unfolding: case analysis on the remaining `if`s and linear integer arithmetic, by
    `grind`, else by `split` on every `if` and `omega` -/
macro "src_arith" : tactic => `(tactic| (first | done | grind | ((repeat' split) <;> omega)))

/- unfolded in every proof below: the model and the specification, the constants read from the source, and every
   translated function -/
attribute [local simp] cacheTTL ptrEnabled derivedTTL Mech.leeway Mech.defaultTTL lookupEnabled tokenLifetime
  ttlWithinSpec enabledWithinSpec
  Gen.introspectionLeeway Gen.jwtKeyLeeway Gen.jwtKeyDefaultTTL Gen.genericLeeway Gen.clientCredsLeeway
  Gen.jwtFinalizerLeeway Gen.jwtFinalizerDefaultTTL Gen.contextualizerDefaultTTL
  Src.Introspection.isCacheEnabled Src.Introspection.isCacheEnabled_defined Src.Introspection.getCacheTTL
  Src.Introspection.getCacheTTL_defined
  Src.JwtKey.isCacheEnabled Src.JwtKey.isCacheEnabled_defined Src.JwtKey.getCacheTTL Src.JwtKey.getCacheTTL_defined
  Src.Generic.getCacheTTL Src.Generic.getCacheTTL_defined Src.Generic.cacheRead Src.Generic.cacheRead_defined
  Src.ClientCreds.isCacheEnabled Src.ClientCreds.isCacheEnabled_defined Src.ClientCreds.getCacheTTL
  Src.ClientCreds.getCacheTTL_defined
  Src.JwtFinalizer.cacheWrite Src.JwtFinalizer.cacheWrite_defined Src.JwtFinalizer.cacheWriteTTL
  Src.JwtFinalizer.cacheWriteTTL_defined
  Src.RemoteAuthz.cacheRead Src.RemoteAuthz.cacheRead_defined Src.RemoteAuthz.cacheWrite
  Src.RemoteAuthz.cacheWrite_defined Src.RemoteAuthz.cacheWriteTTL Src.RemoteAuthz.cacheWriteTTL_defined
  Src.Contextualizer.cacheRead Src.Contextualizer.cacheRead_defined Src.Contextualizer.cacheWrite
  Src.Contextualizer.cacheWrite_defined Src.Contextualizer.cacheWriteTTL Src.Contextualizer.cacheWriteTTL_defined

/-- **The tie holds for this run:** `Gen/CacheTTLSrc.lean` is the result of translating the current source (when the
source leaves the translatable subset a stub without definitions is written and this module stops building). -/
theorem c10_src_translated : Src.translationOk = true := by decide

/-! ## OAuth2 introspection authenticator -/

theorem c10_src_introspection_enabled (cfg : Option Int) :
    Src.Introspection.isCacheEnabled cfg = lookupEnabled .introspection cfg := by
  cases cfg <;> simp <;> src_arith

/-- `(*oauth2IntrospectionAuthenticator).getCacheTTL` is `cacheTTL .introspection`, for every configured TTL, every
expiry (known or not) and every clock value. -/
theorem c10_src_introspection_ttl (cfg exp : Option Int) (now : Int) :
    Src.Introspection.getCacheTTL cfg exp now = cacheTTL .introspection cfg (exp.map (· - now)) := by
  cases cfg <;> cases exp <;> simp <;> src_arith

/-- On no input does `isCacheEnabled` / `getCacheTTL` of the introspection authenticator dereference a nil `a.ttl` or read
the expiry of a response that has none. -/
theorem c10_src_introspection_defined (cfg exp : Option Int) (now : Int) :
    Src.Introspection.isCacheEnabled_defined cfg = true ∧ Src.Introspection.getCacheTTL_defined cfg exp now = true := by
  cases cfg <;> cases exp <;> simp <;> src_arith

/-- **The specification holds for the source itself** (introspection): the TTL is at most what is left of the token
minus the cache leeway, at least one second below what is left, at most the configured `cache_ttl`; `cache_ttl ≤ 0`
switches the lookup off, and with the lookup off nothing is stored. -/
theorem c10_src_introspection_within_spec (cfg exp : Option Int) (now : Int) :
    ttlWithinSpec Mech.introspection.leeway cfg (exp.map (· - now)) (Src.Introspection.getCacheTTL cfg exp now) = true ∧
    enabledWithinSpec cfg (Src.Introspection.isCacheEnabled cfg) = true ∧
    (Src.Introspection.isCacheEnabled cfg = false → Src.Introspection.getCacheTTL cfg exp now ≤ 0) := by
  cases cfg <;> cases exp <;> simp <;> src_arith

/-! ## JWT authenticator (verification keys) -/

theorem c10_src_jwtkey_enabled (cfg : Option Int) :
    Src.JwtKey.isCacheEnabled cfg = lookupEnabled .jwtKey cfg := by
  cases cfg <;> simp <;> src_arith

/-- `(*jwtAuthenticator).getCacheTTL` is `cacheTTL .jwtKey`; `exp` is `NotAfter` of the key's first certificate,
`none` for a key without certificates. -/
theorem c10_src_jwtkey_ttl (cfg exp : Option Int) (now : Int) :
    Src.JwtKey.getCacheTTL cfg exp now = cacheTTL .jwtKey cfg (exp.map (· - now)) := by
  cases cfg <;> cases exp <;> simp <;> src_arith

/-- No nil dereference of `a.ttl`, no `key.Certificates[0]` of a key without certificates. -/
theorem c10_src_jwtkey_defined (cfg exp : Option Int) (now : Int) :
    Src.JwtKey.isCacheEnabled_defined cfg = true ∧ Src.JwtKey.getCacheTTL_defined cfg exp now = true := by
  cases cfg <;> cases exp <;> simp <;> src_arith

theorem c10_src_jwtkey_within_spec (cfg exp : Option Int) (now : Int) :
    ttlWithinSpec Mech.jwtKey.leeway cfg (exp.map (· - now)) (Src.JwtKey.getCacheTTL cfg exp now) = true ∧
    enabledWithinSpec cfg (Src.JwtKey.isCacheEnabled cfg) = true ∧
    (Src.JwtKey.isCacheEnabled cfg = false → Src.JwtKey.getCacheTTL cfg exp now ≤ 0) := by
  cases cfg <;> cases exp <;> simp <;> src_arith

/-! ## generic authenticator -/

/-- `(*genericAuthenticator).getCacheTTL` is `cacheTTL .generic`. The field `a.ttl` is a plain duration, 0 when
`cache_ttl` is not configured; the remaining lifetime is known when a session lifespan object exists (`session`) and
its `exp` is not the zero time. -/
theorem c10_src_generic_ttl (cfg : Option Int) (session : Bool) (exp : Option Int) (now : Int) :
    Src.Generic.getCacheTTL (cfg.getD 0) session exp now
      = cacheTTL .generic cfg (if session then exp.map (· - now) else none) := by
  cases cfg <;> cases exp <;> cases session <;> simp <;> src_arith

/-- `sessionLifespan.exp` is touched only where `sessionLifespan != nil` has been established, its value read only
where it is not the zero time. -/
theorem c10_src_generic_defined (ttl : Int) (session : Bool) (exp : Option Int) (now : Int) :
    Src.Generic.getCacheTTL_defined ttl session exp now = true := by
  cases exp <;> cases session <;> simp <;> src_arith

theorem c10_src_generic_within_spec (cfg : Option Int) (session : Bool) (exp : Option Int) (now : Int) :
    ttlWithinSpec Mech.generic.leeway cfg (if session then exp.map (· - now) else none)
      (Src.Generic.getCacheTTL (cfg.getD 0) session exp now) = true := by
  cases cfg <;> cases exp <;> cases session <;> simp <;> src_arith

/-- the condition under which `getSubjectInformation` consults the cache is `lookupEnabled .generic` -/
theorem c10_src_generic_enabled (cfg : Option Int) :
    Src.Generic.cacheRead (cfg.getD 0) = lookupEnabled .generic cfg ∧
    Src.Generic.cacheRead_defined (cfg.getD 0) = true ∧
    enabledWithinSpec cfg (Src.Generic.cacheRead (cfg.getD 0)) = true := by
  cases cfg <;> simp <;> src_arith

/-! ## OAuth2 client credentials (finalizer and endpoint authentication strategy) -/

theorem c10_src_clientcreds_enabled (cfg : Option Int) :
    Src.ClientCreds.isCacheEnabled cfg = lookupEnabled .clientCreds cfg := by
  cases cfg <;> simp <;> src_arith

/-- `(*Config).getCacheTTL` is `cacheTTL .clientCreds`; `exp` is the `Expiry` of the token endpoint response,
`none` when it is the zero time (`expires_in` absent or 0). -/
theorem c10_src_clientcreds_ttl (cfg exp : Option Int) (now : Int) :
    Src.ClientCreds.getCacheTTL cfg exp now = cacheTTL .clientCreds cfg (exp.map (· - now)) := by
  cases cfg <;> cases exp <;> simp <;> src_arith

/-- No nil dereference of `c.TTL`; `time.Until(resp.Expiry)` is used only where `Expiry` is not the zero time. -/
theorem c10_src_clientcreds_defined (cfg exp : Option Int) (now : Int) :
    Src.ClientCreds.isCacheEnabled_defined cfg = true ∧ Src.ClientCreds.getCacheTTL_defined cfg exp now = true := by
  cases cfg <;> cases exp <;> simp <;> src_arith

/-- In particular a token is dropped from the cache at least a second before it expires. -/
theorem c10_src_clientcreds_within_spec (cfg exp : Option Int) (now : Int) :
    ttlWithinSpec Mech.clientCreds.leeway cfg (exp.map (· - now)) (Src.ClientCreds.getCacheTTL cfg exp now) = true ∧
    enabledWithinSpec cfg (Src.ClientCreds.isCacheEnabled cfg) = true ∧
    (Src.ClientCreds.isCacheEnabled cfg = false → Src.ClientCreds.getCacheTTL cfg exp now ≤ 0) := by
  cases cfg <;> cases exp <;> simp <;> src_arith

/-! ## cache reads and writes inside larger functions: the condition of the innermost `if` around the only
`cch.Get` / `cch.Set` call and the ttl argument of `Set` (`keyed`: a cache key could be computed) -/

/-- **JWT finalizer** (`Execute`): with `f.ttl` the lifetime of the issued tokens (`tokenLifetime cfg`, the factory
applies the default), the token is written to the cache exactly when the model's TTL is positive, and then with
exactly that TTL; it stays below the token's lifetime by the leeway. -/
theorem c10_src_jwtfinalizer_write (cfg : Option Int) (keyed : Bool) :
    Src.JwtFinalizer.cacheWrite (tokenLifetime cfg) keyed
      = (keyed && decide (0 < cacheTTL .jwtFinalizer cfg none)) ∧
    (Src.JwtFinalizer.cacheWrite (tokenLifetime cfg) keyed = true →
      Src.JwtFinalizer.cacheWriteTTL (tokenLifetime cfg) keyed = cacheTTL .jwtFinalizer cfg none ∧
      ttlWithinSpec Mech.jwtFinalizer.leeway none (some (tokenLifetime cfg))
        (Src.JwtFinalizer.cacheWriteTTL (tokenLifetime cfg) keyed) = true) ∧
    Src.JwtFinalizer.cacheWrite_defined (tokenLifetime cfg) keyed = true ∧
    Src.JwtFinalizer.cacheWriteTTL_defined (tokenLifetime cfg) keyed = true := by
  cases cfg <;> cases keyed <;> simp <;> src_arith

/-- **Remote authorizer** (`Execute`): `a.ttl` is the effective `cache_ttl` (0 when not configured). The cache is read
iff `lookupEnabled`, written iff the model's TTL is positive (and a key exists), then with exactly that TTL. -/
theorem c10_src_remoteauthz_read_write (cfg : Option Int) (keyed : Bool) :
    Src.RemoteAuthz.cacheRead (cfg.getD 0) = lookupEnabled .remoteAuthz cfg ∧
    Src.RemoteAuthz.cacheWrite (cfg.getD 0) keyed = (keyed && decide (0 < cacheTTL .remoteAuthz cfg none)) ∧
    (Src.RemoteAuthz.cacheWrite (cfg.getD 0) keyed = true →
      Src.RemoteAuthz.cacheWriteTTL (cfg.getD 0) keyed = cacheTTL .remoteAuthz cfg none ∧
      ttlWithinSpec 0 cfg none (Src.RemoteAuthz.cacheWriteTTL (cfg.getD 0) keyed) = true) ∧
    enabledWithinSpec cfg (Src.RemoteAuthz.cacheRead (cfg.getD 0)) = true ∧
    Src.RemoteAuthz.cacheRead_defined (cfg.getD 0) = true ∧
    Src.RemoteAuthz.cacheWrite_defined (cfg.getD 0) keyed = true ∧
    Src.RemoteAuthz.cacheWriteTTL_defined (cfg.getD 0) keyed = true := by
  cases cfg <;> cases keyed <;> simp <;> src_arith

/-- **Generic contextualizer** (`Execute`): `h.ttl` is the effective `cache_ttl` (the default when not configured;
the factory applies it). -/
theorem c10_src_contextualizer_read_write (cfg : Option Int) (keyed : Bool) :
    let t := cfg.getD Mech.contextualizer.defaultTTL
    Src.Contextualizer.cacheRead t = lookupEnabled .contextualizer cfg ∧
    Src.Contextualizer.cacheWrite t keyed = (keyed && decide (0 < cacheTTL .contextualizer cfg none)) ∧
    (Src.Contextualizer.cacheWrite t keyed = true →
      Src.Contextualizer.cacheWriteTTL t keyed = cacheTTL .contextualizer cfg none ∧
      ttlWithinSpec 0 cfg none (Src.Contextualizer.cacheWriteTTL t keyed) = true) ∧
    enabledWithinSpec cfg (Src.Contextualizer.cacheRead t) = true ∧
    Src.Contextualizer.cacheRead_defined t = true ∧
    Src.Contextualizer.cacheWrite_defined t keyed = true ∧
    Src.Contextualizer.cacheWriteTTL_defined t keyed = true := by
  cases cfg <;> cases keyed <;> simp <;> src_arith

end Heimdall.Props.C10
