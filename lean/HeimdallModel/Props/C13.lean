import HeimdallModel.Lemmas.EntryView
/-!
# C13 — all three entry points decide alike and show the pipeline the same request

Model: `Model/EntryView.lean` (`serve`, `mkCtx`, `Ctx.withReq`; `Impl.fixed` = the Envoy request context with the patches
`fixes/C13-1 … C13-5`, `Impl.next` = with `fixes/C13-6` as well, which is the code of /repo, `Impl.original` = the code
without any).
The theorems hold for every implementation and request with `Spec.covered I lr`. Reference semantics: `Spec/EntryView.lean`
(`Spec.obj`, `Spec.funcs`, `Spec.serve`, `Spec.answer`).

Everything is stated for all logical requests (any method, host, path, query, header lines, body), all rule sets (any
routing table of `Model/Repo.lean`, any pipelines built from conditions and templates over the request view), any
decoder library, both ways Envoy delivers a body, every log level the services run with (`LogLevel`, consulted by the
`dump` middleware of the HTTP based services), every `buffer_limit` block (`Limits`, consulted by the `net/http` servers
of the HTTP based services for the head of a request: `reachesChain`, `listen`), all three entry points. Bodies are
arbitrary byte strings: no statement and no function of the model bounds their length. Hosts are arbitrary byte
strings, with or without a port.

The two side conditions are decidable predicates.
* `Spec.covered I lr`: the implementation is repaired (`fixes/C13-1 … C13-5`); the path is one `net/http` accepts, with
  octets that may not stand in a path only if the Envoy request context encodes them too (`fixes/C13-6`, finding
  `C13-envoy-raw-path-octets`); header names are tokens and none of the hop headers; at most one `Cookie` line.
* `Spec.singleValued`: no upstream header was collected twice (the input class of the known finding
  `C13-first-header-value`).
-/
namespace Heimdall.Props.C13
open Heimdall Heimdall.EntryView

/-! ## The request view -/

/-- **Same view.** For a well-formed logical request every entry point creates *the* request context of the reference
semantics: a caching `Request()` cell whose object is the reference view (method, scheme, host, decoded path, path
and query as written, no captures yet) and the reference view functions (`Header` for every spelling of every name
and for `Host`, `Cookie`, decoded `Body`) — whichever carrier brought the request (HTTP/1.1 message parsed by
`net/http`; `CheckRequest` with the body in either field). Only the `Headers()` map differs, and exactly by the `Host`
entry (`Spec.headersMapAt`, known finding `C13-headers-host-entry`). -/
theorem c13_same_view (D : Decoder) (level : LogLevel) (pack : Bool) {I : Impl} (lr : LReq)
    (hwf : Spec.covered I lr = true) (ep : EP) :
    mkCtx I D level pack ep lr =
      some { ctx := { caches := true, fresh := Spec.obj lr }, funcs := Spec.funcs D lr,
             headersMap := Spec.headersMapAt ep lr, client := Spec.headersMap lr, payload := Spec.payload lr } := by
  simp only [Spec.covered, Spec.repaired, Spec.wellFormed, Bool.and_eq_true, Bool.or_eq_true] at hwf
  obtain ⟨⟨⟨⟨⟨⟨hI1, hI2⟩, hI3⟩, hI4⟩, hI5⟩, ⟨hp, hh⟩, hc⟩, henc⟩ := hwf
  have hq : '?' ∉ lr.rawPath := by
    simp only [Spec.validPath, Bool.and_eq_true, Bool.not_eq_true'] at hp
    exact not_mem_of_contains_false hp.1.1.2
  cases ep
  case envoy =>
    simp only [mkCtx, envoyObj_eq I pack lr hI2 hq henc, envoyFuncs_eq I D pack lr hI3 hI4 hI5 hh hc,
      envoyHeaders_toCheck pack lr hh, hI1]
    rfl
  -- the decision and the proxy service build their request context in the same way
  all_goals
    obtain ⟨u, hu, he, hq⟩ := http_received_path lr hp
    simp only [mkCtx, toHTTP_eq, hu, Option.map_some, dumpMiddleware_id, httpObj_eq lr u he hq, httpFuncs_eq D lr u hh]
    simp only [httpHeadersMap, httpCarrier, strip_plain hh, map_canon_group, httpBody_getD]
    rfl

/-- a well-formed logical request with an escaped path, a query, a header sent twice in different spellings,
    a cookie line and a body -/
def witnessReq : LReq :=
  { method := b!"POST", tls := true, host := b!"app.example.com", rawPath := b!"/files/a%2Fb%20c",
    query := b!"x=1&y=%2F",
    headers := [(b!"X-Tag", b!"a"), (b!"x-tag", b!"b"),
                (b!"Cookie", b!"sid=\"abc\"; t=1"), (b!"content-type", b!"application/json")],
    body := some b!"{\"k\":\"v\"}" }

example : Spec.covered Impl.fixed witnessReq = true := by decide +kernel

/-- a request whose path contains octets that may not stand in a path, next to an encoded slash -/
def witnessWide : LReq := { witnessReq with rawPath := b!"/files/a%2Fb<c>|d" }

/-- covered once the Envoy request context encodes such octets as well (`fixes/C13-6`), not before -/
example : Spec.covered Impl.next witnessWide = true ∧ Spec.covered Impl.fixed witnessWide = false := by decide +kernel

example : (Spec.obj witnessReq).url.path = b!"/files/a/b c" ∧
    Spec.header witnessReq b!"X-TAG" = b!"a,b" ∧ Spec.header witnessReq b!"host" = b!"app.example.com" ∧
    Spec.cookie witnessReq b!"sid" = b!"abc" := by decide +kernel

/-- **The raw path is the received spelling.** For every path `net/http` accepts — whatever Go's URL parser makes of
it — the raw path the HTTP based services show is the path as the client wrote it, with exactly the octets encoded
(`%XX`, upper case) that may not stand in a path; no escape of the client is re-spelled or decoded (so `%2F` next to a
`<` stays `%2F`); the query is the query as written. -/
theorem c13_http_raw_path_is_received_spelling (lr : LReq) (h : Spec.validPath lr.rawPath = true) :
    ∃ u, goParseTarget lr.target = some u ∧ httpEscapedPath u = receivedL lr.rawPath ∧ u.rawQuery = lr.query :=
  http_received_path lr h

/-- a path in valid encoding is shown as written -/
theorem c13_valid_path_is_kept (p : Bytes) (h : validEncodedPath p = true) : receivedL p = p :=
  receivedL_of_valid p h

example : receivedL b!"/a b/%2f<x>/é%41" = b!"/a%20b/%2f%3Cx%3E/%E9%41" := by decide +kernel

/-- header names are case-insensitive in both carriers: Envoy's lower-cased, merged header map, canonicalised, *is*
    the map `net/http` builds (same keys, same order, values joined) -/
theorem c13_header_maps_coincide (pack : Bool) (lr : LReq) (h : Spec.plainHeaders lr = true) :
    envoyHeaders (toCheck pack lr) = (group canonKey lr.headers).map fun kv => (kv.1, join comma kv.2) :=
  envoyHeaders_toCheck pack lr h

/-! ## The view is state: what lookup writes, execution reads -/

/-- **The cached view is a piece of state.** With a caching request context (all three entry points after `C13-1`)
any sequence of code blocks that each call `ctx.Request()` and write through the pointer behaves like a fold over one
object: the next caller sees exactly what the previous ones left. Any number of blocks. -/
theorem c13_view_is_state (c : Ctx) (hc : c.caches = true) (blocks : List (ReqObj → ReqObj)) :
    (c.runBlocks blocks).current = blocks.foldl (fun o f => f o) c.current := by
  induction blocks generalizing c with
  | nil => rfl
  | cons f t ih =>
    simp only [Ctx.runBlocks, List.foldl_cons, withReq_caching c hc]
    rw [ih { c with cell := some (f c.current) } hc]
    simp [Ctx.current, hc]

/-- … and without caching (the original Envoy request context) every write is lost, whatever was written and
    however often: the next caller is handed a freshly made object -/
theorem c13_uncached_view_forgets (c : Ctx) (hc : c.caches = false) (blocks : List (ReqObj → ReqObj)) :
    (c.runBlocks blocks).current = c.fresh := by
  induction blocks generalizing c with
  | nil => simp [Ctx.runBlocks, Ctx.current, hc]
  | cons f t ih =>
    simp only [Ctx.runBlocks, Ctx.withReq, hc, Bool.false_eq_true, if_false]
    exact ih c hc

/-! ## The run -/

/-- **Every entry point refines the reference run.** For a well-formed logical request and any rule set, the answer
of each entry point is the answer the reference semantics gives for the run of the rule set on the reference view —
decision, the view shown to the mechanisms (with the captures), cookies and header names handed to the upstream side;
header values as `Spec.handOver` says. -/
theorem c13_refines_reference (cfg : Cfg) (pack : Bool) {I : Impl} (lr : LReq) (hwf : Spec.covered I lr = true) (ep : EP) :
    serve I cfg pack ep lr = some (Spec.delivered cfg.respond lr ep (Spec.serve cfg lr)) := by
  simp only [serve, c13_same_view cfg.D cfg.logLevel pack lr hwf ep, Option.map_some, Spec.serve]
  exact congrArg some (finalize_of_agrees _ lr ep (execute_caching cfg _ _))

/-- what the caller of an entry point observes is the delivered reference answer -/
theorem c13_outcome_eq_delivered {cfg : Cfg} {pack : Bool} {I : Impl} {lr : LReq} (hwf : Spec.covered I lr = true) {ep : EP}
    {out : Outcome} (hs : serve I cfg pack ep lr = some out) :
    Spec.delivered cfg.respond lr ep (Spec.serve cfg lr) = out :=
  Option.some.inj ((c13_refines_reference cfg pack lr hwf ep).symm.trans hs)

/-- the view an outcome reports is the view of the reference run, held in a caching cell -/
theorem c13_outcome_seen {cfg : Cfg} {pack : Bool} {I : Impl} {lr : LReq} (hwf : Spec.covered I lr = true) {ep : EP}
    {out : Outcome} {s : Seen} (hs : serve I cfg pack ep lr = some out) (hseen : out.seen = some s) :
    (Spec.serve cfg lr).view = some s.obj ∧ s.stable = true := by
  obtain rfl := c13_outcome_eq_delivered hwf hs
  rw [Spec.delivered, answerWith_seen] at hseen
  cases hv : (Spec.serve cfg lr).view with
  | none => rw [hv] at hseen; cases hseen
  | some o => rw [hv] at hseen; cases hseen; exact ⟨rfl, rfl⟩

/-- what an entry point delivers is the reference answer: always at the Envoy service, at the decision and the proxy
    service when no header was collected twice -/
theorem c13_delivered_is_answer (R : Respond) (lr : LReq) (ep : EP) (r : Spec.Run)
    (h : ep = .envoy ∨ Spec.singleValued r = true) :
    Spec.delivered R lr ep r = Spec.answer R lr ep r := by
  simp only [Spec.delivered, Spec.answer, Spec.answerWith, handed_eq_joined ep r h]

/-- **Same answer.** For a well-formed logical request, any rule set and any run in which no upstream header is
collected twice, the three entry points give the answer of the reference semantics: the same decision, the same
request view shown to the mechanisms, the same headers and cookies for the upstream side (a proxy additionally needs
an upstream, which only the default rule lacks). -/
theorem c13_same_answer (cfg : Cfg) (pack : Bool) {I : Impl} (lr : LReq) (hwf : Spec.covered I lr = true)
    (hsv : Spec.singleValued (Spec.serve cfg lr) = true) (ep : EP) :
    serve I cfg pack ep lr = some (Spec.answer cfg.respond lr ep (Spec.serve cfg lr)) := by
  rw [c13_refines_reference cfg pack lr hwf ep, c13_delivered_is_answer _ _ ep _ (Or.inr hsv)]

example : Spec.singleValued
    { dec := .ok, ups := (({} : Ups).addHeader (b!"x-a") (b!"1")).addHeader (b!"X-B") (b!"2") } = true := by decide +kernel

/-- the HTTP decision service and the Envoy gRPC decision service answer identically (`respond.with.accepted.code`
    only says how the HTTP decision service spells "allowed"; it is left unset here) -/
theorem c13_decision_eq_envoy (cfg : Cfg) (pack : Bool) {I : Impl} (lr : LReq) (hwf : Spec.covered I lr = true)
    (hsv : Spec.singleValued (Spec.serve cfg lr) = true) (hacc : cfg.respond.accepted = 0) :
    serve I cfg pack .decision lr = serve I cfg pack .envoy lr := by
  rw [c13_same_answer cfg pack lr hwf hsv, c13_same_answer cfg pack lr hwf hsv]
  simp only [Spec.answer, Spec.answerWith, okStatus, orDefault, hacc]
  cases (Spec.serve cfg lr).dec <;> simp

/-- … and so does the proxy service, for every rule that names an upstream (every rule but the default rule) -/
theorem c13_proxy_eq_decision (cfg : Cfg) (pack : Bool) {I : Impl} (lr : LReq) (hwf : Spec.covered I lr = true)
    (hsv : Spec.singleValued (Spec.serve cfg lr) = true) (hup : (Spec.serve cfg lr).isDefault = false)
    (hacc : cfg.respond.accepted = 0) :
    serve I cfg pack .proxy lr = serve I cfg pack .decision lr := by
  rw [c13_same_answer cfg pack lr hwf hsv, c13_same_answer cfg pack lr hwf hsv]
  simp only [Spec.answer, Spec.answerWith, okStatus, orDefault, hacc, hup]
  cases (Spec.serve cfg lr).dec <;> simp

/-- **Same decision**, with no condition on the run: whatever the pipeline collects, the three entry points decide
alike (a proxy without upstream answers with an internal error instead of forwarding). -/
theorem c13_same_decision (cfg : Cfg) (pack : Bool) {I : Impl} (lr : LReq) (hwf : Spec.covered I lr = true) (ep : EP) :
    (serve I cfg pack ep lr).map (·.dec) = some (Spec.decAt ep (Spec.serve cfg lr)) := by
  rw [c13_refines_reference cfg pack lr hwf ep]
  simp only [Option.map_some, Spec.delivered, answerWith_dec]

/-- **Same status, class by class**, for every response configuration: a refusal of class `d` is answered with
`respond.with.<d>.code` (or the default of the class) — as HTTP status by the decision and the proxy service, as
status of the denied response by the Envoy gRPC service; "allowed" is 200 / OK (`accepted.code` at the decision
service). -/
theorem c13_same_status (cfg : Cfg) (pack : Bool) {I : Impl} (lr : LReq) (hwf : Spec.covered I lr = true) (ep : EP) :
    (serve I cfg pack ep lr).map (·.status) =
      some (if Spec.decAt ep (Spec.serve cfg lr) = .ok then okStatus cfg.respond ep
            else cfg.respond.code (Spec.decAt ep (Spec.serve cfg lr))) := by
  rw [c13_refines_reference cfg pack lr hwf ep]
  simp only [Option.map_some, Spec.delivered, answerWith_status]

/-- a response configuration with pairwise different codes: every class is told apart by its status -/
example : let R : Respond := { argument := 422, authentication := 407, authorization := 404, communication := 504,
                               internal := 503, norule := 410 }
    ([Dec.norule, .argument, .authentication, .authorization, .communication, .internal].map R.code) =
      [410, 422, 407, 404, 504, 503] := by decide +kernel

/-- **Same refusal**: if the request is not allowed, the three entry points give the very same answer — with no
condition on the run or the response configuration -/
theorem c13_same_refusal (cfg : Cfg) (pack : Bool) {I : Impl} (lr : LReq) (hwf : Spec.covered I lr = true) (e1 e2 : EP)
    (h1 : Spec.decAt e1 (Spec.serve cfg lr) ≠ .ok) (h2 : Spec.decAt e2 (Spec.serve cfg lr) ≠ .ok)
    (hd : Spec.decAt e1 (Spec.serve cfg lr) = Spec.decAt e2 (Spec.serve cfg lr)) :
    serve I cfg pack e1 lr = serve I cfg pack e2 lr := by
  rw [c13_refines_reference cfg pack lr hwf, c13_refines_reference cfg pack lr hwf]
  rw [Spec.delivered, Spec.delivered, answerWith_eq, answerWith_eq, if_neg h1, if_neg h2, hd]

/-- **Same view for the mechanisms**, with no condition on the run -/
theorem c13_same_mechanism_view (cfg : Cfg) (pack : Bool) {I : Impl} (lr : LReq) (hwf : Spec.covered I lr = true) (ep : EP) :
    (serve I cfg pack ep lr).map (·.seen.map fun s => (s.obj, s.stable)) =
      some ((Spec.serve cfg lr).view.map fun o => (o, true)) := by
  rw [c13_refines_reference cfg pack lr hwf ep]
  simp only [Option.map_some, Spec.delivered, answerWith_seen]
  cases (Spec.serve cfg lr).view <;> rfl

/-- **Same cookies and same header names for the upstream side**, with no condition on the run -/
theorem c13_same_upstream_cookies (cfg : Cfg) (pack : Bool) {I : Impl} (lr : LReq) (hwf : Spec.covered I lr = true)
    (e1 e2 : EP) (o1 o2 : Outcome) (h1 : serve I cfg pack e1 lr = some o1)
    (h2 : serve I cfg pack e2 lr = some o2) (hd1 : o1.dec = .ok) (hd2 : o2.dec = .ok) :
    o1.upCookies = o2.upCookies ∧ o1.upHeaders.map (·.1) = o2.upHeaders.map (·.1) := by
  obtain rfl := c13_outcome_eq_delivered hwf h1
  obtain rfl := c13_outcome_eq_delivered hwf h2
  rw [Spec.delivered, answerWith_eq, if_pos ((answerWith_dec ..).symm.trans hd1),
    Spec.delivered, answerWith_eq, if_pos ((answerWith_dec ..).symm.trans hd2)]
  exact ⟨rfl, by simp only [List.map_map]; rfl⟩

/-- **The pipeline's header wins, at every entry point.** What the upstream application is shown under a header name
the pipeline handed over is the pipeline's value — whatever the client sent under that name, in whatever spelling and
however often —, and every other header of the client is passed on. -/
theorem c13_pipeline_header_replaces_client_header (cfg : Cfg) (pack : Bool) {I : Impl} (lr : LReq)
    (hwf : Spec.covered I lr = true) (ep : EP) (out : Outcome) (hs : serve I cfg pack ep lr = some out)
    (hok : out.dec = .ok) (name : Bytes) :
    EntryView.lookup name out.upSees =
      (EntryView.lookup name out.upHeaders).orElse fun _ => EntryView.lookup name (Spec.headersMap lr) := by
  obtain rfl := c13_outcome_eq_delivered hwf hs
  rw [Spec.delivered, answerWith_eq, if_pos ((answerWith_dec ..).symm.trans hok), lookup_overrideHeaders]

/-- the client sends `x-user: mallory`, the pipeline sets `X-User: alice`: the upstream is shown `alice` only -/
example : overrideHeaders [(b!"X-User", b!"mallory"), (b!"Accept", b!"*/*")] [(b!"X-User", b!"alice")] =
    [(b!"X-User", b!"alice"), (b!"Accept", b!"*/*")] := by decide +kernel

/-- **Captures survive.** When the lookup finds a rule with captured path values `ps`, the view every mechanism of
that rule is shown — at every entry point — carries exactly these values, decoded according to the rule's
`allow_encoded_slashes` setting, and `ctx.Request()` keeps returning that object. -/
theorem c13_captures_survive (cfg : Cfg) (pack : Bool) {I : Impl} (lr : LReq) (hwf : Spec.covered I lr = true) (ep : EP)
    (v : RVal) (ps : List (String × String))
    (hfind : cfg.repo.findRule cfg.hasDefault (Spec.obj lr).toReqView = .rule v ps)
    (out : Outcome) (s : Seen) (hs : serve I cfg pack ep lr = some out) (hseen : out.seen = some s) :
    s.stable = true ∧
    s.obj.captures = some ((toBytesPairs (lastWins ps)).map fun kv =>
      (kv.1, (unescapeCapture v.esh (str kv.2)).toList)) := by
  obtain ⟨hv, hstable⟩ := c13_outcome_seen hwf hs hseen
  exact ⟨hstable, (serveOn_view hv).2.2.2 v ps hfind⟩

/-- how Envoy delivers the body (`body` or `raw_body`) is irrelevant -/
theorem c13_body_field_irrelevant (cfg : Cfg) {I : Impl} (lr : LReq) (hwf : Spec.covered I lr = true) (ep : EP) :
    serve I cfg true ep lr = serve I cfg false ep lr := by
  rw [c13_refines_reference cfg true lr hwf ep, c13_refines_reference cfg false lr hwf ep]

/-! ## The log level of the services and the length of the body -/

/-- **The view does not depend on the log level.** The services are created with the logger of the configured
`log.level`; the HTTP based services then run the `dump` middleware, which at level `trace` drains the body of the
request into the log and restores it (`dumpMiddleware`), the pipeline code writes more or fewer log lines — but the
request context an entry point creates (the `Request()` cell, `Header`, `Cookie`, decoded `Body`, `Headers()`, the
payload held for the upstream) and the whole answer (decision, status, view shown to the mechanisms, headers, cookies
and payload for the upstream side) are the same at every level. For every implementation variant, logical request
(well-formed or not, body of any length), rule set, decoder library, body attribute and entry point; no hypothesis. -/
theorem c13_view_independent_of_log_level (I : Impl) (cfg : Cfg) (level : LogLevel) (pack : Bool) (ep : EP) (lr : LReq) :
    mkCtx I cfg.D level pack ep lr = mkCtx I cfg.D cfg.logLevel pack ep lr ∧
    serve I { cfg with logLevel := level } pack ep lr = serve I cfg pack ep lr :=
  ⟨mkCtx_level .., serve_congr I pack ep lr rfl rfl rfl rfl rfl rfl⟩

/-- a witness the tie replays at every level: the request of `witnessReq` at `trace` and at `disabled` -/
example (D : Decoder) : (mkCtx Impl.fixed D .trace true .decision witnessReq).map (·.payload) = some b!"{\"k\":\"v\"}" ∧
    (mkCtx Impl.fixed D .disabled true .proxy witnessReq).map (·.payload) = some b!"{\"k\":\"v\"}" := by
  constructor <;> rfl

/-- **Same decoded body and same payload for a body of any length, at every log level.** `b` is an arbitrary
non-empty byte string — there is no bound on its length anywhere in the statement or in the model (`drainBody`,
`Body()` and Envoy's buffered copy hold the whole body): every entry point shows the pipeline `b` decoded according to
the `Content-Type` of the request (the raw bytes if there is no decoder for it or decoding fails) and holds exactly
`b` as the payload for the upstream. (For no body or no bytes the view is the empty string: `c13_same_view`.) -/
theorem c13_same_body (D : Decoder) (level : LogLevel) (pack : Bool) {I : Impl} (lr : LReq)
    (hwf : Spec.covered I lr = true) (ep : EP) (b : Bytes) (hb : lr.body = some b) (hne : b ≠ []) :
    (mkCtx I D level pack ep lr).map (·.funcs.body) = some (decodeBody D (Spec.header lr b!"Content-Type") b) ∧
    (mkCtx I D level pack ep lr).map (·.payload) = some b := by
  rw [c13_same_view D level pack lr hwf ep]
  have he : b.isEmpty = false := by cases b <;> simp_all
  simp [Spec.funcs, Spec.body, Spec.payload, hb, he]

/-- a JSON body `{"data":"x…x"}` with `n` letters -/
def bodyOf (n : Nat) : Bytes := b!"{\"data\":\"" ++ List.replicate n 'x' ++ b!"\"}"

theorem bodyOf_length (n : Nat) : (bodyOf n).length = n + 11 := by
  simp only [bodyOf, List.length_append, List.length_replicate, List.length_cons, List.length_nil]
  omega

/-- a request with a JSON body of 300 011 bytes (well above the 16 KiB at which a bounded dump would stop) -/
def witnessBig : LReq := { witnessReq with body := some (bodyOf 300000) }

example : Spec.covered Impl.fixed witnessBig = true ∧ witnessBig.body = some (bodyOf 300000) := ⟨by decide +kernel, rfl⟩

example : bodyOf 300000 ≠ [] ∧ (bodyOf 300000).length = 300000 + 11 := by
  refine ⟨fun h => ?_, bodyOf_length _⟩
  have hl := congrArg List.length h
  rw [bodyOf_length] at hl
  exact absurd hl (by simp)

/-- **The upstream receives the payload the client sent**, whenever the request is allowed — at every entry point,
at every log level, for a body of any length. -/
theorem c13_same_payload (cfg : Cfg) (pack : Bool) {I : Impl} (lr : LReq) (hwf : Spec.covered I lr = true) (ep : EP)
    (out : Outcome) (hs : serve I cfg pack ep lr = some out) (hok : out.dec = .ok) :
    out.upBody = lr.body.getD [] := by
  obtain rfl := c13_outcome_eq_delivered hwf hs
  rw [Spec.delivered, answerWith_eq, if_pos ((answerWith_dec ..).symm.trans hok)]
  rfl

/-! ## The host as written: a port that is spelled out, the default port of the scheme included -/

/-- **Same host, hostname and port.** For a covered logical request every entry point creates a view whose
`URL.Host` is the host as the client wrote it (the `Host` line of the HTTP message, the `host` attribute Envoy
delivers), so `URL.Hostname()` and `URL.Port()` (`net/url`'s `splitHostPort`) are the parts of *that* string, and
`Header("Host")` is the same string — for every host: with or without a port, whatever the port's number, whatever
the scheme. No entry point normalises the host. -/
theorem c13_same_host_and_port (D : Decoder) (level : LogLevel) (pack : Bool) {I : Impl} (lr : LReq)
    (hwf : Spec.covered I lr = true) (ep : EP) :
    (mkCtx I D level pack ep lr).map (fun e =>
        (e.ctx.fresh.url.host, e.ctx.fresh.url.hostname, e.ctx.fresh.url.port, e.funcs.header b!"Host")) =
      some (lr.host, (splitHostPort lr.host).1, (splitHostPort lr.host).2, lr.host) := by
  rw [c13_same_view D level pack lr hwf ep]
  have hk : canonKey b!"Host" = hostKey := by decide +kernel
  simp only [Option.map_some, Spec.obj, Spec.url, URLv.hostname, URLv.port, Spec.funcs, Spec.header, hk, if_true]

/-- **A port that is spelled out is shown, whatever its number.** If the client wrote `name:port` (a port of digits:
`:8443`, but just as well `:80` over http or `:443` over https, which name the default port of the scheme), every
entry point shows the pipeline that very host, `Hostname()` = `name` (without the brackets of an IPv6 literal) and
`Port()` = `port`. `name` is arbitrary (it may contain colons). -/
theorem c13_spelled_out_port_is_kept (D : Decoder) (level : LogLevel) (pack : Bool) {I : Impl} (lr : LReq)
    (hwf : Spec.covered I lr = true) (ep : EP) (name port : Bytes) (hh : lr.host = name ++ ':' :: port)
    (hd : port.all isDigitA = true) :
    (mkCtx I D level pack ep lr).map (fun e =>
        (e.ctx.fresh.url.host, e.ctx.fresh.url.hostname, e.ctx.fresh.url.port, e.funcs.header b!"Host")) =
      some (name ++ ':' :: port, stripBrackets name, port, name ++ ':' :: port) := by
  rw [c13_same_host_and_port D level pack lr hwf ep, hh, splitHostPort_port name port hd]

/-- the request of `witnessReq` (https) with the default port of its scheme spelled out, and over http with `:80` -/
def witnessPort443 : LReq := { witnessReq with host := b!"shop.example.com:443" }
def witnessPort80 : LReq := { witnessReq with tls := false, host := b!"[2001:db8::1]:80" }

example : Spec.covered Impl.fixed witnessPort443 = true ∧ Spec.covered Impl.fixed witnessPort80 = true ∧
    witnessPort443.scheme = b!"https" ∧ witnessPort80.scheme = b!"http" ∧
    witnessPort443.host = b!"shop.example.com" ++ ':' :: b!"443" ∧ (b!"443").all isDigitA = true ∧
    splitHostPort witnessPort443.host = (b!"shop.example.com", b!"443") ∧
    splitHostPort witnessPort80.host = (b!"2001:db8::1", b!"80") ∧
    splitHostPort b!"shop.example.com" = (b!"shop.example.com", b!"") ∧
    splitHostPort b!"[::1]" = (b!"::1", b!"") ∧ splitHostPort b!"a.example.com:" = (b!"a.example.com", b!"") ∧
    splitHostPort b!"a.example.com:http" = (b!"a.example.com:http", b!"") := by decide +kernel

/-- **Every mechanism reads the host as written.** Whatever rule answers and at whichever entry point: the view a
mechanism of the pipeline is shown has the host and the scheme of the logical request, so a template or a CEL
expression over `Request.URL.Host`, `Request.URL.Hostname()` or `Request.URL.Port()` yields the parts of the host as the
client wrote it — the same value at all three entry points. -/
theorem c13_mechanisms_read_the_written_host (cfg : Cfg) (pack : Bool) {I : Impl} (lr : LReq)
    (hwf : Spec.covered I lr = true) (ep : EP) (out : Outcome) (s : Seen) (hs : serve I cfg pack ep lr = some out)
    (hseen : out.seen = some s) (F : Funcs) :
    Probe.tmpl s.obj F .host = lr.host ∧ Probe.tmpl s.obj F .hostname = (splitHostPort lr.host).1 ∧
    Probe.tmpl s.obj F .port = (splitHostPort lr.host).2 ∧ Probe.tmpl s.obj F .scheme = lr.scheme := by
  obtain ⟨-, hsch, hh, -⟩ := serveOn_view (c13_outcome_seen hwf hs hseen).1
  simp [Probe.tmpl, URLv.hostname, URLv.port, hh, hsch, Spec.obj, Spec.url]

/-! ## The configured buffer limits -/

/-- **The answer does not depend on `buffer_limit`.** `serve.decision.buffer_limit` / `serve.proxy.buffer_limit` bound
what the `net/http` servers read for the request line and the header block (`headerBudget`); a request they hand to
the handler chain (`reachesChain`; the Envoy gRPC service is handed every request) is answered in the same way under any
two configurations of the limits: same request context, same decision, view, headers, cookies and payload for the
upstream side. For every implementation variant, request (covered or not, body of any length), rule set and entry
point. -/
theorem c13_answer_independent_of_buffer_limit (I : Impl) (cfg : Cfg) (l : Limits) (pack : Bool) (ep : EP) (lr : LReq)
    (h1 : reachesChain l ep lr = true) (h2 : reachesChain cfg.limits ep lr = true) :
    listen I { cfg with limits := l } pack ep lr = listen I cfg pack ep lr ∧
    serve I { cfg with limits := l } pack ep lr = serve I cfg pack ep lr := by
  have hs : serve I { cfg with limits := l } pack ep lr = serve I cfg pack ep lr :=
    serve_congr I pack ep lr rfl rfl rfl rfl rfl rfl
  refine ⟨?_, hs⟩
  simp only [listen, h1, h2, if_true, hs]

/-- the body does not count for the admission: only the request line and the header block do -/
theorem c13_admission_ignores_body (l : Limits) (ep : EP) (lr : LReq) (b : Option Bytes) :
    reachesChain l ep { lr with body := b } = reachesChain l ep lr := rfl

/-- **The body is not bounded by `buffer_limit.read`.** For a covered request whose head fits the configured limit and
whose body `b` is an arbitrary non-empty byte string — in particular one (far) longer than `buffer_limit.read` —
every entry point answers as the reference semantics says, shows the pipeline `b` decoded according to the
`Content-Type` of the request and holds exactly `b` as the payload for the upstream. -/
theorem c13_body_not_bounded_by_read_limit (cfg : Cfg) (pack : Bool) {I : Impl} (lr : LReq)
    (hwf : Spec.covered I lr = true) (ep : EP) (hfit : Spec.fits cfg.limits lr = true)
    (b : Bytes) (hb : lr.body = some b) (hne : b ≠ []) :
    listen I cfg pack ep lr = some (some (Spec.delivered cfg.respond lr ep (Spec.serve cfg lr))) ∧
    (mkCtx I cfg.D cfg.logLevel pack ep lr).map (·.funcs.body) =
      some (decodeBody cfg.D (Spec.header lr b!"Content-Type") b) ∧
    (mkCtx I cfg.D cfg.logLevel pack ep lr).map (·.payload) = some b := by
  have hadm : reachesChain cfg.limits ep lr = true := by
    simp only [Spec.fits] at hfit
    simp [reachesChain, hfit]
  refine ⟨?_, c13_same_body cfg.D cfg.logLevel pack lr hwf ep b hb hne⟩
  simp only [listen, hadm, if_true, c13_refines_reference cfg pack lr hwf ep]

/-- the documented defaults (4 KiB each): the head of `witnessBig` fits, its body is 300 011 bytes long -/
example : Spec.fits { read := 4096, write := 4096 } witnessBig = true ∧ witnessBig.headLength = 143 ∧
    headerBudget { read := 4096, write := 4096 } = 8192 ∧ headerBudget {} = 1052672 ∧
    (bodyOf 300000).length > 4096 := by
  refine ⟨by decide +kernel, by decide +kernel, by decide +kernel, by decide +kernel, ?_⟩
  rw [bodyOf_length]
  omega

/-- a head that does not fit is refused by the HTTP based services and decided by the Envoy service: outside the
    statement (`Spec.fits`) -/
example (v : Bytes) (hv : v.length = 5000) :
    let lr : LReq := { witnessReq with headers := [(b!"X-Pad", v)] }
    reachesChain { read := 512 } .decision lr = false ∧ reachesChain { read := 512 } .proxy lr = false ∧
    reachesChain { read := 512 } .envoy lr = true ∧ reachesChain {} .decision lr = true := by
  simp [reachesChain, LReq.headLength, LReq.target, headerBudget, witnessReq, hv]

/-! ## Known findings (kept in the model; the statements above say exactly where they bite) -/

/-- `C13-first-header-value`: a header collected twice reaches the upstream side of the decision and proxy services
    with its first value only, that of the Envoy service with all values -/
theorem c13_same_upstream_headers_partial (r : Spec.Run) (h : Spec.singleValued r = true) (e1 e2 : EP) :
    (r.ups.headers.map fun kv => (kv.1, Spec.handOver e1 kv.2)) =
      r.ups.headers.map fun kv => (kv.1, Spec.handOver e2 kv.2) := by
  rw [handed_eq_joined e1 r (.inr h), handed_eq_joined e2 r (.inr h)]

/-- the side condition cannot be dropped: two finalizers setting `X-User` -/
example : let u := (({} : Ups).addHeader (b!"X-User") (b!"a")).addHeader (b!"x-user") (b!"b")
    (u.headers.map fun kv => (kv.1, Spec.handOver .decision kv.2)) = [(b!"X-User", b!"a")] ∧
    (u.headers.map fun kv => (kv.1, Spec.handOver .envoy kv.2)) = [(b!"X-User", b!"a,b")] := by decide +kernel

/-- `C13-headers-host-entry`: the `Headers()` maps of the HTTP based services and of the Envoy service differ by the
    `Host` entry and by nothing else -/
theorem c13_headers_map_partial (lr : LReq) :
    Spec.headersMapAt .decision lr = (hostKey, lr.host) :: Spec.headersMapAt .envoy lr ∧
    Spec.headersMapAt .proxy lr = Spec.headersMapAt .decision lr := by
  simp [Spec.headersMapAt]

/-- `C13-envoy-raw-path-octets`: for a path with octets that may not stand in a path the Envoy request context without
    `fixes/C13-6` (`Impl.fixed`) keeps the octets in the raw path, the HTTP based services (and the reference view) show
    them encoded — the decoded path is the same; with the patch (`Impl.next`, the code of /repo) the views coincide
    (`c13_same_view` for `Impl.next`) -/
example : (envoyObj Impl.fixed (toCheck true witnessWide)).url.rawPath = b!"/files/a%2Fb<c>|d" ∧
    (Spec.obj witnessWide).url.rawPath = b!"/files/a%2Fb%3Cc%3E%7Cd" ∧
    (envoyObj Impl.fixed (toCheck true witnessWide)).url.path = (Spec.obj witnessWide).url.path ∧
    envoyObj Impl.next (toCheck true witnessWide) = Spec.obj witnessWide := by decide +kernel

/-! ## The defects of the original Envoy request context, at concrete witnesses (`Impl.original`) -/

def check0 : CheckReq := toCheck true witnessReq

/-- C13-1: the lookup stored the captures in an object the rule execution never sees -/
example : ((({ caches := Impl.original.cachesView, fresh := envoyObj Impl.original check0 } : Ctx).runBlocks
    [fun o => { o with captures := some [(b!"id", b!"42")] }]).current).captures = none := by decide +kernel

/-- C13-2: the request target was taken for the path: undecoded, with the query, no raw path (so `%2F` under
    `allow_encoded_slashes: off` was never noticed and re-encoded unreserved characters did not match) -/
example : (envoyObj Impl.original check0).url.path = b!"/files/a%2Fb%20c?x=1&y=%2F" ∧
    (envoyObj Impl.original check0).url.rawPath = [] ∧ (envoyObj Impl.original check0).url.rawQuery = [] ∧
    (Spec.obj witnessReq).url.path = b!"/files/a/b c" ∧
    (Spec.obj witnessReq).url.rawQuery = b!"x=1&y=%2F" := by decide +kernel

/-- C13-3: header lookup by the exact canonical spelling only; no `Host` -/
example : envoyHeader Impl.original check0 b!"x-tag" = [] ∧ envoyHeader Impl.original check0 b!"Host" = [] ∧
    envoyHeader Impl.fixed check0 b!"x-tag" = b!"a,b" ∧
    envoyHeader Impl.fixed check0 b!"Host" = b!"app.example.com" := by decide +kernel

/-- C13-4: cookie values were not parsed as `net/http` does (quotes kept) -/
example : envoyCookie Impl.original check0 b!"sid" = b!"\"abc\"" ∧
    envoyCookie Impl.fixed check0 b!"sid" = b!"abc" := by decide +kernel

/-- C13-5: a body delivered in the `body` attribute (Envoy's default) was ignored -/
example : ∀ D : Decoder, envoyBody Impl.original D (toCheck false witnessReq) = decodeBody D b!"application/json" [] ∧
    envoyBody Impl.fixed D (toCheck false witnessReq) =
      decodeBody D b!"application/json" b!"{\"k\":\"v\"}" := by
  intro D
  constructor <;> rfl

/-! ## A trusted gateway delegating the decision (`serve.decision.trusted_proxies`, `X-Forwarded-*`)

The HTTP decision service learns the logical request from a gateway (Traefik `forwardAuth`, NGINX `auth_request`, …)
that sends a request of its own — any method, any request target, over any transport — and describes the request of
the client in `X-Forwarded-Method`, `-Proto`, `-Host`, `-Uri` (`forwardAuth`). The peer is a trusted proxy, so the
`trustedproxy` middleware keeps the headers and `extractMethod` / `extractURL` read the view from them
(`httpObjFwd`, `mkCtxFwd`, `serveFwd`). -/

/-- **A delegated request is shown as the logical request.** For every gateway (method, transport and target of its
own request), every log level and every logical request with a path `net/http` accepts that can be described in the
forwarded headers (`Spec.forwardable`: method and host not empty, path in origin form, no `#`), the request context of
the decision service holds *the* view of the logical request — method, scheme, host as written, the path **as written
from its first to its last octet** (in the received spelling) and its decoding, the query as written, whatever octets
path and query consist of: a comma, a semicolon, `=`, `&`, `%2F` … are octets like any other and nothing of the
`X-Forwarded-Uri` value is cut off or treated as a list —, the view functions answer every header other than the hop
headers (in every spelling), `Host`, every cookie and the decoded body as the reference semantics says, and the payload
is the body. These are exactly the view and the functions `c13_same_view` establishes for the proxy service and the
Envoy gRPC service receiving the request itself. -/
theorem c13_delegated_request_is_the_logical_request (D : Decoder) (level : LogLevel) (g : Gateway) (lr : LReq)
    (hp : Spec.validPath lr.rawPath = true) (hf : Spec.forwardable lr = true) (hg : Spec.validPath g.path = true) :
    ∃ e, mkCtxFwd D level g lr = some e ∧ e.ctx.caches = true ∧ e.ctx.cell = none ∧ e.ctx.fresh = Spec.obj lr ∧
      (∀ name, untrustedHeaders.contains (canonKey name) = false → e.funcs.header name = Spec.header lr name) ∧
      e.funcs.cookie = Spec.cookie lr ∧ e.funcs.body = Spec.body D lr ∧ e.payload = Spec.payload lr := by
  obtain ⟨u, hu, -, hq⟩ := http_received_path (forwardAuth g lr) hg
  obtain ⟨f1, f2, f3⟩ := httpFuncsOn_forwardAuth D g lr u
  exact ⟨_, by simp only [mkCtxFwd, toHTTP_eq, hu, Option.map_some, dumpMiddleware_id, trustedProxyMiddleware, if_true]; rfl,
    rfl, rfl, httpObjFwd_forwardAuth g lr hp hf u hq, f1, f2, f3, httpBody_getD lr.body⟩

/-- **Delegated or received directly: the same view.** The object `Request()` hands to the rule lookup, to the rule
execution and to every mechanism at the decision service behind a trusted gateway is the object of every entry point
that receives the logical request itself (decision, proxy, Envoy gRPC), for every covered request that can be described
in forwarded headers. -/
theorem c13_delegated_view_eq_direct_view (D : Decoder) (level : LogLevel) (pack : Bool) {I : Impl} (g : Gateway)
    (lr : LReq) (hc : Spec.covered I lr = true) (hf : Spec.forwardable lr = true)
    (hg : Spec.validPath g.path = true) (ep : EP) :
    (mkCtxFwd D level g lr).map (·.ctx.fresh) = (mkCtx I D level pack ep lr).map (·.ctx.fresh) ∧
    (mkCtxFwd D level g lr).map (·.funcs.cookie) = (mkCtx I D level pack ep lr).map (·.funcs.cookie) ∧
    (mkCtxFwd D level g lr).map (·.funcs.body) = (mkCtx I D level pack ep lr).map (·.funcs.body) ∧
    (mkCtxFwd D level g lr).map (·.payload) = (mkCtx I D level pack ep lr).map (·.payload) := by
  have hp : Spec.validPath lr.rawPath = true := by
    simp only [Spec.covered, Spec.wellFormed, Bool.and_eq_true] at hc
    exact hc.1.2.1.1
  obtain ⟨e, he, -, -, ho, -, hck, hbd, hpl⟩ := c13_delegated_request_is_the_logical_request D level g lr hp hf hg
  rw [he, c13_same_view D level pack lr hc ep]
  refine ⟨?_, ?_, ?_, ?_⟩ <;> simp [ho, hck, hbd, hpl, Spec.funcs]

/-- a path and a query with commas (legal sub-delimiters, not list separators), delegated by a gateway that asks with
    `GET /decide` over a plain connection while the client used `POST` over TLS -/
def witnessComma : LReq :=
  { method := b!"POST", tls := true, host := b!"api.example.com", rawPath := b!"/items/1,2,3",
    query := b!"fields=name,price", headers := [(b!"X-Tag", b!"a")], body := none }

def witnessGateway : Gateway := { method := some b!"GET", tls := false, path := b!"/decide" }

example : Spec.covered Impl.fixed witnessComma = true ∧ Spec.forwardable witnessComma = true ∧
    Spec.validPath witnessGateway.path = true := by decide +kernel

example : (toHTTP (forwardAuth witnessGateway witnessComma)).map httpObjFwd =
    some { method := b!"POST",
           url := { scheme := b!"https", host := b!"api.example.com", path := b!"/items/1,2,3",
                    rawPath := b!"/items/1,2,3", rawQuery := b!"fields=name,price" },
           captures := none } := by decide +kernel

/-- outside `Spec.forwardable`: a `#` in the request target would be read as the start of a fragment -/
example : Spec.forwardable { witnessComma with rawPath := b!"/a#b" } = false := by decide +kernel

end Heimdall.Props.C13
