import HeimdallModel.Lemmas.Matcher
import HeimdallModel.Lemmas.RepoInv
import HeimdallModel.Props.C02
/-!
# C03 — match conditions and captured path values behave as documented

Statements about `routeMatches` (`internal/rules/route_matcher.go`), the effective method list
(`createMethodMatcher`) and about what the repository exposes as captured values.  Glob and regular expressions are
trusted libraries; a typed matcher is any `TM` with its `matches` predicate.
-/
namespace Heimdall.Props.C03
open Heimdall

/-- **A route matches iff scheme, method, host and every path parameter condition hold**; the host has to satisfy
any one of the listed expressions. -/
theorem c03_route_matches (r : RouteM) (q : ReqView) (keys caps : List String) :
    routeMatches r q keys caps = true ↔
      (r.scheme = "" ∨ r.scheme = q.scheme) ∧
      (r.methods = [] ∨ q.method ∈ r.methods) ∧
      (r.hosts = [] ∨ ∃ h ∈ r.hosts, h.matches q.host = true) ∧
      ∀ pp ∈ r.pps, ppOk r.esh q keys caps pp = true := by
  unfold routeMatches schemeOk methodOk hostOk
  simp only [Bool.and_eq_true, Bool.or_eq_true, List.isEmpty_iff, beq_iff_eq, List.contains_eq_mem,
    decide_eq_true_eq, List.any_eq_true, List.all_eq_true, String.isEmpty_iff, and_assoc]

/-- **Path parameter condition**: the named wildcard exists among the route's wildcard names, and its matched
value — percent-decoded according to the rule's encoded-slash setting — satisfies the expression; with the setting
`off` a request containing an encoded slash satisfies no path parameter condition. -/
theorem c03_path_param (esh : SlashHandling) (q : ReqView) (keys caps : List String) (name : String) (tm : TM)
    (hraw : q.rawPath.isEmpty = false) :
    ppOk esh q keys caps (name, tm) = true ↔
      ∃ v, lookupKey keys caps name = some v ∧
        ¬ (esh = .off ∧ containsEncodedSlash q.rawPath = true) ∧
        tm.matches (unescapeCapture esh v) = true := by
  unfold ppOk
  cases lookupKey keys caps name with
  | none => simp
  | some v =>
    simp only [hraw, Bool.false_eq_true, if_false, Option.some.injEq, exists_eq_left', Bool.and_eq_true,
      decide_eq_true_eq]
    by_cases hc : esh = .off ∧ containsEncodedSlash q.rawPath = true <;> simp [hc]

/-- `lookupKey` finds the value captured for the first wildcard of that name -/
theorem c03_lookupKey_mem (keys caps : List String) (name v : String) (h : lookupKey keys caps name = some v) :
    (name, v) ∈ keys.zip caps := by
  induction keys generalizing caps with
  | nil => cases h
  | cons k ks ih =>
    cases caps with
    | nil => cases h
    | cons c cs =>
      unfold lookupKey at h
      split at h
      · next hk => cases h; exact hk ▸ List.mem_cons_self
      · exact List.mem_cons_of_mem _ (ih cs h)

/-- **Methods**: with `ALL` standing for the nine standard methods, a method is accepted iff it is listed, is not
itself a negated entry and is not excluded by a `!method` entry. -/
theorem c03_methods (l ms : List String) (h : mkMethods l = some ms) (m : String) :
    m ∈ ms ↔ m ∈ expandAll l ∧ isNeg m = false ∧ ("!" ++ m) ∉ expandAll l := by
  rcases mkMethods_eq_some h with ⟨rfl, rfl⟩ | ⟨-, -, l₂, hl2, rfl⟩
  · simp [expandAll]
  · simp only [List.mem_filter, List.contains_eq_mem, Bool.not_eq_eq_eq_not, Bool.not_true, decide_eq_false_iff_not,
      hl2, List.mem_map, not_and, not_exists, Bool.not_eq_true]
    constructor
    · rintro ⟨⟨h1, h2⟩, h3⟩
      have hneg : isNeg m = false := h2 h1
      refine ⟨h1, hneg, fun hbang => ?_⟩
      exact h3 ("!" ++ m) ⟨hbang, (isNeg_iff _).mpr ⟨m, rfl⟩⟩ (dropBang_bang m)
    · rintro ⟨h1, h2, h3⟩
      refine ⟨⟨h1, fun _ => h2⟩, ?_⟩
      intro x ⟨hx1, hx2⟩ hd
      obtain ⟨r, rfl⟩ := (isNeg_iff x).mp hx2
      rw [dropBang_bang] at hd
      subst hd
      exact h3 hx1

example : mkMethods ["ALL", "!POST", "!TRACE"] = some ["CONNECT", "DELETE", "GET", "HEAD", "OPTIONS", "PATCH", "PUT"] := by
  decide +kernel

/-- **The method clause, end to end**: for the route built from a configured list `l` the request's method is
accepted iff nothing is configured, or the method is listed (directly or through `ALL`), is not a negated entry and
is not excluded by `!method`.  In particular a configured list never degenerates to "any method": a list that allows
nothing (`["!GET"]`, `["GET", "!GET"]`) is a configuration error (`mkMethods = none`, instances in
`c03_method_list_allowing_nothing_is_rejected`; what `mkMethods` does return for a non-empty list is non-empty,
`mkMethods_nonempty`). -/
theorem c03_method_clause (l ms : List String) (h : mkMethods l = some ms) (r : RouteM) (hr : r.methods = ms)
    (q : ReqView) :
    methodOk r q = true ↔
      l = [] ∨ (q.method ∈ expandAll l ∧ isNeg q.method = false ∧ ("!" ++ q.method) ∉ expandAll l) := by
  rw [← c03_methods l ms h, methodOk, hr]
  rcases mkMethods_eq_some h with ⟨rfl, rfl⟩ | ⟨hl, hms, -⟩
  · simp
  · simp [hl, hms]

theorem c03_method_list_allowing_nothing_is_rejected :
    mkMethods ["!GET"] = none ∧ mkMethods ["GET", "!GET"] = none ∧ mkMethods ["ALL", "!GET"] ≠ none := by decide +kernel

theorem c03_expandAll (l : List String) (m : String) :
    m ∈ expandAll l ↔ (m ∈ l ∧ ("ALL" ∈ l → m ≠ "ALL")) ∨ ("ALL" ∈ l ∧ m ∈ stdMethods) := by
  unfold expandAll
  by_cases h : "ALL" ∈ l <;> simp [h]

/-- **Captured values.** Whenever the repository answers with a rule, that rule is one of the known rules, one of its
routes' path expressions matches the (normalised) request path in the sense of the reference semantics `matchCaps`,
the route's conditions hold for the wildcard names of that expression and the matched segments, and the exposed
parameters are exactly the named wildcards paired with their matched segments — unnamed wildcards (`*`) are not
exposed. -/
theorem c03_captures (s : Repo) (hinv : RepoInv s) (hasDefault : Bool) (q : ReqView) (v : RVal)
    (ps : List (String × String)) (h : s.findRule hasDefault q = .rule v ps) :
    ∃ r ∈ s.known, ∃ rt ∈ r.cfg.routes, ∃ pat keys caps,
      parsePat rt.1 = .ok (pat, keys) ∧
      v = ⟨r.cfg.id, r.src, r.cfg.esh, rt.2, r.cfg.ver⟩ ∧
      matchCaps pat (tokenize (lookupPath q)) = some caps ∧
      routeMatches rt.2 q keys caps = true ∧
      ps = (keys.zip caps).filter (fun kv => kv.1 ≠ "*") := by
  obtain ⟨f, hf, rfl, rfl⟩ := (lookup_eq_some _).mp (findRule_eq_rule.mp h)
  obtain ⟨n, hn, hmatch, hkeys, hval, -⟩ := Heimdall.Props.C02.c02_most_specific (repoMatcher q) s.index hinv.nodup _ f hf
  obtain ⟨r, hr, rt, hrt, hp, hv⟩ := inv_entry_origin hinv hn (List.mem_of_find?_eq_some hval)
  have hacc : repoMatcher q f.value n.keys f.caps = true := List.find?_some (p := fun v => repoMatcher q v n.keys f.caps) hval
  rw [hv] at hacc
  exact ⟨r, hr, rt, hrt, n.pat, n.keys, f.caps, hp, hv, hmatch, hacc, by rw [← hkeys]; rfl⟩

/-- the start of the execution goes through only if the encoded-slash switch lets the request pass, and then exposes
the looked-up parameters, last value per name, decoded -/
theorem execPrelude_ok {esh : SlashHandling} {q : ReqView} {ps e : List (String × String)}
    (h : execPrelude esh q ps = .ok e) :
    ¬ (esh = .off ∧ containsEncodedSlash q.rawPath = true) ∧
      e = (lastWins ps).map fun kv => (kv.1, unescapeCapture esh kv.2) := by
  unfold execPrelude at h
  split at h
  · cases h
  · next hc => cases h; exact ⟨by simpa using hc, rfl⟩

/-- **Exposed values, end to end** (`serve` = lookup + the part of rule execution before the pipeline): when a
regular rule answers and the request is accepted, the values exposed under the wildcard names are the named wildcards
of one of the rule's routes paired with the matched segments of the (normalised) request path — a name used twice
keeps its last segment —, each percent-decoded according to the rule's encoded-slash setting; unnamed wildcards are
not exposed; and a rule with the setting `off` never accepts a request whose path contains an encoded slash. -/
theorem c03_exposed (s : Repo) (hinv : RepoInv s) (d : Bool) (q : ReqView) (src rid : String)
    (exposed : List (String × String)) (hsrc : src ≠ "config")
    (h : s.serve d q = ⟨some (src, rid), some (.ok exposed)⟩) :
    ∃ r ∈ s.known, ∃ rt ∈ r.cfg.routes, ∃ pat keys segs,
      r.src = src ∧ r.cfg.id = rid ∧
      parsePat rt.1 = .ok (pat, keys) ∧
      matchCaps pat (tokenize (lookupPath q)) = some segs ∧
      routeMatches rt.2 q keys segs = true ∧
      exposed = (lastWins ((keys.zip segs).filter (fun kv => kv.1 ≠ "*"))).map
        (fun kv => (kv.1, unescapeCapture r.cfg.esh kv.2)) ∧
      ¬ (r.cfg.esh = .off ∧ containsEncodedSlash q.rawPath = true) := by
  unfold Repo.serve at h
  cases hf : s.findRule d q with
  | none => rw [hf] at h; cases h
  | default =>
    simp only [hf, Served.mk.injEq, Option.some.injEq, Prod.mk.injEq] at h
    exact absurd h.1.1.symm hsrc
  | rule v ps =>
    simp only [hf, Served.mk.injEq, Option.some.injEq, Prod.mk.injEq] at h
    obtain ⟨⟨rfl, rfl⟩, hex⟩ := h
    obtain ⟨r, hrk, rt, hrt, pat, keys, segs, hp, rfl, hm, hrm, rfl⟩ := c03_captures s hinv d q v ps hf
    obtain ⟨hoff, rfl⟩ := execPrelude_ok hex
    exact ⟨r, hrk, rt, hrt, pat, keys, segs, rfl, rfl, hp, hm, hrm, rfl, hoff⟩

theorem lastWins_go (acc ps : List (String × String)) (h : ((acc ++ ps).map (·.1)).Nodup) :
    ps.foldl (fun acc kv => (acc.filter (fun a => a.1 != kv.1)) ++ [kv]) acc = acc ++ ps := by
  induction ps generalizing acc with
  | nil => exact (List.append_nil _).symm
  | cons kv rest ih =>
    -- no entry of `acc` carries the name of `kv`, so the filter removes nothing
    have hfil : acc.filter (fun a => a.1 != kv.1) = acc :=
      List.filter_eq_self.mpr fun a ha => bne_iff_ne.mpr
        ((List.nodup_append.mp (List.map_append ▸ h)).2.2 a.1 (List.mem_map_of_mem ha) kv.1 List.mem_cons_self)
    rw [List.foldl_cons, hfil, ih _ (by rwa [List.append_assoc]), List.append_assoc]
    rfl

/-- with distinct names nothing is overwritten -/
theorem lastWins_nodup (ps : List (String × String)) (h : (ps.map (·.1)).Nodup) : lastWins ps = ps := by
  unfold lastWins
  simpa using lastWins_go [] ps (by simpa using h)

/-- **The value a condition is checked on is the value exposed** — when the named wildcards of the expression have
distinct names: the segment `path_params` looks up for `name` is the one exposed under `name`. -/
theorem c03_checked_value_is_exposed (keys caps : List String) (name v : String) (hname : name ≠ "*")
    (hnd : ((keys.zip caps).filter (fun kv => kv.1 ≠ "*")).map (·.1) |>.Nodup)
    (h : lookupKey keys caps name = some v) :
    (name, v) ∈ lastWins ((keys.zip caps).filter (fun kv => kv.1 ≠ "*")) := by
  rw [lastWins_nodup _ hnd]
  exact List.mem_filter.mpr ⟨c03_lookupKey_mem keys caps name v h, by simpa using hname⟩

/-- with a name used twice (`/d/:a/:a`) the condition is checked on the first segment and the last one is exposed -/
example : lookupKey ["a", "a"] ["x", "y"] "a" = some "x" ∧
    lastWins ((["a", "a"].zip ["x", "y"]).filter (fun kv => kv.1 ≠ "*")) = [("a", "y")] := by decide +kernel


end Heimdall.Props.C03
