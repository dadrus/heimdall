import HeimdallModel.Lemmas.CacheExec
import HeimdallModel.Lemmas.CacheReload
import HeimdallModel.Spec.CacheDeps
import HeimdallModel.Gen.CacheKeys
import HeimdallModel.Spec.CacheWitness
/-!
# C11 — cached results are reused exactly for requests equal in all they depend on

* Model: `Model/CacheKey.lean` (what a key function writes into its hash; the field lists are regenerated from the Go
  source into `Gen/CacheKeys.lean`), `Model/CacheExec.lean` (lookup / remote call / validation / store).
* Spec: `Spec/CacheReuse.lean` (`direct`, `Transparent`, `KeySoundOn`), `Spec/CacheDeps.lean` (what a fresh
  evaluation reads, per mechanism), `Spec/CacheWitness.lean` (concrete values used by the examples).

All statements hold for an arbitrary hash function `H`; where the code relies on SHA-256 being collision free the
statement says so explicitly (`NoCollisionOn`, or a disjunct exhibiting the colliding pre-images).
-/
namespace Heimdall.Props.C11
open Heimdall.CacheKey Heimdall.CacheExec Heimdall.CacheExec.Witness Heimdall.Gen.CacheKeys

/-! ## Keys: unique decoding, determinism -/

/-- A delimited field list (self-delimiting writes, at most one trailing plain value) determines every value written:
two evaluations that feed the same bytes into the hash agree on every field. Any number of fields, list entries, map
entries, any byte strings. -/
theorem c11_key_injective (fs : List Field) (hd : delimited fs = true) (env env' : Env)
    (hw : wt fs env = true) (hw' : wt fs env' = true) (h : encode fs env = encode fs env') :
    ∀ f ∈ fs, f.dep.view env = f.dep.view env' :=
  encode_inj fs hd env env' hw hw' h

set_option maxRecDepth 8000 in
/-- hypotheses of `c11_key_injective` hold for the remote authorizer of the current source and two requests that differ
only by a shifted key/value boundary — and the written bytes do differ -/
example : delimited remoteAuthorizer = true ∧ wt remoteAuthorizer envA = true ∧ wt remoteAuthorizer envB = true ∧
    encode remoteAuthorizer envA ≠ encode remoteAuthorizer envB := by decide +kernel

/-- without delimiters the hypothesis fails and so does the conclusion: client `ab`/secret `c`/scopes `[a, b]` and client
`a`/secret `bc`/scopes `[ab]` fed the same bytes into the hash of the original code -/
example : delimited legacyClientCredentials = false ∧
    encode legacyClientCredentials
      { str := fun s => if s = "c.ClientID" then [97, 98] else if s = "c.ClientSecret" then [99] else [],
        lst := fun s => if s = "c.Scopes" then [[97], [98]] else [] } =
    encode legacyClientCredentials
      { str := fun s => if s = "c.ClientID" then [97] else if s = "c.ClientSecret" then [98, 99] else [],
        lst := fun s => if s = "c.Scopes" then [[97, 98]] else [] } := by decide +kernel

/-- Equal keys mean equal inputs, or a collision of the hash function has been found. -/
theorem c11_key_separates (H : Bytes → Bytes) (fs : List Field) (hd : delimited fs = true) (env env' : Env)
    (hw : wt fs env = true) (hw' : wt fs env' = true) (h : key H fs env = key H fs env') :
    (∀ f ∈ fs, f.dep.view env = f.dep.view env') ∨
      (encode fs env ≠ encode fs env' ∧ H (encode fs env) = H (encode fs env')) :=
  (Decidable.em (encode fs env = encode fs env')).imp (encode_inj fs hd env env' hw hw') fun he => ⟨he, h⟩

/-- A field list without a direct range over a Go map yields the same key whatever order the runtime iterates the maps
in (any number of headers / values). -/
theorem c11_key_deterministic (H : Bytes → Bytes) (fs : List Field) (ho : ordered fs = true) (env env' : Env)
    (hr : Reorder env env') (hn : env.nodupKeys) : key H fs env = key H fs env' :=
  congrArg H (encode_reorder ho hr hn)

/-- hypotheses of `c11_key_deterministic`: three values iterated in opposite orders -/
example : ordered remoteAuthorizer = true ∧ Reorder envA envA' ∧ envA.nodupKeys :=
  ⟨by decide +kernel, ⟨rfl, rfl, rfl, rfl, fun _ => (List.reverse_perm _).symm⟩,
   fun s => by unfold envA; dsimp only; split <;> decide +kernel⟩

/-- …and that condition is needed: a direct range over a map (as in the original `Endpoint.Hash` and
`calculateCacheKey`) makes the written bytes depend on the iteration order as soon as the map has two entries. -/
theorem c11_unordered_map_order_dependent (pre post : List Field) (s : String) (ho : ordered pre = true) :
    ∃ env env' : Env, Reorder env env' ∧ env.nodupKeys ∧
      encode (pre ++ .mapRaw s :: post) env ≠ encode (pre ++ .mapRaw s :: post) env' := by
  let m : List (Bytes × Bytes) := [([1], []), ([2], [])]
  let env : Env := { map := fun _ => m }
  let env' : Env := { map := fun _ => m.reverse }
  have hr : Reorder env env' := ⟨rfl, rfl, rfl, rfl, fun _ => (List.reverse_perm m).symm⟩
  have hm : (m.map Prod.fst).Nodup := by decide +kernel
  have hn : env.nodupKeys := fun _ => hm
  refine ⟨env, env', hr, hn, ?_⟩
  have hpre : encode pre env = encode pre env' := encode_reorder ho hr hn
  intro h
  rw [encode_append, encode_append, hpre] at h
  -- what follows the common prefix starts with `1, 2` on one side and with `2, 1` on the other
  cases List.append_cancel_left h

/-- the original `Endpoint.Hash` has that shape (`pre` = url and method), e.g. with the two default headers of the
introspection endpoint -/
example : legacyEndpoint = [.raw "e.URL", .raw "e.Method"] ++ .mapRaw "e.Headers" ::
    [.opt "e.AuthStrategy != nil" (.fixed 32 "e.AuthStrategy.Hash()")] ∧ ordered [.raw "e.URL", .raw "e.Method"] = true :=
  ⟨rfl, by decide +kernel⟩

/-! ## Mechanisms: enabling the cache never changes a decision -/

/-- **Transparency.** If a value read back from the cache is the value that was stored (`Lossless`), equal keys imply
equal fresh results, and the rule-level validation is either repeated on a hit or the same for requests with equal keys, then in every history (any length, any times, any mix of rules and requests)
every request observes exactly the decision it would get without a cache. -/
theorem c11_transparent {Req Resp : Type} (m : Mech Req Resp) (h : List (Nat × Req)) (hl : Lossless m)
    (hs : KeySoundOn m (h.map (·.2))) : Transparent m h :=
  run_sound m hl (h.map (·.2)) hs h Store.empty (storeSound_empty m _)
    (fun tr htr => List.mem_map.mpr ⟨tr, htr, rfl⟩)

/-- `KeySoundOn` holds for `demo true` on a history in which rule 5 asks for a token cached under rule 1, and the
decisions are those of the uncached mechanism (the third request is rejected although it hits) -/
example : Lossless (demo true) ∧ KeySoundOn (demo true) ([(0, (3, 1)), (1, (3, 1)), (2, (3, 5)), (3, (9, 5))].map (·.2)) ∧
    (run (demo true) Store.empty [(0, (3, 1)), (1, (3, 1)), (2, (3, 5)), (3, (9, 5))]).map (fun s => (s.out, s.hit)) =
      [(.ok 3, false), (.ok 3, true), (.rejected, true), (.ok 9, false)] :=
  ⟨fun _ => rfl, fun _ _ _ _ hk => ⟨demo_fresh_of_key hk, Or.inl rfl⟩, by decide +kernel⟩

/-- `Lossless` is needed: if the serialisation used for caching changes a value (the remote authorizer and the generic
contextualizer cached a YAML or form payload as JSON, see fixes/C11-7), the identical request is decided differently
once it is answered from the cache — with a sound key and validation repeated on every hit. -/
theorem c11_lossy_cache_changes_decision :
    KeySoundOn lossy ([(0, (3, 3)), (1, (3, 3))].map (·.2)) ∧ ¬ Transparent lossy [(0, (3, 3)), (1, (3, 3))] :=
  ⟨fun _ _ _ _ hk => ⟨demo_fresh_of_key (b := true) hk, Or.inl rfl⟩, by unfold Transparent; decide +kernel⟩

/-- Transparency for a mechanism whose key is `H` of a field list: decidable conditions on the (generated) field list,
the only assumption about `H` is that it does not collide on the byte strings of this history. -/
theorem c11_keyed_transparent {Resp : Type} (H : Bytes → Bytes) (fs : List Field) (deps : List Dep)
    (remote : List View → Option Resp) (accepts : Nat → Resp → Bool) (recheck : Bool) (h : List (Nat × KReq))
    (hd : delimited fs = true) (hc : covers deps fs = true)
    (hw : ∀ tr ∈ h, wt fs tr.2.env = true)
    (hH : NoCollisionOn H (h.map fun tr => encode fs tr.2.env))
    (hp : recheck = true ∨ ∀ p p' v, accepts p v = accepts p' v) :
    Transparent (keyed H fs deps remote accepts recheck) h :=
  c11_transparent _ _ keyed_lossless (keyed_sound H fs deps remote accepts recheck h (·.2) hd hc hw hH hp)

/-- hypotheses of `c11_keyed_transparent` for the introspection authenticator of the current source, `H` the identity:
the same token under two rules, then another token -/
example : ∃ h : List (Nat × KReq), h.length = 3 ∧ (∀ tr ∈ h, wt introspection tr.2.env = true) ∧
    NoCollisionOn id (h.map fun tr => encode introspection tr.2.env) ∧
    delimited introspection = true ∧ covers (deps "introspection") introspection = true :=
  let e (tok : Bytes) : Env := { str := fun s => if s = "token" then tok else if s = "id" then [105] else [] }
  ⟨[(0, ⟨e [116, 49], 0, true, 600⟩), (1, ⟨e [116, 49], 1, true, 600⟩), (2, ⟨e [116, 50], 1, true, 600⟩)], rfl,
    by decide +kernel, fun _ _ _ _ h => h, by decide +kernel⟩

/-- The condition on validation is needed: a mechanism that neither repeats the rule-level validation on a hit nor
separates the rules by key (the original introspection authenticator and remote authorizer) hands a result accepted
under one rule to a request of a rule that rejects it. -/
theorem c11_policy_blind_reuse_changes_decision :
    (∀ r r', (demo false).key r = (demo false).key r' → (demo false).fresh r = (demo false).fresh r') ∧
      ¬ Transparent (demo false) [(0, (3, 1)), (1, (3, 5))] :=
  ⟨fun _ _ => demo_fresh_of_key, by unfold Transparent; decide +kernel⟩

/-! ## Mechanisms: identical requests are answered from the cache -/

/-- **Reuse.** Once a request has been answered by the remote system and stored (cache enabled, lifetime `> 0`), then
in every continuation, every request mapped to the same key before the entry expires reaches the cache and causes no
remote call — whatever else happens in between. -/
theorem c11_reuse {Req Resp : Type} (m : Mech Req Resp) (st : Store Resp) (t : Nat) (r : Req) (v : Resp)
    (hmiss : (step m st t r).hit = false) (hok : (step m st t r).out = .ok v)
    (hen : m.enabled r = true) (httl : m.ttl r v > 0)
    (h : List (Nat × Req)) (hlive : ∀ tr ∈ h, tr.1 < t + m.ttl r v) :
    ∀ x ∈ (run m (step m st t r).store h).zip h, m.key x.2.2 = m.key r → m.enabled x.2.2 = true →
      x.1.calls = 0 ∧ x.1.hit = true :=
  run_keeps m h _ (step_stores m st t r hmiss hok hen httl) hlive

/-- hypotheses of `c11_reuse`: token 3 is fetched at time 0 (lifetime 10); at times 5 and 9 it is asked for again, once
under another rule — both are hits without a remote call -/
example : (step (demo true) Store.empty 0 (3, 1)).hit = false ∧ (step (demo true) Store.empty 0 (3, 1)).out = .ok 3 ∧
    (run (demo true) (step (demo true) Store.empty 0 (3, 1)).store [(5, (3, 1)), (9, (3, 2))]).map (fun s => (s.calls, s.hit)) =
      [(0, true), (0, true)] := by decide +kernel

/-- Identical requests hit: with an ordered field list a request carrying the same values — its maps iterated in any
other order — is mapped to the same key, hence answered from the cache within the lifetime. -/
theorem c11_identical_request_hits {Resp : Type} (H : Bytes → Bytes) (fs : List Field) (deps : List Dep)
    (remote : List View → Option Resp) (accepts : Nat → Resp → Bool) (recheck : Bool)
    (ho : ordered fs = true) (st : Store Resp) (t : Nat) (r : KReq) (v : Resp)
    (hmiss : (step (keyed H fs deps remote accepts recheck) st t r).hit = false)
    (hok : (step (keyed H fs deps remote accepts recheck) st t r).out = .ok v)
    (hen : r.enabled = true) (httl : r.ttl > 0) (hn : r.env.nodupKeys)
    (t' : Nat) (hlive : t' < t + r.ttl) (r' : KReq) (hr : Reorder r.env r'.env) (hen' : r'.enabled = true) :
    let m := keyed H fs deps remote accepts recheck
    (step m (step m st t r).store t' r').calls = 0 ∧ (step m (step m st t r).store t' r').hit = true := by
  intro m
  have hk : m.key r' = m.key r := (c11_key_deterministic H fs ho r.env r'.env hr hn).symm
  rw [step_live m _ (step_stores m st t r hmiss hok hen httl) hlive r' hk hen']
  exact ⟨rfl, rfl⟩

set_option maxRecDepth 8000 in
/-- hypotheses of `c11_identical_request_hits`: the remote authorizer of the current source, the request `envA` answered
at time 0 and repeated at time 7 with its values iterated in the opposite order -/
example :
    let m : Mech KReq (List View) := keyed id remoteAuthorizer (deps "remoteAuthorizer") some (fun _ _ => true) true
    (step m Store.empty 0 ⟨envA, 0, true, 600⟩).hit = false ∧
    (step m Store.empty 0 ⟨envA, 0, true, 600⟩).out = .ok ((deps "remoteAuthorizer").map (·.view envA)) ∧
    (step m (step m Store.empty 0 ⟨envA, 0, true, 600⟩).store 7 ⟨envA', 0, true, 600⟩).hit = true := by decide +kernel

/-! ## The key functions of the current source (regenerated on every run) -/

/-- every key function of the current source can be decoded uniquely -/
theorem c11_generated_keys_delimited : table.all (fun e => delimited e.2) = true := by decide +kernel

/-- no key function of the current source depends on map iteration order -/
theorem c11_generated_keys_ordered : table.all (fun e => ordered e.2) = true := by decide +kernel

/-- every key function of the current source writes everything a fresh evaluation reads -/
theorem c11_generated_keys_cover_deps : table.all (fun e => covers (deps e.1) e.2) = true := by decide +kernel

/-- no entry of the table lacks a dependency list (a missing clause of `deps` would make `covers` vacuous) -/
theorem c11_generated_keys_have_deps : table.all (fun e => !(deps e.1).isEmpty) = true := by decide +kernel

/-- mechanisms with rule-level assertions / expressions repeat them on every pass through the cache-hit path -/
theorem c11_generated_policy_rechecked_on_hit :
    rechecked.all (fun p => recheckOf hitPath p.1) = true := by decide +kernel

/-- validation that is not repeated on a hit precedes storing, under no other condition than the configuration of the
mechanism it belongs to -/
theorem c11_generated_validated_before_stored :
    validatedBeforeStored.all (fun p => (missPath.lookup p.1).any (before p.2)) = true := by decide +kernel

/-- every function of the current source that uses the cache of the request context is one of those covered here -/
theorem c11_generated_cache_sites_known : cacheSites.all (knownCacheSites.contains ·) = true := by
  -- few and long names: the simplifier compares them as literals (whatever their number and order), where the kernel
  -- would read every name octet by octet
  simp [cacheSites, knownCacheSites]

/-! ## One cache shared by all its users -/

/-- Key functions starting with different constants never feed the same bytes into the hash, whatever else they write
and whatever the values are. -/
theorem c11_distinct_tags_separate (a b : Bytes) (r r' : List Field) (env env' : Env) (hab : a ≠ b)
    (ha : a.length < limit) (hb : b.length < limit) :
    encode (.tag a :: r) env ≠ encode (.tag b :: r') env' :=
  fun h => hab (sd_lpB a b (encode r env) (encode r' env') ha hb h).1

/-- hypotheses of `c11_distinct_tags_separate`: the constant of the HTTP cache of the current source and another one -/
example : tagOf httpCache = some [82, 70, 67, 32, 55, 50, 51, 52] ∧ ([82, 70, 67, 32, 55, 50, 51, 52] : Bytes) ≠ [1] := by
  decide +kernel

/-- `usersSeparated` is satisfiable: every user of the cache starting with a constant of its own (the shape proposed by
fixes/C11-9) -/
example : usersSeparated taggedTable = true := by decide +kernel

/-- If every function whose result is used as a key of the shared cache starts with a constant of its own
(`usersSeparated`, decidable on the generated table and reported in the evidence as `key_users_domain_separated`; it
holds with fixes/C11-9 applied), two different users of the cache — mechanisms of different kinds with the same id,
endpoint and request included — get equal keys only by a collision of the hash function. Without such constants the
users are kept apart by the mechanism id and the shape of what they write only. -/
theorem c11_current_source_users_separate (table : List (String × List Field)) (hsep : usersSeparated table = true)
    (H : Bytes → Bytes) (n n' : String) (fs fs' : List Field) (env env' : Env)
    (hn : n ∈ keyUsers) (hn' : n' ∈ keyUsers) (hne : n ≠ n')
    (hf : table.lookup n = some fs) (hf' : table.lookup n' = some fs') (hk : key H fs env = key H fs' env') :
    encode fs env ≠ encode fs' env' ∧ H (encode fs env) = H (encode fs' env') := by
  refine ⟨?_, hk⟩
  have h1 := List.all_eq_true.mp (List.all_eq_true.mp hsep n hn) n' hn'
  simp only [Bool.or_eq_true, beq_iff_eq, hf, hf', Option.bind_some] at h1
  rcases h1 with h1 | h1
  · exact absurd h1 hne
  · split at h1
    · rename_i a b ha hb
      simp only [Bool.and_eq_true, bne_iff_ne, ne_eq, decide_eq_true_eq] at h1
      obtain ⟨r, rfl⟩ := tagOf_some ha
      obtain ⟨r', rfl⟩ := tagOf_some hb
      exact c11_distinct_tags_separate a b r r' env env' h1.1.1 h1.1.2 h1.2
    · cases h1

/-! ## Nested digests -/

/-- A digest written into a key stands for the object it was computed from: if the source `s` of the outer function
holds `H` of the bytes an inner (delimited) key function writes — `sub.Hash()`, `a.e.Hash()`, `f.signer.Hash()`,
template hashes — then equal outer keys mean that the inner objects agree on every field, or one of the two pairs of
byte strings is a collision of `H`. -/
theorem c11_nested_digest (H : Bytes → Bytes) (outer inner : List Field) (s : String) (env env' ei ei' : Env)
    (ho : delimited outer = true) (hi : delimited inner = true) (hs : Field.lp s ∈ outer)
    (hw : wt outer env = true) (hw' : wt outer env' = true) (hwi : wt inner ei = true) (hwi' : wt inner ei' = true)
    (hd : env.str s = key H inner ei) (hd' : env'.str s = key H inner ei')
    (hk : key H outer env = key H outer env') :
    (∀ f ∈ inner, f.dep.view ei = f.dep.view ei') ∨
      (encode outer env ≠ encode outer env' ∧ H (encode outer env) = H (encode outer env')) ∨
      (encode inner ei ≠ encode inner ei' ∧ H (encode inner ei) = H (encode inner ei')) := by
  rcases c11_key_separates H outer ho env env' hw hw' hk with h | h
  · have hb : env.str s = env'.str s := View.bytes.inj (h (.lp s) hs)
    rw [hd, hd'] at hb
    exact (c11_key_separates H inner hi ei ei' hwi hwi' hb).imp_right Or.inr
  · exact Or.inr (Or.inl h)

/-- hypotheses of `c11_nested_digest` with `H` the identity: an outer key writing the digest of a one-field object -/
example : ∃ (env env' ei ei' : Env),
    delimited [Field.lp "d", .lp "x"] = true ∧ delimited [Field.raw "o"] = true ∧
    wt [Field.lp "d", .lp "x"] env = true ∧ wt [Field.lp "d", .lp "x"] env' = true ∧
    env.str "d" = key id [Field.raw "o"] ei ∧ env'.str "d" = key id [Field.raw "o"] ei' ∧
    key id [Field.lp "d", .lp "x"] env = key id [Field.lp "d", .lp "x"] env' :=
  ⟨{ str := fun s => if s = "d" then [7, 8] else [1] }, { str := fun s => if s = "d" then [7, 8] else [1] },
   { str := fun _ => [7, 8] }, { str := fun _ => [7, 8] }, by decide +kernel⟩

/-- the nested digests of the current source: every `….Hash()` a mechanism key writes is a length-prefixed field, and
the function computing it is delimited (so `c11_nested_digest` applies to subject, endpoint, signer, strategies, templates) -/
example : Field.lp "subject" ∈ remoteAuthorizer ∧ Field.lp "endpoint" ∈ remoteAuthorizer ∧
    Field.lp "subject" ∈ jwtFinalizer ∧ Field.lp "signer" ∈ jwtFinalizer ∧
    delimited subject = true ∧ delimited endpoint = true ∧ delimited jwtSigner = true ∧ delimited template = true := by
  decide +kernel

/-! ## The mechanisms of the current source -/

/-- **Every key function of the current source**, used as the key of a caching mechanism that repeats its rule-level
validation on a hit exactly if the *extracted* hit path does so on every pass: in every history the decisions are those
of the uncached mechanism. (`name` ranges over the generated table: the six mechanisms, client credentials, the HTTP
cache.) If the source stops re-validating, `recheckOf hitPath name` becomes `false` and the statement only covers
validation that does not depend on the rule. -/
theorem c11_current_source_transparent {Resp : Type} (H : Bytes → Bytes) (name : String) (fs : List Field)
    (hf : table.lookup name = some fs) (remote : List View → Option Resp) (accepts : Nat → Resp → Bool)
    (h : List (Nat × KReq)) (hw : ∀ tr ∈ h, wt fs tr.2.env = true)
    (hH : NoCollisionOn H (h.map fun tr => encode fs tr.2.env))
    (hp : recheckOf hitPath name = true ∨ ∀ p p' v, accepts p v = accepts p' v) :
    Transparent (keyed H fs (deps name) remote accepts (recheckOf hitPath name)) h :=
  c11_keyed_transparent H fs _ remote accepts _ h (all_lookup c11_generated_keys_delimited hf)
    (all_lookup c11_generated_keys_cover_deps hf) hw hH hp

/-- The introspection authenticator of the current source: in every history over any rules (assertions), tokens and
endpoint configurations the decision with the cache equals the decision without it. -/
theorem c11_introspection_transparent {Resp : Type} (H : Bytes → Bytes) (remote : List View → Option Resp)
    (accepts : Nat → Resp → Bool) (h : List (Nat × KReq))
    (hw : ∀ tr ∈ h, wt introspection tr.2.env = true)
    (hH : NoCollisionOn H (h.map fun tr => encode introspection tr.2.env)) :
    Transparent (keyed H introspection (deps "introspection") remote accepts (recheckOf hitPath "introspection")) h :=
  c11_current_source_transparent H "introspection" introspection (by decide +kernel) remote accepts h hw hH
    (Or.inl (by decide +kernel))

/-- The remote authorizer of the current source, any rules (expressions, payloads, values), subjects and requests. -/
theorem c11_remote_authorizer_transparent {Resp : Type} (H : Bytes → Bytes) (remote : List View → Option Resp)
    (accepts : Nat → Resp → Bool) (h : List (Nat × KReq))
    (hw : ∀ tr ∈ h, wt remoteAuthorizer tr.2.env = true)
    (hH : NoCollisionOn H (h.map fun tr => encode remoteAuthorizer tr.2.env)) :
    Transparent (keyed H remoteAuthorizer (deps "remoteAuthorizer") remote accepts (recheckOf hitPath "remoteAuthorizer")) h :=
  c11_current_source_transparent H "remoteAuthorizer" remoteAuthorizer (by decide +kernel) remote accepts h hw hH
    (Or.inl (by decide +kernel))

/-! ## Reloadable state: what a key reads may change while the mechanism lives

The key store of the jwt finalizer's signer is watched; a change of the file replaces the signing key of the living
signer (`OnChanged → load`), the mechanism, its rule-level variants (they share the signer) and the cache stay. A history
is a list of requests and reloads (`Model/CacheReload.lean`). -/

/-- **Transparency across reloads.** If the key separates (state in force, request) pairs whose fresh evaluation or
validation could differ, then in every history of requests and reloads — any number of reloads, at any point, to any
state, roll-backs included — every request observes exactly the uncached decision *under the state in force when it is
made*: no request is handed a result computed under a state that has been replaced. -/
theorem c11_reload_transparent {St Req Resp : Type} (m : Mech (St × Req) Resp) (s₀ : St) (h : List (Event St Req))
    (hl : Lossless m) (hs : KeySoundOn m ((inForce s₀ h).map (·.2))) :
    (runEv m s₀ Store.empty h).map (·.out) = (inForce s₀ h).map fun x => direct m x.2 := by
  rw [runEv_eq_run]
  exact c11_transparent m _ hl hs

/-- hypotheses of `c11_reload_transparent` for `reloadDemo` (key and subject both written): subject 3 asks twice, reload
to key 2, asks again (a miss, token of key 2), roll-back to key 1, asks again (a hit: the entry of key 1 is still alive
and it is what a fresh evaluation would produce) -/
example : Lossless reloadDemo ∧ KeySoundOn reloadDemo ((inForce 1 reloadEvents).map (·.2)) ∧
    (runEv reloadDemo 1 Store.empty reloadEvents).map (fun x => (x.out, x.hit)) =
      [(.ok 13, false), (.ok 13, true), (.ok 23, false), (.ok 13, true)] := by
  refine ⟨fun _ => rfl, ?_, by decide +kernel⟩
  have hk : ∀ r ∈ (inForce 1 reloadEvents).map (·.2), ∀ r' ∈ (inForce 1 reloadEvents).map (·.2),
      reloadDemo.key r = reloadDemo.key r' → reloadDemo.fresh r = reloadDemo.fresh r' := by decide +kernel
  intro r hr r' hr' h
  exact ⟨hk r hr r' hr' h, Or.inl rfl⟩

/-- Transparency across reloads for a mechanism whose key is `H` of a field list, part of whose sources (`Overlay`:
the digest of the signer) is replaced by a reload: decidable conditions on the field list — the reloadable source is a
dependency like any other, so `covers` demands that it is written — and no collision of `H` on the byte strings of this
history. -/
theorem c11_reload_keyed_transparent {Resp : Type} (H : Bytes → Bytes) (fs : List Field) (deps : List Dep)
    (remote : List View → Option Resp) (accepts : Nat → Resp → Bool) (recheck : Bool) (s₀ : Overlay)
    (h : List (Event Overlay KReq)) (hd : delimited fs = true) (hc : covers deps fs = true)
    (hw : ∀ x ∈ inForce s₀ h, wt fs (x.2.2.env.withState x.2.1) = true)
    (hH : NoCollisionOn H ((inForce s₀ h).map fun x => encode fs (x.2.2.env.withState x.2.1)))
    (hp : recheck = true ∨ ∀ p p' v, accepts p v = accepts p' v) :
    (runEv (stateful (keyed H fs deps remote accepts recheck)) s₀ Store.empty h).map (·.out) =
      (inForce s₀ h).map fun x => direct (keyed H fs deps remote accepts recheck) (x.2.2.withState x.2.1) := by
  apply c11_reload_transparent _ s₀ h (stateful_lossless _ keyed_lossless)
  apply stateful_sound
  rw [List.map_map]
  exact keyed_sound H fs deps remote accepts recheck (inForce s₀ h) _ hd hc hw hH hp

/-- hypotheses of `c11_reload_keyed_transparent` for the jwt finalizer of the current source, `H` the identity: one
request, a reload replacing the digest of the signer, the same request again -/
example : ∃ (s₀ : Overlay) (h : List (Event Overlay KReq)), (inForce s₀ h).length = 2 ∧
    (∀ x ∈ inForce s₀ h, wt jwtFinalizer (x.2.2.env.withState x.2.1) = true) ∧
    NoCollisionOn id ((inForce s₀ h).map fun x => encode jwtFinalizer (x.2.2.env.withState x.2.1)) ∧
    delimited jwtFinalizer = true ∧ covers (deps "jwtFinalizer") jwtFinalizer = true :=
  let r : KReq := ⟨{ str := fun s => if s = "subject" then [117] else [] }, 0, true, 600⟩
  ⟨[("signer", [1])], [.req 0 r, .reload [("signer", [2])], .req 1 r], rfl, by decide +kernel, fun _ _ _ _ h => h,
    by decide +kernel⟩

/-- **A memoised state digest serves results of a replaced state.** Take any mechanism whose key function reads the
state through a value computed at first use and kept (`memoised`: a `sync.Once` around the digest of the signer), while
the evaluation itself reads the current state. Whenever a request `r` was answered `v` under state `s` and stored, and the
state is reloaded to `s'`, the same request within the lifetime is answered `v` from the cache — no remote call — whatever
a fresh evaluation under `s'` yields. -/
theorem c11_memoised_state_serves_stale_result {St Req Resp : Type} (m : Mech (St × Req) Resp) (hl : Lossless m)
    (s s' : St) (r : Req) (v : Resp) (t t' : Nat)
    (hf : m.fresh (s, r) = some v) (ha : m.accept (s, r) v = true)
    (hen : m.enabled (s, r) = true) (hen' : m.enabled (s', r) = true)
    (httl : m.ttl (s, r) v > 0) (hlive : t' < t + m.ttl (s, r) v)
    (hpass : m.recheck = false ∨ m.accept (s', r) v = true) :
    (runMemo m none s Store.empty [.req t r, .reload s', .req t' r]).map (fun x => (x.out, x.calls, x.hit)) =
      [(.ok v, 1, false), (.ok v, 0, true)] := by
  -- the first request: nothing is cached, the memo is the current state, the answer is stored under the key of `s`
  obtain ⟨ho, hc, hh⟩ := step_empty (memoised m) t ((s, s), r)
  have hd : direct (memoised m) ((s, s), r) = .ok v := direct_eq_ok.mpr ⟨hf, ha⟩
  rw [hd] at ho
  have hst := step_stores (memoised m) Store.empty t ((s, s), r) hh ho hen httl
  -- the same request after the reload: the memoised key still finds that entry
  have h2 := step_live (memoised m) _ hst hlive ((s, s'), r) rfl hen'
  rw [hit_ok (memoised m) ((s, s'), r) hl hpass] at h2
  simp [runMemo, ho, hc, hh, h2]

/-- …so such a mechanism is not transparent as soon as the reload changes what a fresh evaluation yields (another key
signs the token): the property needs the key to be derived from the state in force, `c11_reload_transparent`. -/
theorem c11_memoised_state_not_transparent {St Req Resp : Type} (m : Mech (St × Req) Resp) (hl : Lossless m)
    (s s' : St) (r : Req) (v : Resp) (t t' : Nat)
    (hf : m.fresh (s, r) = some v) (ha : m.accept (s, r) v = true)
    (hen : m.enabled (s, r) = true) (hen' : m.enabled (s', r) = true)
    (httl : m.ttl (s, r) v > 0) (hlive : t' < t + m.ttl (s, r) v)
    (hpass : m.recheck = false ∨ m.accept (s', r) v = true) (hstale : direct m (s', r) ≠ .ok v) :
    (runMemo m none s Store.empty [.req t r, .reload s', .req t' r]).map (·.out) ≠
      (inForce s [.req t r, .reload s', .req t' r]).map fun x => direct m x.2 := by
  intro he
  -- the second decision: `ok v` by the theorem above, `direct m (s', r)` by `he`
  have h := c11_memoised_state_serves_stale_result m hl s s' r v t t' hf ha hen hen' httl hlive hpass
  exact hstale ((List.cons.inj (List.cons.inj he).2).1.symm.trans
    (congrArg Prod.fst (List.cons.inj (List.cons.inj h).2).1))

/-- hypotheses of `c11_memoised_state_not_transparent`: `reloadDemo` with a memoised key digest, subject 3 under key 1,
reload to key 2, subject 3 again: the token of key 1 is served where a fresh evaluation signs with key 2 -/
example : Lossless reloadDemo ∧ reloadDemo.fresh (1, 3) = some 13 ∧ direct reloadDemo (2, 3) ≠ .ok 13 ∧
    (runMemo reloadDemo none 1 Store.empty [.req 0 3, .reload 2, .req 1 3]).map (·.out) = [.ok 13, .ok 13] ∧
    (runEv reloadDemo 1 Store.empty [.req 0 3, .reload 2, .req 1 3]).map (·.out) = [.ok 13, .ok 23] := by
  exact ⟨fun _ => rfl, rfl, by decide +kernel⟩

/-- **Reuse across reloads.** Once a request has been answered and stored, then in every continuation of requests and
reloads (starting in any state), every request made before the entry expires whose key *under the state in force at its
time* equals the stored key is a hit without a remote call. In particular a reload that does not change what the key
reads (the file rewritten with the same key) or that restores an earlier state (roll-back) loses nothing. -/
theorem c11_reload_reuse {St Req Resp : Type} (m : Mech (St × Req) Resp) (st : Store Resp) (t : Nat) (s : St) (r : Req)
    (v : Resp) (hmiss : (step m st t (s, r)).hit = false) (hok : (step m st t (s, r)).out = .ok v)
    (hen : m.enabled (s, r) = true) (httl : m.ttl (s, r) v > 0)
    (s₁ : St) (h : List (Event St Req)) (hlive : ∀ x ∈ inForce s₁ h, x.1 < t + m.ttl (s, r) v) :
    ∀ x ∈ (runEv m s₁ (step m st t (s, r)).store h).zip (inForce s₁ h),
      m.key x.2.2 = m.key (s, r) → m.enabled x.2.2 = true → x.1.calls = 0 ∧ x.1.hit = true := by
  rw [runEv_eq_run]
  exact c11_reuse m st t (s, r) v hmiss hok hen httl (inForce s₁ h) hlive

/-- hypotheses of `c11_reload_reuse`: subject 3 answered under key 1 at time 0; reload to key 2, reload back to key 1,
subject 3 at time 5: a hit -/
example : (step reloadDemo Store.empty 0 (1, 3)).hit = false ∧ (step reloadDemo Store.empty 0 (1, 3)).out = .ok 13 ∧
    (runEv reloadDemo 1 (step reloadDemo Store.empty 0 (1, 3)).store [.reload 2, .reload 1, .req 5 3]).map
      (fun x => (x.calls, x.hit)) = [(0, true)] := by decide +kernel

/-- The digest of the signer of the current source (`jwtSigner.Hash`, regenerated) stands for the key material: two
signer states with the same digest agree on key id, algorithm, issuer and the thumbprint of the key — or the two byte
strings are a collision of `H`. A key store reloaded with another key under the same key id therefore changes the digest,
and with it (`c11_nested_digest`) the key of the finalizer. -/
theorem c11_signer_digest_determines_key_material (H : Bytes → Bytes) (es es' : Env)
    (hw : wt jwtSigner es = true) (hw' : wt jwtSigner es' = true) (hk : key H jwtSigner es = key H jwtSigner es') :
    (es.str "keyID" = es'.str "keyID" ∧ es.str "algorithm" = es'.str "algorithm" ∧ es.str "issuer" = es'.str "issuer" ∧
      es.str "thumbprint" = es'.str "thumbprint") ∨
    (encode jwtSigner es ≠ encode jwtSigner es' ∧ H (encode jwtSigner es) = H (encode jwtSigner es')) :=
  (c11_key_separates H jwtSigner (by decide +kernel) es es' hw hw' hk).imp_left fun h =>
    have hv (s : String) (hs : Field.lp s ∈ jwtSigner) : es.str s = es'.str s := View.bytes.inj (h _ hs)
    ⟨hv _ (by decide +kernel), hv _ (by decide +kernel), hv _ (by decide +kernel), hv _ (by decide +kernel)⟩

/-- hypotheses of `c11_signer_digest_determines_key_material` (`H` the identity): the same key id, another thumbprint -/
example : ∃ es es' : Env, wt jwtSigner es = true ∧ wt jwtSigner es' = true ∧ key id jwtSigner es ≠ key id jwtSigner es' :=
  ⟨{ str := fun s => if s = "thumbprint" then [1] else [107] }, { str := fun s => if s = "thumbprint" then [2] else [107] },
   by decide +kernel⟩

/-- **The key functions of the current source in histories with reloads**: any entry of the generated table used as the
key of a mechanism part of whose sources is reloadable — in every history of requests and reloads the decisions are
those of the uncached mechanism under the state in force. -/
theorem c11_current_source_reload_transparent {Resp : Type} (H : Bytes → Bytes) (name : String) (fs : List Field)
    (hf : table.lookup name = some fs) (remote : List View → Option Resp) (accepts : Nat → Resp → Bool)
    (s₀ : Overlay) (h : List (Event Overlay KReq))
    (hw : ∀ x ∈ inForce s₀ h, wt fs (x.2.2.env.withState x.2.1) = true)
    (hH : NoCollisionOn H ((inForce s₀ h).map fun x => encode fs (x.2.2.env.withState x.2.1)))
    (hp : recheckOf hitPath name = true ∨ ∀ p p' v, accepts p v = accepts p' v) :
    (runEv (stateful (keyed H fs (deps name) remote accepts (recheckOf hitPath name))) s₀ Store.empty h).map (·.out) =
      (inForce s₀ h).map fun x =>
        direct (keyed H fs (deps name) remote accepts (recheckOf hitPath name)) (x.2.2.withState x.2.1) :=
  c11_reload_keyed_transparent H fs _ remote accepts _ s₀ h (all_lookup c11_generated_keys_delimited hf)
    (all_lookup c11_generated_keys_cover_deps hf) hw hH hp

/-- The jwt finalizer of the current source (no rule-level validation): in every history of requests — any subjects,
outputs, claims, lifetimes — and key-store reloads, every request is handed a token a fresh evaluation under the signer
state in force would produce. -/
theorem c11_jwt_finalizer_transparent_across_reloads {Resp : Type} (H : Bytes → Bytes)
    (remote : List View → Option Resp) (s₀ : Overlay) (h : List (Event Overlay KReq))
    (hw : ∀ x ∈ inForce s₀ h, wt jwtFinalizer (x.2.2.env.withState x.2.1) = true)
    (hH : NoCollisionOn H ((inForce s₀ h).map fun x => encode jwtFinalizer (x.2.2.env.withState x.2.1))) :
    (runEv (stateful (keyed H jwtFinalizer (deps "jwtFinalizer") remote (fun _ _ => true)
        (recheckOf hitPath "jwtFinalizer"))) s₀ Store.empty h).map (·.out) =
      (inForce s₀ h).map fun x =>
        direct (keyed H jwtFinalizer (deps "jwtFinalizer") remote (fun _ _ => true) (recheckOf hitPath "jwtFinalizer"))
          (x.2.2.withState x.2.1) :=
  c11_current_source_reload_transparent H "jwtFinalizer" jwtFinalizer (by decide +kernel) remote _ s₀ h hw hH
    (Or.inr fun _ _ _ => rfl)

end Heimdall.Props.C11
