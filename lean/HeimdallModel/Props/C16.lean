import HeimdallModel.Lemmas.SignerClaims
import HeimdallModel.Lemmas.SignerStore
import HeimdallModel.Lemmas.SignerConc
import HeimdallModel.Lemmas.SignerCache
import HeimdallModel.Model.SignerProtocol
import HeimdallModel.Gen.Signer
/-!
# C16 — issued JWTs verify against the published key set and carry the system claims

Model: `Model/Signer.lean` (key store, `load`, `Sign`, publication; cryptography and X.509 opaque),
`Model/SignerConc.lean` (token creation, key-set reads and reloads as a small-step machine, any number of threads),
`Model/SignerCache.lean` (the token cache of `Execute`, shared by the catalogue finalizer, its rule-level variants and
every other jwt finalizer), `Model/SignerTime.lean` (the clock: certificates are judged at the instant of a load,
`Keys()` does not read it).  Specification: `Spec/Signer.lean`, `Spec/SignerCache.lean`, `Spec/SignerTime.lean`.  The
first group of theorems ties the machine to the current source: they are stated about `Gen/Signer.lean`, which
`/verif/extract/signer` regenerates from `jwt_signer.go` on every run.
-/
namespace Heimdall.Props.C16
open Heimdall Heimdall.Signer Heimdall.SignerConc Heimdall.SignerProtocol

/-! ## The tie: the source runs the locking protocol the machine runs

Only the synchronisation protocol is read from the source (`Gen/Signer.lean`, regenerated on every run; calls of other
methods of the signer inlined).  It is compared as a list of critical sections — which guarded fields are accessed
inside which read- or write-lock section — so that behaviour-preserving rewrites (helpers, constants, explicit versus
deferred unlock, order inside a section) leave the obligations alone.  Claim set, headers, key selection, algorithm
tables and the public JWKs are observed from the running code by the correspondence check. -/

/-- `jwtSigner` has one mutex, no function outside its methods assigns a field, and every method — entry point or
helper — is well-formed: no guarded field is touched outside a critical section, no write in a read section, lock and
unlock pair up, no configuration field is written, and a section that writes replaces all three guarded fields -/
theorem c16_src_methods :
    Gen.Signer.mutexes = ["mut"] ∧ Gen.Signer.outsideWrites = [] ∧ allMethodsSafe Gen.Signer.protocol = true := by
  decide +kernel

/-- `Sign` copies JWK and key inside one read-lock section and touches no guarded field outside it -/
theorem c16_src_sign_protocol : methodSections Gen.Signer.protocol "Sign" = some signSections := by decide +kernel

theorem c16_src_keys_protocol : methodSections Gen.Signer.protocol "Keys" = some keysSections := by decide +kernel

theorem c16_src_hash_protocol : methodSections Gen.Signer.protocol "Hash" = some jwkSections := by decide +kernel

theorem c16_src_cert_protocol :
    methodSections Gen.Signer.protocol "activeCertificateChain" = some jwkSections := by decide +kernel

/-- `load` does everything that can fail outside the lock and replaces JWK, key and published list inside one
write-lock section; `OnChanged` does nothing else with the guarded fields -/
theorem c16_src_load_protocol :
    methodSections Gen.Signer.protocol "load" = some loadSections ∧
    methodSections Gen.Signer.protocol "OnChanged" = some loadSections := by decide +kernel

/-- the transitions of the machine, read as source-level events, are these critical sections -/
theorem c16_src_edges_are_protocol :
    sections (signerEdges.map (·.2.1)) = some signSections ∧ sections (readerEdges.map (·.2.1)) = some keysSections ∧
    sections (loaderEdges.map (·.2.1)) = some loadSections := by decide +kernel

/-- every step of the machine moves the stepping thread along one of these edges (performing the event the edge is
labelled with) and leaves every other thread where it is -/
theorem c16_src_step_follows_edges {S : Type} (c c' : Config S) (h : Step c c') (i : Nat) :
    (c'.threads i).where_ = (c.threads i).where_ ∨ edge (c.threads i).where_ (c'.threads i).where_ := by
  cases h <;> exact upd_where i ‹_› (by dsimp only [Thread.where_]; decide)

/-- what the section reading rejects: the two ways of tearing the pair — `Sign` reading
JWK and key under two read locks, `load` publishing the key list and the signing key under two write locks — and an
access outside any section -/
theorem c16_src_torn_protocols_rejected :
    sections [.rlock, .readJwk, .runlock, .rlock, .readKey, .runlock, .ret] ≠ some signSections ∧
    allMethodsSafe [("load", ["lock mut", "write pubKeys", "unlock mut", "lock mut", "write jwk", "write key",
      "unlock mut", "return nil"])] = false ∧
    sections [.readJwk, .rlock, .readKey, .runlock] = none := by decide +kernel

/-! ## System claims -/

variable {α : Type}

/-- In *any* claim program, a claim written after the last merge of the custom claims (and not written again) has
the written value, whatever the custom claims contain. -/
theorem c16_claim_written_after_merge_wins (pre post : List ClaimOp) (k : String) (s : SysSrc)
    (custom : Claims α) (i : SignIn) (h : untouched k post = true) :
    lookup k (runProgram (pre ++ .set k s :: post) custom i) = some (sysVal i s) := by
  unfold runProgram
  rw [List.foldl_append, List.foldl_cons, lookup_fold_untouched k post custom i _ h]
  simp [runOp, lookup_put]

example : untouched "iat" [ClaimOp.set "iss" .iss, .set "nbf" .nbf, .set "sub" .sub] = true := by decide +kernel

/-- The claims of every token are the specified ones: `sub`, `iss`, `iat`, `nbf`, `exp`, `jti` have the values `Sign`
computes from the subject id, the signer name, the clock and the TTL — for all custom claims, including ones naming
them — and every other name has the value the custom claims gave it. -/
theorem c16_claims_spec (st : State) (i : SignIn) (custom : Claims α) (k : String) :
    lookup k (sign st i custom).claims = specClaim custom i k := by
  simp only [sign, signWith, runProgram, signProgram, List.foldl_cons, List.foldl_nil, runOp, lookup_put,
    lookup_mergeInto, lookup_nil, specClaim, reservedSrc]
  by_cases h1 : k = "sub"
  · simp [h1]
  by_cases h2 : k = "nbf"
  · simp [h2, sysVal]
  by_cases h3 : k = "iss"
  · simp [h3]
  by_cases h4 : k = "iat"
  · simp [h4]
  by_cases h5 : k = "jti"
  · simp [h5]
  by_cases h6 : k = "exp"
  · simp [h6]
  simp [h1, h2, h3, h4, h5, h6]

/-- the same, claim by claim -/
theorem c16_system_claims (st : State) (i : SignIn) (custom : Claims α) :
    let c := (sign st i custom).claims
    lookup "sub" c = some (.str i.sub) ∧ lookup "iss" c = some (.str i.iss) ∧
    lookup "iat" c = some (.num (unixSec i.nowNs)) ∧ lookup "nbf" c = some (.num (unixSec i.nowNs)) ∧
    lookup "exp" c = some (.num (unixSec (i.nowNs + i.ttlNs))) ∧ lookup "jti" c = some .fresh := by
  simp [c16_claims_spec, specClaim, reservedSrc, sysVal]

/-- a claim name occurs once in the serialised claim set, for any program and any custom claims -/
theorem c16_claim_names_unique (p : List ClaimOp) (custom : Claims α) (i : SignIn) :
    ((runProgram p custom i).map (·.1)).Nodup :=
  names_nodup_fold p custom i [] (by simp)

/-- the order matters: were the custom claims merged after the system claims, a template could set `sub` -/
theorem c16_merge_last_would_lose (i : SignIn) :
    lookup "sub" (runProgram [.set "sub" .sub, .merge] [("sub", (.other 7 : CVal Nat))] i) = some (.other 7) := by
  simp [runProgram, runOp, lookup_mergeInto, lookup_put, lookup]

/-- `exp` is exactly the TTL after `iat` for every TTL of whole seconds, at every instant -/
theorem c16_exp_exact (nowNs ttlSec : Int) :
    unixSec (nowNs + ttlSec * 1000000000) = unixSec nowNs + ttlSec :=
  Int.add_mul_ediv_right _ _ (by decide)

/-- for a TTL with a sub-second part the integer `exp` is the TTL's whole seconds after `iat`, or one more -/
theorem c16_exp_bounds (nowNs ttlNs : Int) :
    unixSec nowNs + unixSec ttlNs ≤ unixSec (nowNs + ttlNs) ∧
    unixSec (nowNs + ttlNs) ≤ unixSec nowNs + unixSec ttlNs + 1 := by
  unfold unixSec; omega

/-! ## Header, active key, verification against the published list -/

theorem c16_header_names_active_key (st : State) (i : SignIn) (custom : Claims α) :
    let t := sign st i custom
    t.typ = "JWT" ∧ t.kid = st.jwk.kid ∧ t.alg = st.jwk.alg ∧ t.signedBy = st.key := ⟨rfl, rfl, rfl, rfl⟩

/-- every generation `load` installs — any store, any configured key id — publishes the active key's own
description under a key id no other published key has, with the algorithm of the key's size -/
theorem c16_load_consistent (keyID : String) (raw : List RawEntry) (st : State) (h : load keyID raw = some st) :
    Consistent st := load_consistent h

def k1 : PrivKey := ⟨⟨.rsa, 3072, 1⟩, 11⟩
def k2 : PrivKey := ⟨⟨.ecdsa, 521, 2⟩, 22⟩
def store1 : List RawEntry := [⟨"", k1, [⟨5, "ab01"⟩], true, true⟩, ⟨"second", k2, [], true, true⟩]

example : (load "second" store1).map (fun st => (st.jwk.kid, st.jwk.alg, st.pubKeys.map (·.kid))) =
    some ("second", "ES512", ["ab01", "second"]) := by decide +kernel

/-- a token of a consistent generation verifies against that generation's published list the way go-jose verifies
against a JWK set (first key with the token's key id) -/
theorem c16_token_verifies (st : State) (h : Consistent st) (i : SignIn) (custom : Claims α) :
    verifiesFirst st.pubKeys (sign st i custom) = true :=
  verifiesFirst_of_kept h h (keyKept_refl h) i custom

/-- a reload that fails (unreadable file, invalid chain, duplicate or unknown key id, certificate not usable for
signing, unsupported key size, store without entries) leaves the active generation untouched -/
theorem c16_failed_reload_keeps_generation (keyID : String) (st : State) (f : File) (h : loadFile keyID f = none) :
    reload keyID st f = st := reload_failed h

example : loadFile "nobody" (some store1) = none ∧ loadFile "" (some []) = none ∧ loadFile "" none = none := by
  decide +kernel

/-- what `load` rejects explicitly instead of panicking in `JWK()`: a store without entries, and any store holding a key of
unsupported size, whichever key is configured; by the previous theorem such a reload changes nothing -/
theorem c16_load_rejects_unusable_stores (keyID : String) :
    load keyID [] = none ∧
    ∀ (raw : List RawEntry) (e : RawEntry), e ∈ raw → joseAlg e.key.pub = none → load keyID raw = none := by
  -- had it loaded, the selected block would be in the empty file, resp. the block would have an algorithm
  exact ⟨load_eq_none fun _ L => List.not_mem_nil (pick_mem L.selected),
    fun raw e he hu => load_eq_none fun _ L => nomatch hu.symm.trans (L.alg he)⟩

example : joseAlg (⟨.rsa, 1024, 9⟩ : PubKey) = none ∧ joseAlg (⟨.ecdsa, 224, 9⟩ : PubKey) = none := by decide +kernel

/-- after any history of key-store reloads, successful or not, every token created verifies against the key set
published at that moment -/
theorem c16_verifies_after_any_history (keyID : String) (raw0 : List RawEntry) (st0 : State)
    (h0 : load keyID raw0 = some st0) (hist : List File) (i : SignIn) (custom : Claims α) :
    let st := hist.foldl (reload keyID) st0
    verifiesFirst st.pubKeys (sign st i custom) = true :=
  c16_token_verifies _ (foldl_reload_consistent keyID id hist st0 (load_consistent h0)) i custom

/-- with several key holders the endpoint publishes the concatenation of their lists; a token of any of them is
verified by some published key with its id and algorithm -/
theorem c16_registry_verifies_any (holders : List State) (st : State) (hm : st ∈ holders) (h : Consistent st)
    (i : SignIn) (custom : Claims α) : verifiesAny (published holders) (sign st i custom) = true :=
  verifiesAny_of_kept hm h h (keyKept_refl h) i custom

/-- first-match verification succeeds as well unless an earlier key holder publishes different key material under
the same key id -/
theorem c16_registry_verifies_first (before after : List State) (st : State) (h : Consistent st) (i : SignIn)
    (custom : Claims α) (hc : NoClash before (sign st i custom)) :
    verifiesFirst (published (before ++ st :: after)) (sign st i custom) = true := by
  have hp : published (before ++ st :: after) = published before ++ (st.pubKeys ++ published after) := by
    simp [published]
  have hown := find_of_nodup (·.kid) h.kids_unique h.active_published
  unfold verifiesFirst
  rw [hp, List.find?_append, List.find?_append, show (sign st i custom).kid = st.jwk.kid from rfl, hown]
  cases hf : (published before).find? (fun j => j.kid = st.jwk.kid) with
  | some j => exact hc j (List.mem_of_find?_eq_some hf) (by simpa using List.find?_some hf : j.kid = st.jwk.kid)
  | none => exact verifiesWith_own h.pair

def st1 : State := ⟨⟨"a", "PS384", "sig", k1.pub, []⟩, k1, [⟨"a", "PS384", "sig", k1.pub, []⟩]⟩
def st2 : State := ⟨⟨"b", "ES512", "sig", k2.pub, []⟩, k2, [⟨"b", "ES512", "sig", k2.pub, []⟩]⟩

example : NoClash [st1] (sign st2 ⟨"u", "iss", 0, 0⟩ ([] : Claims Nat)) := by
  unfold NoClash
  decide +kernel

/-- the hypothesis is needed: two holders publishing different keys under one id defeat first-match verification of
the second holder's tokens (not of the first's) -/
theorem c16_registry_first_match_needs_distinct_ids :
    let clash : State := ⟨⟨"a", "ES512", "sig", k2.pub, []⟩, k2, [⟨"a", "ES512", "sig", k2.pub, []⟩]⟩
    let t := sign clash ⟨"u", "iss", 0, 0⟩ ([] : Claims Nat)
    verifiesFirst (published [st1, clash]) t = false ∧ verifiesAny (published [st1, clash]) t = true := by
  decide +kernel

/-! ## One key under several ids

A key store file may list the very same private key in several blocks under different `X-Key-ID`s (the name a key had
before a renaming next to the new one; bundles concatenated from several sources; other keys in between).  The
property quantifies over all key stores "with/without key ids, several entries": whichever of the ids of such a key
the finalizer is configured with, the token names that id and has to be resolvable in the published key set. -/

/-- every key block of the file is published — one JWK per block, in file order, under the block's id (`X-Key-ID`,
subject key identifier or the computed one), with the block's public key and certificate chain —, whichever key is
configured and whether or not several blocks hold the same key material: nothing is merged, nothing left out -/
theorem c16_every_listing_is_published (keyID : String) (raw : List RawEntry) (st : State)
    (h : load keyID raw = some st) : EveryListingPublished raw st ∧ st.pubKeys.length = raw.length := by
  obtain ⟨e, _, rfl⟩ := load_iff.mp h
  exact ⟨List.map_map, List.length_map ..⟩

/-- a store that loads at all (under any configured id `k0`) can be used through the id of **every** block `e` whose
certificate, if it has one, may sign — in particular through each of the ids of a key listed several times, the first
one or a later one: the store loads, the active key is that block's key, the token names exactly that id, is signed
with the key, the published list is the same whichever id is configured, and the token verifies against it the way
go-jose resolves a key id in a JWK set -/
theorem c16_any_id_of_a_key_selects_and_verifies (k0 : String) (raw : List RawEntry) (st0 : State)
    (h0 : load k0 raw = some st0) (e : RawEntry) (he : e ∈ raw) (hu : e.chain = [] ∨ e.signUsable = true)
    (i : SignIn) (custom : Claims α) :
    ∃ st, load (kidOf e) raw = some st ∧ st.key = e.key ∧ st.pubKeys = st0.pubKeys ∧
      (sign st i custom).kid = kidOf e ∧ (sign st i custom).signedBy = e.key ∧
      (∃ j ∈ st0.pubKeys, j.kid = kidOf e ∧ j.pub = e.key.pub) ∧
      verifiesFirst st0.pubKeys (sign st i custom) = true := by
  obtain ⟨e0, L, rfl⟩ := load_iff.mp h0
  have hl := load_iff.mpr ⟨e, { L with selected := pick_kidOf L.kids he, usable := hu }, rfl⟩
  exact ⟨_, hl, rfl, rfl, rfl, rfl, ⟨_, List.mem_map_of_mem he, rfl, rfl⟩,
    c16_token_verifies _ (load_consistent hl) i custom⟩

def kShared : PrivKey := ⟨⟨.ecdsa, 256, 7⟩, 77⟩
/-- the key store of corpus 18: the same P-256 key as `signer-2023` and as `signer-2024`, a P-521 key in between -/
def storeShared : List RawEntry :=
  [⟨"signer-2023", kShared, [], true, true⟩, ⟨"other", k2, [], true, true⟩, ⟨"signer-2024", kShared, [], true, true⟩]

example : SharedKey storeShared ⟨"signer-2024", kShared, [], true, true⟩ ∧ (load "" storeShared).isSome = true ∧
    (⟨"signer-2024", kShared, [], true, true⟩ : RawEntry) ∈ storeShared := by
  unfold SharedKey
  decide +kernel

example : (load "signer-2024" storeShared).map (fun st => (st.jwk.kid, st.jwk.alg, st.key)) =
      some ("signer-2024", "ES256", kShared) ∧
    (load "signer-2024" storeShared).map (fun st => st.pubKeys.map Jwk.face) =
      some [("signer-2023", kShared.pub, []), ("other", k2.pub, []), ("signer-2024", kShared.pub, [])] := by
  decide +kernel

/-- for **every** generation with unique published ids: if the active JWK stands in the published list behind a JWK
with the same public key (the finalizer is configured with a later id of a key listed several times), then a list that
names each key material once holds no key with the token's id — the token cannot be resolved, let alone verified -/
theorem c16_listing_each_key_once_unpublishes_later_ids (st : State) (hc : Consistent st) (pre post : List Jwk)
    (hsplit : st.pubKeys = pre ++ st.jwk :: post) (j0 : Jwk) (h0 : j0 ∈ pre) (hp : j0.pub = st.jwk.pub)
    (i : SignIn) (custom : Claims α) :
    verifiesAny (distinctKeys st.pubKeys) (sign st i custom) = false ∧
    verifiesFirst (distinctKeys st.pubKeys) (sign st i custom) = false ∧
    verifiesFirst st.pubKeys (sign st i custom) = true := by
  have hdrop := distinctKeys_drops_later (hsplit ▸ hc.kids_unique) h0 hp
  rw [← hsplit] at hdrop
  have hno := not_verifies_of_no_kid (t := sign st i custom) hdrop
  exact ⟨hno.1, hno.2, c16_token_verifies st hc i custom⟩

def stShared : State :=
  ⟨⟨"signer-2024", "ES256", "sig", kShared.pub, []⟩, kShared,
   [⟨"signer-2023", "ES256", "sig", kShared.pub, []⟩, ⟨"other", "ES512", "sig", k2.pub, []⟩,
    ⟨"signer-2024", "ES256", "sig", kShared.pub, []⟩]⟩

example : load "signer-2024" storeShared = some stShared ∧ Consistent stShared ∧
    stShared.pubKeys = [⟨"signer-2023", "ES256", "sig", kShared.pub, []⟩, ⟨"other", "ES512", "sig", k2.pub, []⟩] ++
      stShared.jwk :: [] ∧ (⟨"signer-2023", "ES256", "sig", kShared.pub, []⟩ : Jwk).pub = stShared.jwk.pub :=
  ⟨by decide +kernel, load_consistent (keyID := "signer-2024") (raw := storeShared) (by decide +kernel),
    by decide +kernel, by decide +kernel⟩

/-- the token of the witnesses below: subject `subject-1`, signer name `demo`, TTL 10 minutes, no custom claims -/
def tokShared (st : State) : Token Nat := sign st ⟨"subject-1", "demo", 0, 600000000000⟩ []

/-- negative, evaluated: the key store of corpus 18 behind a key store that lists each key material once while it finds
an entry under each id (`loadDistinct`).  Configured with `signer-2024` the token names `signer-2024`
and is signed with the shared key, the published ids are `signer-2023, other`: no published key has the token's id.
With `load` — the code — all three ids are published and the token verifies.  Configured with the first id, or with
none, the variants hand out tokens that verify alike. -/
theorem c16_listing_each_key_once_violates :
    (loadDistinct "signer-2024" storeShared).map
        (fun st => ((tokShared st).kid, (tokShared st).signedBy, st.pubKeys.map (·.kid),
          verifiesAny st.pubKeys (tokShared st), verifiesFirst st.pubKeys (tokShared st))) =
      some ("signer-2024", kShared, ["signer-2023", "other"], false, false) ∧
    (load "signer-2024" storeShared).map
        (fun st => ((tokShared st).kid, (tokShared st).signedBy, st.pubKeys.map (·.kid),
          verifiesAny st.pubKeys (tokShared st), verifiesFirst st.pubKeys (tokShared st))) =
      some ("signer-2024", kShared, ["signer-2023", "other", "signer-2024"], true, true) ∧
    (loadDistinct "signer-2023" storeShared).map (fun st => verifiesFirst st.pubKeys (tokShared st)) = some true ∧
    (loadDistinct "" storeShared).map (fun st => ((tokShared st).kid, verifiesFirst st.pubKeys (tokShared st))) =
      some ("signer-2023", true) :=
  -- `decide` rather than `decide +kernel`: the four parts then share the evaluation of the loads
  ⟨by decide, by decide, by decide, by decide⟩

/-! ## Public parts only -/

/-- what `load` publishes (and the JWK it signs headers from) is a function of the public halves: two key stores that
differ only in private key material publish the same -/
theorem c16_published_ignores_secrets (keyID : String) (raw : List RawEntry) :
    (load keyID (raw.map RawEntry.eraseSecret)).map (fun st => (st.jwk, st.pubKeys)) =
    (load keyID raw).map (fun st => (st.jwk, st.pubKeys)) := by
  apply Option.ext
  intro a
  simp only [Option.map_eq_some_iff, load_iff]
  constructor
  · rintro ⟨_, ⟨e', L', rfl⟩, rfl⟩
    obtain ⟨e, L, rfl⟩ := L'.of_erase
    exact ⟨_, ⟨e, L, rfl⟩, by rw [List.map_map]; rfl⟩
  · rintro ⟨_, ⟨e, L, rfl⟩, rfl⟩
    exact ⟨_, ⟨_, L.erase, rfl⟩, by rw [List.map_map]; rfl⟩

/-- the JSON object of a published key has no member that carries private key material -/
theorem c16_jwk_members_public (j : Jwk) (m : String) (hm : m ∈ jwkMembers j) : m ∉ privateMembers := by
  -- the members every key of a family has, by evaluation; the optional ones, one by one
  simp only [jwkMembers, List.mem_append] at hm
  rcases hm with (((h | h) | h) | h) | h
  · revert m
    cases j.pub.family <;> decide
  all_goals cases mem_optional h; decide

example : jwkMembers ⟨"a", "PS384", "sig", k1.pub, [⟨5, ""⟩]⟩ = ["kty", "n", "e", "kid", "alg", "use", "x5c"] := by
  decide +kernel

/-! ## All interleavings of token creation, key-set reads and reloads -/

variable {S : Type}

/-- In every reachable configuration — any number of concurrent `Sign` calls, `Keys` calls and reloads, every
interleaving — a finished `Sign` has copied JWK and key of one and the same generation, and that generation was the
active one (the last committed) when it was copied. -/
theorem c16_conc_consistent_pair (s0 : S) (c0 c : Config S) (h0 : Initial s0 c0) (hr : Reachable c0 c) (i : Nat)
    (a b : Option S) (n : Nat) (hi : c.threads i = .signer .done a b n) :
    ∃ s, a = some s ∧ b = some s ∧ (c.log.take n).getLast? = some s ∧ n ≤ c.log.length :=
  (hi ▸ (inv_reachable_true h0 hr).2 i).2

/-- a finished `Keys` call returned the published list of one generation, the active one when it was read -/
theorem c16_conc_keys_one_generation (s0 : S) (c0 c : Config S) (h0 : Initial s0 c0) (hr : Reachable c0 c) (i : Nat)
    (p : Option S) (n : Nat) (hi : c.threads i = .reader .done p n) :
    ∃ s, p = some s ∧ (c.log.take n).getLast? = some s ∧ n ≤ c.log.length :=
  (hi ▸ (inv_reachable_true h0 hr).2 i).2

/-- whenever no reload holds the lock the three guarded fields belong to one generation, the last committed one;
readers and the writer exclude each other -/
theorem c16_conc_fields_agree (s0 : S) (c0 c : Config S) (h0 : Initial s0 c0) (hr : Reachable c0 c) :
    (c.writer = none → c.jwk = c.pub ∧ c.key = c.pub ∧ c.log.getLast? = some c.pub) ∧
    (∀ i, c.writer = some i → c.rset = []) :=
  ⟨(inv_reachable_true h0 hr).1.quiet, (inv_reachable_true h0 hr).1.excl⟩

/-- Generations instantiated with signer states: if the constructor's generation and every reload's parse result
come out of `load`, then in every reachable configuration the token a finished `Sign` builds from its two copies
verifies against the key set that was published when it took them. -/
theorem c16_conc_token_verifies (keyID : String) (s0 : State) (c0 c : Config State) (hinit : Initial s0 c0)
    (hr : Reachable c0 c) (h0 : ∃ raw, load keyID raw = some s0)
    (hl : ∀ i new pc, c0.threads i = .loader new pc → ∃ raw, load keyID raw = some new)
    (i : Nat) (a b : State) (n : Nat) (hi : c.threads i = .signer .done (some a) (some b) n)
    (inp : SignIn) (custom : Claims α) :
    (c.log.take n).getLast? = some a ∧ verifiesFirst a.pubKeys (signWith a.jwk b.key inp custom) = true := by
  have hinv := inv_reachable Consistent s0 c0 c (h0.elim fun _ => load_consistent) hinit
    (fun j new pc hj => (hl j new pc hj).elim fun _ => load_consistent) hr
  obtain ⟨_, s, ha, hb, hlast, _⟩ := hi ▸ hinv.2 i
  cases ha; cases hb
  have hmem : a ∈ c.log := List.mem_of_mem_take (List.mem_of_getLast? hlast)
  exact ⟨hlast, c16_token_verifies a (hinv.1.goodLog a hmem) inp custom⟩

/-- the hypotheses are met by a system whose constructor loaded one store and whose reloads parse another -/
example : ∃ c0 : Config State, Initial st1 c0 ∧ (∃ raw, load "" raw = some st1) ∧
    (∀ i new pc, c0.threads i = .loader new pc → ∃ raw, load "" raw = some new) ∧
    (∃ new pc, c0.threads 1 = .loader new pc) := by
  let thr : Nat → Thread State := fun | 0 => .signer .idle none none 0 | _ => .loader st2 .idle
  refine ⟨⟨st1, st1, st1, none, [], [st1], thr⟩, ⟨rfl, rfl, rfl, rfl, rfl, rfl, fun i => ?_⟩,
    ⟨[⟨"a", k1, [], true, true⟩], by decide +kernel⟩, fun i new pc h => ?_, st2, .idle, rfl⟩
  · cases i
    · exact .inl rfl
    · exact .inr (.inr ⟨st2, rfl⟩)
  · cases i <;> cases h
    exact ⟨[⟨"b", k2, [], true, true⟩], by decide +kernel⟩

/-- an initial configuration and a run of it in which a `Sign` finishes while a reload is in flight -/
example : ∃ c0 c : Config Nat, Initial 0 c0 ∧ Reachable c0 c ∧
    c.threads 0 = .signer .done (some 0) (some 0) 1 ∧ c.threads 1 = .loader 1 .parsed := by
  let c0 : Config Nat := ⟨0, 0, 0, none, [], [0], fun | 0 => .signer .idle none none 0 | j => .loader j .idle⟩
  have hi : Initial 0 c0 := ⟨rfl, rfl, rfl, rfl, rfl, rfl, fun i => by
    cases i
    · exact .inl rfl
    · exact .inr (.inr ⟨_, rfl⟩)⟩
  have r1 := Reachable.step _ _ (Reachable.init (c0 := c0)) (Step.lParse c0 1 1 rfl)
  have r2 := Reachable.step _ _ r1 (Step.sLock _ 0 rfl rfl)
  have r3 := Reachable.step _ _ r2 (Step.sReadJwk _ 0 rfl)
  have r4 := Reachable.step _ _ r3 (Step.sReadKey _ 0 (some 0) 1 rfl)
  have r5 := Reachable.step _ _ r4 (Step.sUnlock _ 0 (some 0) (some 0) 1 rfl)
  exact ⟨c0, _, hi, r5, rfl, rfl⟩

/-! ## The token cache of `Execute`: whatever is handed out, freshly signed or cached, is a token for this execution

`World` = the signers of the process and the one cache all jwt finalizer instances share; `Exec` = one call of
`Execute` by any finalizer instance (any TTL, claims template, header; prototype or `WithConfig` variant), through any
signer, for any subject and outputs, at any clock readings; `Event` = an execution, a key store reload, or an execution
during which the key store of its signer is reloaded (between `Hash` and `Sign`).  Histories are arbitrary lists of
events.  `d` bounds the time that passes between `time.Now()` in `Sign` and the cache's clock
reading in `Set` (`DelayBound`); nothing else is assumed about the clock. -/

/-- **Every token handed out is a token for the execution that hands it out.**  After any history (started with an
empty cache and signers loaded from key stores), whatever `Execute` hands out — fresh or from the cache — equals what
a consistent generation `st` of the key store signs for *this* subject, *this* signer's issuer name, the TTL of the
finalizer instance *that executes* and the claims *its* template renders for this subject and outputs, at some issue
time; `st`'s active key has id, algorithm and public key of the generation active now; a fresh token is issued now by
the active generation; a cached one was issued at most `ttl − leeway + d` before the lookup. -/
theorem c16_cache_handout (render : Render α) (d : Int) (w0 : World α) (h0 : Started w0) (hist : List Event)
    (hd : DelayBound d hist) (x : Exec) (hx : x.setNs ≤ x.signNs + d) (t : Token α) (src : Source) (w' : World α)
    (h : execute render (run render w0 hist) x = some (t, src, w')) :
    Handout render d (run render w0 hist) x t src :=
  (execute_spec (run_inv (.of_started h0) hist hd) hx h).1

/-- the claims of a handed-out token: `sub` is the id of the subject of this execution, `iss` the name of its signer,
`nbf = iat`, `exp` is the TTL of the executing instance after `iat` (exactly for whole seconds, else within a second),
`jti` a fresh identifier, and every other name has the value the executing instance's template renders — reserved names
in the template change nothing -/
theorem c16_cache_claims (render : Render α) (d : Int) (w : World α) (x : Exec) (t : Token α) (src : Source)
    (h : Handout render d w x t src) :
    ∃ (s : SignerRec) (custom : Claims α) (iat exp : Int),
      w.signers[x.signer]? = some s ∧ customOf render x = some custom ∧
      lookup "sub" t.claims = some (.str x.sub.id) ∧ lookup "iss" t.claims = some (.str s.iss) ∧
      lookup "iat" t.claims = some (.num iat) ∧ lookup "nbf" t.claims = some (.num iat) ∧
      lookup "exp" t.claims = some (.num exp) ∧ lookup "jti" t.claims = some .fresh ∧
      iat + unixSec x.fin.ttlNs ≤ exp ∧ exp ≤ iat + unixSec x.fin.ttlNs + 1 ∧
      (∀ ttlSec : Int, x.fin.ttlNs = ttlSec * 1000000000 → exp = iat + ttlSec) ∧
      (∀ k, k ∉ reserved → lookup k t.claims = lookup k custom) := by
  obtain ⟨s, st, issuedNs, custom, hs, _, _, hcu, rfl, _⟩ := h
  obtain ⟨h1, h2, h3, h4, h5, h6⟩ := c16_system_claims st ⟨x.sub.id, s.iss, issuedNs, x.fin.ttlNs⟩ custom
  obtain ⟨b1, b2⟩ := c16_exp_bounds issuedNs x.fin.ttlNs
  refine ⟨s, custom, _, _, hs, hcu, h1, h2, h3, h4, h5, h6, b1, b2, fun ttlSec he => he ▸ c16_exp_exact issuedNs ttlSec,
    fun k hk => ?_⟩
  rw [c16_claims_spec, specClaim, reservedSrc_of_not_reserved hk]

/-- a handed-out token is not expired: if storing follows signing within the leeway minus one second (`d ≤ 4 s`),
the lookup does not go back in time before the signing of the same call, and the TTL is at least a second (the
configuration demands more), then at the moment of the lookup the token's `exp` lies in the future — for fresh and
for cached tokens alike.  A cached token was issued at most `ttl − leeway + d` ago. -/
theorem c16_cache_not_expired (render : Render α) (d : Int) (w : World α) (x : Exec) (t : Token α) (src : Source)
    (h : Handout render d w x t src) (hd : d + 1000000000 ≤ leewayNs) (hmono : x.getNs ≤ x.signNs)
    (httl : 1000000000 ≤ x.fin.ttlNs) :
    ∃ issuedNs : Int, lookup "iat" t.claims = some (.num (unixSec issuedNs)) ∧
      lookup "exp" t.claims = some (.num (unixSec (issuedNs + x.fin.ttlNs))) ∧
      unixSec x.getNs < unixSec (issuedNs + x.fin.ttlNs) ∧
      (src = .cached → x.getNs - issuedNs ≤ x.fin.ttlNs - leewayNs + d) := by
  obtain ⟨s, st, issuedNs, custom, _, _, _, _, rfl, _, _, _, hf, hc⟩ := h
  obtain ⟨_, _, hiat, _, hexp, _⟩ := c16_system_claims st ⟨x.sub.id, s.iss, issuedNs, x.fin.ttlNs⟩ custom
  refine ⟨issuedNs, hiat, hexp, unixSec_lt ?_, fun hs => by have := (hc hs).1; omega⟩
  cases src with
  | fresh => have := (hf rfl).2; omega
  | cached => have := (hc rfl).1; omega

/-- a handed-out token names id and algorithm of the key that is active **now** and is signed by a key with that
key's public half — although a cached token was signed by the generation active when it was issued.  (The signer hash
— key id, algorithm, issuer, thumbprint — is part of the cache key.) -/
theorem c16_cache_token_names_current_key (render : Render α) (d : Int) (w : World α) (x : Exec) (t : Token α)
    (src : Source) (h : Handout render d w x t src) :
    ∃ s, w.signers[x.signer]? = some s ∧ t.typ = "JWT" ∧ t.kid = s.st.jwk.kid ∧ t.alg = s.st.jwk.alg ∧
      t.signedBy.pub = s.st.key.pub := by
  obtain ⟨s, st, issuedNs, custom, hs, hcs, hc, _, rfl, h1, h2, h3, _, _⟩ := h
  exact ⟨s, hs, rfl, h1, h2, (hc.pair.symm.trans h3).trans hcs.pair⟩

/-- a handed-out token verifies against the key list its signer publishes now (first key with the token's id, as
go-jose verifies against a JWK set) and is verified by some key of the set the endpoint publishes for all signers -/
theorem c16_cache_token_verifies_now (render : Render α) (d : Int) (w : World α) (x : Exec) (t : Token α)
    (src : Source) (h : Handout render d w x t src) :
    ∃ s, w.signers[x.signer]? = some s ∧ verifiesFirst s.st.pubKeys t = true ∧
      verifiesAny (published (w.signers.map (·.st))) t = true := by
  -- the generation that signed a handed-out token has the active key of the generation active now
  obtain ⟨s, st, _, _, hs, hcs, hc, _, rfl, h1, _, h3, _⟩ := h
  have hk : KeyKept st s.st := ⟨_, hcs.active_published, h1.symm, h3.symm.trans hc.pair⟩
  exact ⟨s, hs, verifiesFirst_of_kept hc hcs hk _ _,
    verifiesAny_of_kept (List.mem_map_of_mem (List.mem_of_getElem? hs)) hc hcs hk _ _⟩

/-- **Across a key reload.**  Whatever the history contains — reloads to other keys, to the same key, failed reloads,
reloads back to an earlier store —, a token that names another key id or algorithm than the key active now, or that
was signed by a key with another public half, is not handed out: tokens issued under a replaced key leave circulation
with the reload (they stay in the cache unreachable until they expire; if a later reload makes their key active again
they are served again, and rightly so by this very theorem). -/
theorem c16_cache_reload_retires_tokens (render : Render α) (d : Int) (w0 : World α) (h0 : Started w0)
    (hist : List Event) (hd : DelayBound d hist) (x : Exec) (hx : x.setNs ≤ x.signNs + d) (t : Token α) (src : Source)
    (w' : World α) (h : execute render (run render w0 hist) x = some (t, src, w')) (s : SignerRec)
    (hs : (run render w0 hist).signers[x.signer]? = some s) (old : Token α)
    (hold : old.kid ≠ s.st.jwk.kid ∨ old.alg ≠ s.st.jwk.alg ∨ old.signedBy.pub ≠ s.st.key.pub) : t ≠ old := by
  obtain ⟨s', hs', _, hk, ha, hp⟩ := c16_cache_token_names_current_key render d _ x t src
    (c16_cache_handout render d w0 h0 hist hd x hx t src w' h)
  cases hs.symm.trans hs'
  rintro rfl
  exact hold.elim (· hk) fun h => h.elim (· ha) (· hp)

/-- the cache is used: an execution that stored its token (TTL above the leeway) is answered from the cache with that
very token when it is repeated — same instance configuration, signer, subject, outputs — no later than `ttl − leeway`
after the entry was stored -/
theorem c16_cache_repeat_is_served (render : Render α) (w : World α) (x y : Exec) (t : Token α) (w' : World α)
    (h : execute render w x = some (t, .fresh, w')) (hl : leewayNs < x.fin.ttlNs)
    (hy : y.signer = x.signer ∧ y.fin = x.fin ∧ y.sub = x.sub ∧ y.outputs = x.outputs)
    (hat : y.getNs ≤ x.setNs + (x.fin.ttlNs - leewayNs)) :
    execute render w' y = some (t, .cached, w') := by
  unfold execute executeK at h ⊢
  cases hs : w.signers[x.signer]? with
  | none => simp [hs] at h
  | some s =>
    simp only [hs, id] at h
    split at h
    · cases h
    split at h
    · cases h
    simp only [Option.some.injEq, Prod.mk.injEq, true_and, if_pos hl] at h
    obtain ⟨rfl, rfl⟩ := h
    have hk : keyOf s y = keyOf s x := by simp [keyOf, hy.2.1, hy.2.2.1, hy.2.2.2]
    simp only [hy.1, hs, id, hk, Cache.get_set _ _ _ _ _ _ _ (by omega : 0 < x.fin.ttlNs - leewayNs), if_true,
      if_pos hat]

/-! ### witnesses: a prototype and its rule-level variant, two subjects, reloads -/

def noRender : Render Nat := fun _ _ _ => none
def proto : Finalizer := ⟨600000000000, none, "Authorization", "Bearer"⟩          -- `ttl: 10m`
def variant : Finalizer := ⟨30000000000, none, "Authorization", "Bearer"⟩          -- `WithConfig(ttl: 30s)`
def alice : Subject := ⟨"alice", "{\"role\":\"user\"}"⟩
def bob : Subject := ⟨"bob", "{}"⟩
def world0 : World Nat := ⟨[⟨"", "heimdall", st1⟩], []⟩
/-- `Execute` at second `sec` (all three clock readings) -/
def at_ (sec : Int) (f : Finalizer) (sub : Subject) : Exec :=
  ⟨0, f, sub, "{}", sec * 1000000000, sec * 1000000000, sec * 1000000000⟩
/-- a key store file that makes `k2` under id `b` the active key, and one that restores `st1` -/
def fileB : File := some [⟨"b", k2, [], true, true⟩]
def fileA : File := some [⟨"a", k1, [], true, true⟩]

/-- the prototype serves alice at second 0; then the variant serves her at second 1 -/
def h1 : List Event := [.exec (at_ 0 proto alice)]
def h2 : List Event := h1 ++ [.exec (at_ 1 variant alice)]

/-- source, key id, `iat`, `exp` of what an execution hands out -/
structure Seen where
  src : Source
  kid : String
  iat : Option (CVal Nat)
  exp : Option (CVal Nat)
deriving DecidableEq, Repr

def seen (r : Option (Token Nat × Source × World Nat)) : Option Seen :=
  r.map (fun r => ⟨r.2.1, r.1.kid, lookup "iat" r.1.claims, lookup "exp" r.1.claims⟩)

theorem c16_cache_witness_started : Started world0 := ⟨rfl, by
  intro s hs
  simp only [world0, List.mem_singleton] at hs
  subst hs
  exact c16_load_consistent "" [⟨"a", k1, [], true, true⟩] st1 (by decide +kernel)⟩

theorem c16_cache_witness_delay : DelayBound 0 h2 ∧
    DelayBound 0 [.exec (at_ 0 proto alice), .reload 0 fileB, .execDuring (at_ 7 variant alice) fileA] := by
  refine ⟨?_, ?_⟩ <;> intro ev hev x hx <;>
    simp only [h2, h1, List.cons_append, List.nil_append, List.mem_cons, List.not_mem_nil, or_false] at hev
  · rcases hev with rfl | rfl <;> cases hx <;> decide +kernel
  · rcases hev with rfl | rfl | rfl <;> cases hx <;> decide +kernel

/-- the hypotheses of the theorems above are met by a non-trivial run: after prototype and variant have served alice,
the prototype's execution at second 20 is answered from the cache, and what it hands out satisfies `Handout` -/
example : ∃ t w', execute noRender (run noRender world0 h2) (at_ 20 proto alice) = some (t, .cached, w') ∧
    Handout noRender 0 (run noRender world0 h2) (at_ 20 proto alice) t .cached := by
  have hs : (execute noRender (run noRender world0 h2) (at_ 20 proto alice)).map (·.2.1) = some .cached := by
    decide +kernel
  obtain ⟨⟨t, src, w'⟩, hx, hsrc⟩ := Option.map_eq_some_iff.mp hs
  cases hsrc
  exact ⟨t, w', hx, c16_cache_handout noRender 0 world0 c16_cache_witness_started h2 c16_cache_witness_delay.1 _
    (by decide +kernel) t .cached w' hx⟩

/-- prototype (10 m) and variant (30 s) serve the same subject one after the other: the variant does **not** hand
out the prototype's token (its own: `exp − iat` = 30); repeated within `ttl − leeway` both are served from the cache,
each its own token; the variant again after 26 s (lifetime 25 s): a fresh token; another subject: a fresh token -/
example :
    seen (execute noRender (run noRender world0 h1) (at_ 1 variant alice)) = some ⟨.fresh, "a", some (.num 1), some (.num 31)⟩ ∧
    seen (execute noRender (run noRender world0 h2) (at_ 20 proto alice)) = some ⟨.cached, "a", some (.num 0), some (.num 600)⟩ ∧
    seen (execute noRender (run noRender world0 h2) (at_ 26 variant alice)) = some ⟨.cached, "a", some (.num 1), some (.num 31)⟩ ∧
    seen (execute noRender (run noRender world0 h2) (at_ 27 variant alice)) = some ⟨.fresh, "a", some (.num 27), some (.num 57)⟩ ∧
    seen (execute noRender (run noRender world0 h2) (at_ 2 proto bob)) = some ⟨.fresh, "a", some (.num 2), some (.num 602)⟩ := by
  decide +kernel

/-- across reloads: after a reload to another key the cached token is not served (fresh token under the new key);
a failed reload changes nothing (still cached); after a reload that restores the first key the first token is served
again — it names the key that is active again — as long as it is in the cache -/
example :
    seen (execute noRender (run noRender world0 (h1 ++ [.reload 0 fileB])) (at_ 5 proto alice)) = some ⟨.fresh, "b", some (.num 5), some (.num 605)⟩ ∧
    seen (execute noRender (run noRender world0 (h1 ++ [.reload 0 none])) (at_ 5 proto alice)) = some ⟨.cached, "a", some (.num 0), some (.num 600)⟩ ∧
    seen (execute noRender (run noRender world0 (h1 ++ [.reload 0 fileB, .exec (at_ 5 proto alice), .reload 0 fileA])) (at_ 9 proto alice))
      = some ⟨.cached, "a", some (.num 0), some (.num 600)⟩ := by
  decide +kernel

/-- **The negative: the TTL must be part of the key.**  With a key function that does not cover the TTL (`dropTtl`:
prototype and variant share entries) the two-step history "prototype `ttl: 10m` serves alice, then
the variant `ttl: 30s` serves alice" hands out, by the variant, the prototype's token: `exp − iat` is 600 s where the
variant's TTL is 30 s.  So `c16_cache_claims` fails for that key function; with the real key (`execute`) the same
history yields `exp − iat` = 30 s. -/
theorem c16_cache_key_without_ttl_violates :
    (at_ 1 variant alice).fin.ttlNs = 30 * 1000000000 ∧
    seen (executeK dropTtl noRender (runK dropTtl noRender world0 h1) (at_ 1 variant alice))
      = some ⟨.cached, "a", some (.num 0), some (.num 600)⟩ ∧
    seen (execute noRender (run noRender world0 h1) (at_ 1 variant alice))
      = some ⟨.fresh, "a", some (.num 1), some (.num 31)⟩ := by
  decide +kernel

/-! ### an execution overlapping a reload of its signer's key store

`Execute` reads the signer twice: `Hash` for the cache key, then `Sign`.  A reload may commit in between
(`Event.execDuring`).  The theorems above hold for histories containing such executions because the token is stored
under the key of the signer state that signed it (`signAndHash`; fixes/C16-1.patch — see `design/C16.md`). -/

/-- what an execution overlapping a reload hands out: a cached token is a token for this execution in the world before
the reload (it names the key that was active when the request looked it up), a fresh one in the world after it (signed
by the new generation); after any history, including earlier overlapping executions -/
theorem c16_cache_handout_during_reload (render : Render α) (d : Int) (w0 : World α) (h0 : Started w0)
    (hist : List Event) (hd : DelayBound d hist) (x : Exec) (f : File) (hx : x.setNs ≤ x.signNs + d) (t : Token α)
    (src : Source) (w' : World α) (h : executeDuring render (run render w0 hist) x f = some (t, src, w')) :
    (src = .cached → Handout render d (run render w0 hist) x t src) ∧
    (src = .fresh → Handout render d (reloadAt (run render w0 hist) x.signer f) x t src) := by
  have := executeDuring_spec (run_inv (.of_started h0) hist hd) hx h
  exact ⟨this.1, this.2.1⟩

/-- **Why the token has to be stored under the key of the state that signed it.**  With the key calculated for the
lookup (`lookupKey`, the code before fixes/C16-1): alice is served while the key store is rotated from key `a` to key
`b` (the token is signed by `b`, stored under the hash of `a`); the rotation is rolled back; alice's next request is
answered from the cache with a token naming `b` while `a` is active and `b` is not published any more — contradicting
`c16_cache_token_names_current_key` and `c16_cache_token_verifies_now`.  With the fixed policy the same history
yields a fresh token naming `a`. -/
theorem c16_cache_lookup_key_violates_across_reload :
    let hist := [Event.execDuring (at_ 0 proto alice) fileB, .reload 0 fileA]
    seen (executeK lookupKey noRender (runK lookupKey noRender world0 hist) (at_ 1 proto alice))
      = some ⟨.cached, "b", some (.num 0), some (.num 600)⟩ ∧
    ((runK lookupKey noRender world0 hist).signers.map (fun s => (s.st.jwk.kid, s.st.pubKeys.map (·.kid)))) = [("a", ["a"])] ∧
    seen (execute noRender (run noRender world0 hist) (at_ 1 proto alice))
      = some ⟨.fresh, "a", some (.num 1), some (.num 601)⟩ := by
  decide +kernel

/-- witnesses: an overlapping execution that signs (fresh, under the new key `b`) and one that is answered from the
cache (the prototype's token of second 0, naming `a`, while the store moves on to `b`) -/
example :
    seen (executeDuring noRender (run noRender world0 h1) (at_ 3 variant alice) fileB)
      = some ⟨.fresh, "b", some (.num 3), some (.num 33)⟩ ∧
    seen (executeDuring noRender (run noRender world0 h1) (at_ 3 proto alice) fileB)
      = some ⟨.cached, "a", some (.num 0), some (.num 600)⟩ := by
  decide +kernel

/-! ## Time: certificates run out, the published key does not

`load` judges the certificates of a key store at the instant of the load (`loadAt`: construction and every
`OnChanged`); `Keys()` does not read the clock (`keysAt`).  When the certificate of the signing key — or the one of
its issuing CA — runs out while the process is up, the signer keeps signing with the key **and keeps publishing it**
until a reload succeeds; a reload of a file with a certificate outside its period is refused and changes nothing.
What the property demands (`Spec/SignerTime.lean`): a token verifies against the set published at any instant at or
after its issue while the signer still works with the key.  Refusing to sign with an expired certificate would be
another behaviour consistent with that (`c16_refusing_to_sign_when_expired_is_consistent`); signing with a key that
is no longer listed is the violation (`c16_dropping_expired_keys_violates`). -/

/-- **The published list is a function of the load generation only**: whenever `Keys()` is called it answers with
the list the last successful load installed -/
theorem c16_keys_independent_of_time (ci : CertInfo) (st : State) (now now' : Int) :
    keysAt ci st now = st.pubKeys ∧ keysAt ci st now = keysAt ci st now' := by
  simp [keysAt_eq]

/-- the same for the endpoint: the concatenation of the key holders' lists as loaded, at every instant -/
theorem c16_published_independent_of_time (ci : CertInfo) (holders : List State) (now now' : Int) :
    publishedAt ci holders now = published holders ∧ publishedAt ci holders now = publishedAt ci holders now' := by
  simp [publishedAt_eq]

/-- **A published key does not expire.**  The signer is constructed from any key store file at any instant; any
history of reload attempts follows, each at its own instant (successful, refused — also because a certificate has run
out by then —, of any file); a token is handed out at some point of the history (`pre`: what happened before), the
history goes on (`post`).  If the generation the signer works with afterwards still lists the key of the token under
its id (`KeyKept`: no reload replaced the key — in particular if there was no reload, or none succeeded), the token
verifies against the list published at **every** instant: no bound on the time that passes, and whatever the validity
periods of the certificates in the store say (`ci` is arbitrary).  In particular from its issue on (`VerifiesFrom`). -/
theorem c16_published_key_does_not_expire (ci : CertInfo) (keyID : String) (f0 : TimedFile) (t0 : Int) (st0 : State)
    (h0 : loadAt ci keyID f0 t0 = some st0) (pre post : List (Int × TimedFile)) (i : SignIn) (custom : Claims α)
    (hk : KeyKept (runClock ci keyID st0 pre) (runClock ci keyID st0 (pre ++ post))) :
    (∀ instant : Int, verifiesFirst (keysAt ci (runClock ci keyID st0 (pre ++ post)) instant)
      (sign (runClock ci keyID st0 pre) i custom) = true) ∧
    VerifiesFrom (keysAt ci (runClock ci keyID st0 (pre ++ post))) (sign (runClock ci keyID st0 pre) i custom)
      i.nowNs := by
  have hc0 := loadAt_consistent h0
  have hv := verifiesFirst_of_kept (runClock_consistent ci keyID st0 pre hc0)
    (runClock_consistent ci keyID st0 (pre ++ post) hc0) hk i custom
  exact ⟨fun _ => by rwa [keysAt_eq], fun _ _ => by rwa [keysAt_eq]⟩

/-- at the endpoint, next to any other key holders: some key published at every instant, under the token's id and
algorithm, verifies it -/
theorem c16_registry_published_key_does_not_expire (ci : CertInfo) (holders : List State) (issuing current : State)
    (hm : current ∈ holders) (hi : Consistent issuing) (hc : Consistent current) (hk : KeyKept issuing current)
    (i : SignIn) (custom : Claims α) (instant : Int) :
    verifiesAny (publishedAt ci holders instant) (sign issuing i custom) = true := by
  rw [publishedAt_eq]
  exact verifiesAny_of_kept hm hi hc hk i custom

/-- a reload is refused, and changes nothing, when any certificate of the file — the leaf of the signing key, the CA
that issued it, a certificate of another key block — is outside its validity period at the instant of the reload -/
theorem c16_reload_with_expired_certificate_changes_nothing (ci : CertInfo) (keyID : String) (st : State)
    (raw : List TimedEntry) (now : Int) (e : TimedEntry) (he : e ∈ raw) (c : Cert) (hc : c ∈ e.chain)
    (hv : c.validAt ci now = false) :
    loadAt ci keyID (some raw) now = none ∧ reloadOn ci keyID st (now, some raw) = st := by
  have h : loadAt ci keyID (some raw) now = none := by
    refine load_eq_none fun _ L => ?_
    refine L.chains _ (List.mem_map_of_mem he) ⟨List.ne_nil_of_mem hc, ?_⟩
    have : e.chain.all (Cert.validAt ci now) = false :=
      Bool.eq_false_iff.mpr fun hall => Bool.noConfusion (hv.symm.trans (List.all_eq_true.mp hall c hc))
    show e.chainValidAt ci now = false
    rw [TimedEntry.chainValidAt, this, Bool.and_false]
  exact ⟨h, reload_failed h⟩

/-- so: while every reload attempt is refused — the file did not change and its certificate has run out, the file is
broken, ... — tokens issued before and after keep verifying against what is published, at every instant -/
theorem c16_token_verifies_while_reloads_are_refused (ci : CertInfo) (keyID : String) (f0 : TimedFile) (t0 : Int)
    (st0 : State) (h0 : loadAt ci keyID f0 t0 = some st0) (pre post : List (Int × TimedFile))
    (hr : ∀ ev ∈ post, loadAt ci keyID ev.2 ev.1 = none) (i : SignIn) (custom : Claims α) (instant : Int) :
    runClock ci keyID st0 (pre ++ post) = runClock ci keyID st0 pre ∧
    verifiesFirst (keysAt ci (runClock ci keyID st0 (pre ++ post)) instant)
      (sign (runClock ci keyID st0 pre) i custom) = true := by
  have hsame : runClock ci keyID st0 (pre ++ post) = runClock ci keyID st0 pre := by
    rw [runClock_append, runClock_refused ci keyID _ post hr]
  refine ⟨hsame, ?_⟩
  have hc := runClock_consistent ci keyID st0 pre (loadAt_consistent h0)
  exact (c16_published_key_does_not_expire ci keyID f0 t0 st0 h0 pre post i custom
    (by rw [hsame]; exact keyKept_refl hc)).1 instant

/-! ### witnesses: a key store whose leaf certificate runs out 3 s after the start, one whose CA does -/

/-- certificate 7: valid for the first three seconds; certificate 8 (a renewal) and all others: for long -/
def ciW : CertInfo := fun cid => if cid = 7 then ⟨0, 3000000000⟩ else ⟨0, 1000000000000000000⟩
def sec (n : Int) : Int := n * 1000000000
/-- key `k2` under the id `sig`, certified by the short-lived certificate 7 -/
def fileLeaf : TimedFile := some [⟨"sig", k2, [⟨7, ""⟩], true, true⟩]
/-- the same key and id with the renewed certificate 8 -/
def fileRenewed : TimedFile := some [⟨"sig", k2, [⟨8, ""⟩], true, true⟩]
/-- key `k2` with a long-lived leaf (9) issued by the short-lived CA certificate 7 -/
def fileCA : TimedFile := some [⟨"sig", k2, [⟨9, ""⟩, ⟨7, ""⟩], true, true⟩]
/-- another key under another id -/
def fileOther : TimedFile := some [⟨"next", k1, [], true, true⟩]

/-- the stores load while the certificates are valid and are refused afterwards — leaf and CA alike -/
example : (loadAt ciW "" fileLeaf (sec 0)).isSome = true ∧ loadAt ciW "" fileLeaf (sec 4) = none ∧
    (loadAt ciW "" fileCA (sec 2)).isSome = true ∧ loadAt ciW "" fileCA (sec 4) = none ∧
    (loadAt ciW "" fileRenewed (sec 4)).isSome = true := by decide +kernel

/-- hypotheses of `c16_reload_with_expired_certificate_changes_nothing`: the CA certificate of `fileCA` at second 4 -/
example : (⟨7, ""⟩ : Cert) ∈ [(⟨9, ""⟩ : Cert), ⟨7, ""⟩] ∧ Cert.validAt ciW (sec 4) ⟨7, ""⟩ = false := by decide +kernel

/-- `KeyKept` across a refused reload of the expired file and across a reload to the renewed certificate (another
published JWK: other `x5c`, same key and id); not across a reload to another key -/
example : ∃ st0, loadAt ciW "" fileLeaf (sec 0) = some st0 ∧
    KeyKept st0 (runClock ciW "" st0 [(sec 4, fileLeaf)]) ∧
    KeyKept st0 (runClock ciW "" st0 [(sec 4, fileLeaf), (sec 5, fileRenewed)]) ∧
    (runClock ciW "" st0 [(sec 5, fileRenewed)]).pubKeys ≠ st0.pubKeys ∧
    ¬ KeyKept st0 (runClock ciW "" st0 [(sec 5, fileOther)]) := by
  refine ⟨⟨⟨"sig", "ES512", "sig", k2.pub, [⟨7, ""⟩]⟩, k2, [⟨"sig", "ES512", "sig", k2.pub, [⟨7, ""⟩]⟩]⟩, ?_⟩
  unfold KeyKept
  decide +kernel

/-- what is observed over time on the witness store (signed and asked at the same instant): before the expiry, after
it, after a refused reload of the same file, after the renewal — published ids and the verdict for a fresh token -/
example :
    (loadAt ciW "" fileLeaf (sec 0)).map (fun st0 =>
      [sec 1, sec 4, sec 1000000].map (fun now =>
        ((keysAt ciW st0 now).map (·.kid), verifiesFirst (keysAt ciW st0 now) (sign st0 ⟨"alice", "heimdall", now, sec 60⟩ ([] : Claims Nat)))))
      = some [(["sig"], true), (["sig"], true), (["sig"], true)] ∧
    (loadAt ciW "" fileLeaf (sec 0)).map (fun st0 =>
      let st := runClock ciW "" st0 [(sec 4, fileLeaf), (sec 5, fileRenewed)]
      (st.pubKeys.map (·.certs), verifiesFirst (keysAt ciW st (sec 6)) (sign st0 ⟨"alice", "heimdall", sec 1, sec 60⟩ ([] : Claims Nat))))
      = some ([[⟨8, ""⟩]], true) := by decide +kernel

/-- alice's token, valid for a minute, signed by the generation `st` at second `n` -/
def tokenAt (st : State) (n : Int) : Token Nat := sign st ⟨"alice", "heimdall", sec n, sec 60⟩ []

/-- **The negative: a published key must not be dropped when its certificate runs out.**  With `Keys()` leaving out
keys whose leaf certificate is past `NotAfter` at the call (`dropExpired`) while `load` judges the
certificate at load time only: the signer is constructed at second 0 from a store whose certificate is valid until
second 3; at second 4 it still signs with the key and names its id, but the published list is empty — the token does
not verify (nor does the one issued at second 1, still valid for a minute).  With the code's `Keys()` both verify;
while the certificate is valid the two variants agree. -/
theorem c16_dropping_expired_keys_violates :
    (loadAt ciW "" fileLeaf (sec 0)).map (fun st =>
      ((tokenAt st 4).kid, (tokenAt st 4).signedBy, (keysAtK dropExpired ciW st (sec 4)).map (·.kid),
       [tokenAt st 4, tokenAt st 1].map (verifiesFirst (keysAtK dropExpired ciW st (sec 4))),
       [tokenAt st 4, tokenAt st 1].map (verifiesFirst (keysAt ciW st (sec 4)))))
    = some ("sig", k2, [], [false, false], [true, true]) ∧
    (loadAt ciW "" fileLeaf (sec 0)).map (fun st =>
      ((keysAtK dropExpired ciW st (sec 2)).map (·.kid), verifiesFirst (keysAtK dropExpired ciW st (sec 2)) (tokenAt st 1)))
    = some (["sig"], true) := by
  decide +kernel

/-- **The other consistent behaviour**: a signer that refuses to sign while a certificate of its active key is
outside its period hands out fewer tokens, and every token it does hand out is the one `Sign` makes — so it verifies
against the published list at every instant like any other.  (Not what the code does: it keeps signing.) -/
theorem c16_refusing_to_sign_when_expired_is_consistent (ci : CertInfo) (st : State) (hc : Consistent st)
    (i : SignIn) (custom : Claims α) (t : Token α) (h : signIfValid ci st i custom = some t) (instant : Int) :
    t = sign st i custom ∧ verifiesFirst (keysAt ci st instant) t = true := by
  unfold signIfValid at h
  split at h
  · cases h
    exact ⟨rfl, by rw [keysAt_eq]; exact c16_token_verifies st hc i custom⟩
  · cases h

/-- it signs before the expiry and refuses after it -/
example : (loadAt ciW "" fileLeaf (sec 0)).map (fun st =>
    ((signIfValid ciW st ⟨"alice", "heimdall", sec 1, sec 60⟩ ([] : Claims Nat)).isSome,
     (signIfValid ciW st ⟨"alice", "heimdall", sec 4, sec 60⟩ ([] : Claims Nat)).isSome)) = some (true, false) := by
  decide +kernel

end Heimdall.Props.C16
