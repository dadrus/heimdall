import HeimdallModel.Model.ErrMapSrc
/-!
# C12 — the classification switches *as they stand in the source* take the branch the C12 model takes

`Gen/ErrSwitchSrc.lean` is regenerated on every run by the Go → Lean translator `extract/go2lean` (`cmd/errswitch`) from
the whole bodies of `(*interceptor).intercept` (gRPC / Envoy ext_authz) and `(*errorHandler).HandleError` (HTTP decision
and proxy). For **every** error value - trees of wrappers, joins and chains of any depth and width - both are proved to
take exactly the branch `classify switchCases (.respond .internal)` of `Model/ErrMap.lean` names: authentication before
authorization before communication (timeout or communication) before argument before no-rule before redirect, internal
otherwise. The theorems of `Props/C12.lean` (precedence, never success, HTTP ≡ gRPC, …) are stated over that table, so
they speak about the order and the tests of the `case`s of the current source. A handler that succeeded is passed
through by `intercept` untouched. How the parameters of the translation are filled: `Model/ErrMapSrc.lean`.
-/
-- the `simp only` sets below are supersets: which of their lemmas fire depends on the shape of the regenerated source
set_option linter.unusedSimpArgs false

namespace Heimdall.Props.C12
open Heimdall Heimdall.ErrMap Heimdall.ErrMap.SrcTie

/-- **The tie holds for this run:** `Gen/ErrSwitchSrc.lean` is the result of translating the current source. -/
theorem c12_src_translated : Src.translationOk = true := by decide

/-- the model's classification by the shared case table, spelled out -/
theorem c12_src_classify_unfolded (e : Err) :
    classify switchCases (.respond .internal) e =
      if e.is .authentication then .respond .authn
      else if e.is .authorization then .respond .authz
      else if e.is .timeout || e.is .communication then .respond .comm
      else if e.is .argument then .respond .precond
      else if e.is .noRule then .respond .noRule
      else if e.isRedirect then .redirect
      else .respond .internal := by
  simp only [switchCases, classify, List.any_cons, List.any_nil, Test.eval, Bool.or_false]

/-- **gRPC: `intercept` answers a failed handler from the branch the model's `classify` names**, for every error
value; nothing of the handler's result is passed on and the interceptor itself reports no error. -/
theorem c12_src_grpc_takes_model_branch (res : Option Action) (e : Err) :
    grpcSrc res (some e) = .done (some (classify grpc.cases grpc.dflt e), none) () := by
  -- results of `intercept` carry an `Option Err`, whose equality is not decidable; the branch together with whether
  -- an error is reported is, and determines a result that reports none
  have observed : ∀ {r : Go.Res Unit Unit (Option Action × Option Err)} {a : Option Action},
      r.map (fun p => (p.1, p.2.isNone)) = .done (a, true) () → r = .done (a, none) () := by
    intro r a h
    cases r with
    | panic => cases h
    | done p c =>
      obtain ⟨x, o⟩ := p
      cases o with
      | none => cases h; rfl
      | some _ => cases h
  apply observed
  show _ = Go.Res.done (some (classify switchCases (.respond .internal) e), true) ()
  rw [c12_src_classify_unfolded]
  unfold grpcSrc Src.Grpc.intercept
  simp only [Go.bind, Go.pure, Option.isNone_some, cond_false, Option.any_some, built, Go.cond_app]
  -- both sides depend on `e` through the outcomes of the seven tests only: compared on all of them, however the
  -- source arranges the tests
  generalize e.is .authentication = b₁
  generalize e.is .authorization = b₂
  generalize e.is .timeout = b₃
  generalize e.is .communication = b₄
  generalize e.is .argument = b₅
  generalize e.is .noRule = b₆
  generalize e.isRedirect = b₇
  revert b₁ b₂ b₃ b₄ b₅ b₆ b₇
  decide +kernel

/-- **gRPC: a handler that succeeded is passed through untouched.** -/
theorem c12_src_grpc_passes_success (res : Option Action) : grpcSrc res none = .done (res, none) () := by
  unfold grpcSrc Src.Grpc.intercept
  simp [Go.bind, Go.pure]

/-- **HTTP: `HandleError` writes exactly one response, from the branch the model's `classify` names**, for every
error value. -/
theorem c12_src_http_takes_model_branch (e : Err) :
    httpSrc (some e) = .done () [classify http.cases http.dflt e] := by
  show httpSrc (some e) = .done () [classify switchCases (.respond .internal) e]
  rw [c12_src_classify_unfolded]
  unfold httpSrc Src.Http.HandleError
  simp only [Option.any_some]
  generalize e.is .authentication = b₁
  generalize e.is .authorization = b₂
  generalize e.is .timeout = b₃
  generalize e.is .communication = b₄
  generalize e.is .argument = b₅
  generalize e.is .noRule = b₆
  generalize e.isRedirect = b₇
  revert b₁ b₂ b₃ b₄ b₅ b₆ b₇
  decide +kernel

/-- **The two translators of the source take the same branch** for every error value (the source-level core of
`c12_http_eq_grpc`). -/
theorem c12_src_http_and_grpc_take_the_same_branch (res : Option Action) (e : Err) :
    ∃ a, httpSrc (some e) = .done () [a] ∧ grpcSrc res (some e) = .done (some a, none) () :=
  ⟨classify switchCases (.respond .internal) e, c12_src_http_takes_model_branch e, c12_src_grpc_takes_model_branch res e⟩

/-- **No error value is answered from a "success" branch**: whatever the error, the branch taken is one of the six
error classes or the redirect (there is no other constructor) and it is the internal class unless a test holds. -/
theorem c12_src_unclassified_is_internal (e : Err) (h1 : e.is .authentication = false) (h2 : e.is .authorization = false)
    (h3 : e.is .timeout = false) (h4 : e.is .communication = false) (h5 : e.is .argument = false)
    (h6 : e.is .noRule = false) (h7 : e.isRedirect = false) :
    httpSrc (some e) = .done () [.respond .internal] := by
  rw [c12_src_http_takes_model_branch]
  show Go.Res.done () [classify switchCases (.respond .internal) e] = _
  rw [c12_src_classify_unfolded]
  simp [h1, h2, h3, h4, h5, h6, h7]

/-- the premises of `c12_src_unclassified_is_internal` are met by a foreign error wrapped twice, and a chain whose head
is a configuration error over an authorization cause is answered from the authorization branch by both translators
(evaluated) -/
example :
    httpSrc (some (.wrap (.wrap .foreign))) = .done () [.respond .internal] ∧
    httpSrc (some (.chain [.kind .configuration, .kind .authorization])) = .done () [.respond .authz] ∧
    grpcSrc none (some (.join [.kind .argument, .redirect 302 "x", .kind .timeout])) = .done (some (.respond .comm), none) () :=
  ⟨by decide +kernel, by decide +kernel, rfl⟩

end Heimdall.Props.C12
