import HeimdallModel.Model.AuthnSrc
/-!
# C04 — `compositeSubjectCreator.Execute` *as it stands in the source* is the `composite` of the C04 model

`Gen/CompositeSrc.lean` is regenerated on every run by the Go → Lean translator `extract/go2lean` (`cmd/composite`) from
the whole body of `compositeSubjectCreator.Execute`; the `for idx, a := range ca` loop is a structurally recursive
function over the list. `c04_src_composite` proves, for chains of **any length** and **every** outcome / fallback setting
of the authenticators, that it returns exactly what `Heimdall.Authn.composite` returns (`Model/Authn.lean`) — so
`c04_consulted_iff`, `c04_first_success`, `c04_rejected_is_final` and the other theorems of `Props/C04.lean` about
`composite` / `run` speak about the loop of the current source: which disjuncts the fallback condition has, that
`continue` / `break` / `return` sit where they sit, that the last error is what is returned. The guard
`idx < len(ca)` is shown to hold in every iteration (`c04_src_creator_loop` carries `idx + remaining = len`), and the
translated function never panics on a nil subject. How the parameters of the translation are filled: `Model/AuthnSrc.lean`.
-/
-- the `simp` sets name every operation of the translated code, not only those today's source uses
set_option linter.unusedSimpArgs false

namespace Heimdall.Props.C04
open Heimdall Heimdall.Authn Heimdall.Rules Heimdall.Authn.SrcTie

/-- **The tie holds for this run:** `Gen/CompositeSrc.lean` is the result of translating the current source. -/
theorem c04_src_translated : Src.translationOk = true := by decide

/-- The loop started at position `idx` of a slice of length `n` with the steps `ss` still to come (`idx + |ss| = n`) and
`err` holding the error of the previous iteration: it is `compositeFrom ss` from that last result. -/
theorem c04_src_creator_loop (n : Int) (ss : List Step) :
    ∀ (idx : Int) (sub : Option String) (err : Option Err),
      idx + (ss.length : Nat) = n →
      Src.SubjectCreator.Execute_loop stepExec (·.fallback) (·.is .argument) () n idx ss sub err ()
        = .done (ofResult (compositeFrom ss (lastOf err))) () := by
  induction ss with
  | nil => intro idx sub err _; cases err <;> simp [Src.SubjectCreator.Execute_loop, compositeFrom, Go.pure, ofResult, lastOf]
  | cons s ss ih =>
    intro idx sub err h
    have hlt : idx < n := by simp at h; omega
    have h' : idx + 1 + ((ss.length : Nat) : Int) = n := by simp at h ⊢; omega
    unfold compositeFrom Src.SubjectCreator.Execute_loop
    cases hs : s.out with
    | ok x => simp [Go.bind, Go.pure, Go.panic, Go.cond_app, stepExec, hs, ofResult]
    | error e =>
      simp only [Go.bind, Go.cond_app, stepExec, hs, ih (idx + 1) _ _ h']
      -- both sides are decided by the two conditions of the model's loop, in whatever order the source tests them
      cases ha : e.is .argument <;> cases hf : s.fallback <;> simp [Go.pure, ofResult, lastOf, hlt, ha, hf]

/-- **`compositeSubjectCreator.Execute` is `composite`**, for every chain of steps: `(sub, nil)` of the first
authenticator that succeeds; the error of the first one that fails with something else than an argument error without
allowing fallback, or of the last one; `(nil, nil)` only for the empty chain. -/
theorem c04_src_composite (ss : List Step) :
    Src.SubjectCreator.Execute stepExec (·.fallback) (·.is .argument) () ss ()
      = .done (ofResult (composite ss)) () := by
  unfold Src.SubjectCreator.Execute composite
  exact c04_src_creator_loop _ ss 0 none none (by simp)

end Heimdall.Props.C04
