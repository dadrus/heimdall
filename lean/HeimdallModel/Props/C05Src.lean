import HeimdallModel.Model.JwtSrc
/-!
# C05 — the claim assertions *as they stand in the source* refuse what the C05 model refuses

`Gen/ClaimsSrc.lean` is regenerated on every run by the Go → Lean translator `extract/go2lean` (`cmd/claims`) from the
whole bodies of `Expectation.AssertValidity`, `AssertIssuanceTime`, `AssertIssuer`, `AssertAudience`, `AssertAlgorithm`
and `Claims.Validate` (`internal/rules/mechanisms/oauth2`). For **every** clock reading (in milliseconds), every claim
value and every whole-second leeway the theorems below show that the translated functions refuse exactly when
`notYetValid` / `expired` / `issuedInFuture` / `audienceOk` / `validate` of `Model/Jwt.lean` refuse: `now + leeway < nbf`,
`now - leeway ≥ exp`, the default leeway of 10 s when none is configured, a claim that is absent never refuses, an
unnamed issuer is never trusted, the order issuer → audience → validity → issuance time → scopes. The theorems of
`Props/C05.lean` (accept ⇔ specification) are stated over those model functions, so they speak about the comparisons
of the current source. How the parameters of the translation are filled: `Model/JwtSrc.lean`.
-/
set_option linter.unusedSimpArgs false

namespace Heimdall.Props.C05
open Heimdall Heimdall.Jwt Heimdall.Jwt.SrcTie

/-- splits every `if` / `bif` of a translated body (whatever their nesting and order - early returns, nested guards,
extra locals all end up as such a tree) after turning the Boolean tests into propositions. A leaf has the same verdict
on both sides, or comparisons in its context that linear integer arithmetic refutes; `simp_all` is for leaves whose
context still holds a Boolean residue of the translation (`¬True`, `true = false`). -/
macro "src_arith" : tactic =>
  `(tactic| (simp only [Option.isSome_none, Option.isSome_some, Option.getD_none, Option.getD_some, Bool.cond_eq_ite,
      Go.ite_app, Go.pure, Bool.and_eq_true, Bool.or_eq_true, Bool.not_eq_true', decide_eq_true_eq,
      decide_eq_false_iff_not, Bool.false_eq_true, false_and, true_and, false_or, or_false, if_false] <;>
    (repeat' split) <;> first | rfl | omega | (simp_all <;> omega)))

/-- **The tie holds for this run:** `Gen/ClaimsSrc.lean` is the result of translating the current source. -/
theorem c05_src_translated : Src.translationOk = true := by decide

theorem c05_src_leeway_millis (e : Expectation) (ls : Int) (h : e.leeway = 1000 * ls) :
    e.leewayMs = 1000 * (if ls ≠ 0 then ls else 10) := by
  unfold Expectation.leewayMs
  by_cases hz : ls = 0
  · subst hz; simp [h]
  · have : e.leeway ≠ 0 := by omega
    simp [this, hz, h]

/-- a leeway of `ls` whole seconds: the model's leeway in seconds is `ls`, or the default of 10 s for 0 -/
theorem c05_src_leeway_seconds (e : Expectation) (ls : Int) (h : e.leeway = 1000 * ls) :
    e.leewaySec = if ls ≠ 0 then ls else 10 := by
  rw [Expectation.leewaySec, c05_src_leeway_millis e ls h]
  exact Int.mul_tdiv_cancel_left _ (by decide)

/-- **`AssertValidity` refuses iff the token is not yet valid or has expired** (`now + leeway < nbf`,
`now - leeway ≥ exp`; an absent claim never refuses), for every clock reading, claim value and leeway.  The source
builds the same kind of error in both cases; in the translation `Why.notYetValid` stands for either. -/
theorem c05_src_validity (e : Expectation) (ls nowMs : Int) (nbf exp : Option Int) (h : e.leeway = 1000 * ls) :
    validitySrc ls nowMs nbf exp () =
      .done (if notYetValid e nbf nowMs || expired e exp nowMs then some Why.notYetValid else none) () := by
  unfold validitySrc Src.Validity.AssertValidity notYetValid expired
  rw [c05_src_leeway_seconds e ls h]
  cases nbf <;> cases exp <;> src_arith

/-- **`AssertIssuanceTime` refuses iff the token was issued in the future** beyond the leeway; the whole-second
comparison of the source agrees with the millisecond comparison of the model at every clock reading. -/
theorem c05_src_issued_at (e : Expectation) (ls nowMs : Int) (iat : Option Int) (h : e.leeway = 1000 * ls) :
    issuedSrc ls nowMs iat () = .done (if issuedInFuture e iat nowMs then some Why.issuedInFuture else none) () := by
  unfold issuedSrc Src.IssuedAt.AssertIssuanceTime issuedInFuture
  rw [c05_src_leeway_millis e ls h]
  cases iat <;> src_arith

/-- **`AssertIssuer`: a token that names no issuer is refused whatever the list of trusted issuers contains**; a named
issuer is accepted iff it is listed. -/
theorem c05_src_issuer (e : Expectation) (iss : String) :
    issuerSrc e iss () = .done (if iss == "" || !e.issuers.contains iss then some Why.issuer else none) () := by
  unfold issuerSrc Src.Issuer.AssertIssuer
  cases (iss == "") <;> cases e.issuers.contains iss <;> rfl

/-- **`AssertAudience`** accepts iff no audience is expected or one of the expected ones is among the token's. -/
theorem c05_src_audience (e : Expectation) (aud : List String) :
    audienceSrc e aud () = .done (if audienceOk e aud then none else some Why.audience) () := by
  unfold audienceSrc Src.Audience.AssertAudience audienceOk
  cases e.audiences.isEmpty <;> cases e.audiences.any (aud.contains ·) <;> rfl

/-- **`AssertAlgorithm`** accepts iff the algorithm is among the allowed ones. -/
theorem c05_src_algorithm (e : Expectation) (alg : String) :
    algorithmSrc e alg () = .done (if e.algs.contains alg then none else some Why.algNotAllowed) () := by
  unfold algorithmSrc Src.Algorithm.AssertAlgorithm
  cases e.algs.contains alg <;> rfl

/-- **`Claims.Validate` assembled from the translated assertions is `validate` of the model**: the same verdict and the
same first refusing assertion (issuer, audience, validity, issuance time, scopes in that order; "not yet valid" and
"expired" being one refusal, `coarse`), for every expectation, claim set and clock reading. -/
theorem c05_src_validate (e : Expectation) (ls : Int) (c : Claims) (nowMs : Int) (h : e.leeway = 1000 * ls) :
    validateSrc e ls c nowMs () = .done (refusalOf (validate e c nowMs)) () := by
  unfold validateSrc Src.Claims.Validate
  simp only [resOf, c05_src_issuer, c05_src_audience, c05_src_validity e ls nowMs c.nbf c.exp h,
    c05_src_issued_at e ls nowMs c.iat h]
  unfold validate
  generalize (c.iss == "" || !e.issuers.contains c.iss) = b1
  generalize audienceOk e c.aud = b2
  generalize notYetValid e c.nbf nowMs = b3
  generalize expired e c.exp nowMs = b4
  generalize issuedInFuture e c.iat nowMs = b5
  generalize e.scopesOk c.granted = b6
  cases b1 <;> cases b2 <;> cases b3 <;> cases b4 <;> cases b5 <;> cases b6 <;> rfl

/-- **A token is accepted by the translated `Validate` iff the model accepts it.** -/
theorem c05_src_accepts_iff (e : Expectation) (ls : Int) (c : Claims) (nowMs : Int) (h : e.leeway = 1000 * ls) :
    resOf (validateSrc e ls c nowMs) = none ↔ validate e c nowMs = .ok () := by
  simp only [resOf, c05_src_validate e ls c nowMs h]
  cases validate e c nowMs <;> simp [refusalOf]

/-- the hypothesis is met by a leeway of 5 s; a token that expired 5 s ago is refused at that very instant and was
accepted one second earlier (evaluated on the translated function) -/
example :
    let e : Expectation := { issuers := ["i"], leeway := 5000 }
    e.leeway = 1000 * 5 ∧
      resOf (validitySrc 5 100005000 none (some 100000)) = some Why.notYetValid ∧
      resOf (validitySrc 5 100004999 none (some 100000)) = none ∧
      resOf (validitySrc 0 100009999 none (some 100000)) = none ∧
      resOf (validitySrc 0 100010000 none (some 100000)) = some Why.notYetValid := by
  decide

end Heimdall.Props.C05
