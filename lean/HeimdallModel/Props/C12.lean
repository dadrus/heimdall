import HeimdallModel.Lemmas.ErrMap
import HeimdallModel.Gen.ErrMapGen
/-!
# C12 — every failure maps to the response class of its kind, never to success

Theorems about the model of the two error translators (`Model/ErrMap.lean`): the HTTP error handler used by the
decision and proxy services and the Envoy gRPC interceptor, and about the error path of the request contexts.
They quantify over every error value (any nesting of chains, joins and wraps, any mix of kinds, redirects and
foreign errors), every configuration, every `Accept` header.  The model is tied to the source by `c12_gen_*`
(tables derived on every run from probes of the running handlers, request contexts and services) and by the
correspondence run against the real handlers
and the assembled services.
-/
namespace Heimdall.Props.C12
open Heimdall Heimdall.ErrMap

/-- the `switch`, default statuses, option guards, media preference and fallback of the HTTP error handler -/
theorem c12_gen_http : Gen.http = ErrMap.http := by decide +kernel

/-- the same for the Envoy gRPC interceptor, with its gRPC status codes -/
theorem c12_gen_grpc : Gen.grpc = ErrMap.grpc := by decide +kernel

/-- every service passes the configured status of a kind to the option of that kind, and every request context
hands the challenge collected by an error handler on to the translator -/
theorem c12_gen_wiring :
    Gen.wiring = [ErrMap.wiring, ErrMap.wiring, ErrMap.wiring] ∧
      Gen.contextsAttachChallenge = ErrMap.contextsAttachChallenge := by decide +kernel

/-- `Endpoint.CreateRequest` and `Endpoint.SendRequest`, probed with an authentication strategy that fails
with an error of every kind and with a foreign error, put exactly one `ErrInternal` in front of the strategy's error
and keep that error in the chain — which is what `authenticateRequest` does -/
theorem c12_gen_endpoint :
    Gen.endpointLayer = [([Kind.internal], true), ([Kind.internal], true)] ∧
      ∀ s : Strategy, authenticateRequest s = s.apply.map (fun e => [Kind.internal].foldr wrapKind e) :=
  ⟨by decide +kernel, fun _ => rfl⟩

/-! ## chains: `errors.Is` / `errors.As` see exactly the failures a value consists of -/

/-- `errors.Is(e, sentinel)` holds iff the sentinel is one of the leaves of `e`, however deeply nested or wrapped -/
theorem c12_is_iff_leaf (e : Err) (k : Kind) : e.is k = true ↔ Leaf.kind k ∈ e.leaves :=
  is_iff_leaf e k

/-- `errors.As` yields the first redirect in depth-first order, and yields one whenever `errors.Is` against a
redirect error holds (the translators dereference the result without a check) -/
theorem c12_as_redirect (e : Err) :
    e.asRedirect = e.leaves.findSome? Leaf.redirect? ∧ e.isRedirect = e.asRedirect.isSome :=
  ⟨asRedirect_eq e, isRedirect_eq e⟩

/-! ## classification -/

/-- **Precedence.** Both translators answer with the class of the first of authentication, authorization,
communication/timeout, precondition, no rule, redirect that occurs anywhere in the value, and with "anything else"
(500) exactly when none of them occurs. -/
theorem c12_precedence (tr : Transport) (e : Err) :
    classify tr.translator.cases tr.translator.dflt e = e.action :=
  tr_classify tr e

/-- **Response of its kind.** A value all of whose failures have the same class is answered with that class; a
value without any failure inside (an empty chain) as an internal error. -/
theorem c12_single_class (tr : Transport) (e : Err) (a : Action) (hall : ∀ l ∈ e.leaves, l.action = a) :
    classify tr.translator.cases tr.translator.dflt e = if e.leaves.isEmpty then .respond .internal else a := by
  rw [c12_precedence, action_eq_classOf]
  cases hl : e.leaves with
  | nil => rfl
  | cons l ls => exact classOf_of_all (a := a) (List.cons_ne_nil _ _) (hl ▸ hall)

example : ∀ l ∈ (Err.chain [.wrap (.kind .timeout), .join [.kind .communication]]).leaves,
    l.action = .respond .comm := by decide +kernel

/-- the class of each kind, as the property lists them -/
example : [Kind.authentication, .authorization, .communication, .timeout, .argument, .noRule, .configuration,
      .internal].map Kind.action =
    [.respond .authn, .respond .authz, .respond .comm, .respond .comm, .respond .precond, .respond .noRule,
      .respond .internal, .respond .internal] := by decide +kernel

/-- a mixed value: an authorization failure wrapped inside an internal error, next to a precondition failure -/
example : (Err.chain [.kind .internal, .chain [.wrap (.kind .authorization)], .kind .argument]).action =
    .respond .authz := by decide +kernel

/-- the class of an answer is always the class of one of the failures inside the value (500 only if nothing else
is inside) -/
theorem c12_class_admissible (tr : Transport) (e : Err) :
    classify tr.translator.cases tr.translator.dflt e ∈ e.admissible := by
  rw [c12_precedence]; exact action_mem_admissible e

/-! ## status -/

/-- **Status of the kind, or the configured one.** With a configuration whose overrides are HTTP status codes,
both translators answer a failure of class `c` with the configured status, else with 401 (authentication), 403
(authorization), 502 (communication, timeout), 400 (precondition), 404 (no rule), 500 (anything else). -/
theorem c12_status (tr : Transport) (cfg : Cfg) (acc : Accept) (f : Failure) (c : Class)
    (hv : cfg.valid = true) (hc : f.err.action = .respond c) :
    ∃ r, tr.translator.respond cfg acc f = .resp r ∧
      r.status = (if cfg.ov.get c == 0 then defaultCodes.get c else cfg.ov.get c) :=
  ⟨_, respond_of_class tr hv acc hc, rfl⟩

example : (Cfg.mk true { ClassMap.const 0 with authn := 404, comm := 599 }).valid = true ∧
    defaultCodes = ⟨401, 403, 502, 400, 404, 500⟩ := by decide +kernel

/-- **The HTTP services and the Envoy gRPC service answer identically**: an answer in both cases, with the same
status, the same `Location`, the same challenges, for every error value — provided the configured statuses and
the redirect codes are HTTP status codes. -/
theorem c12_http_eq_grpc (cfg : Cfg) (acc : Accept) (f : Failure)
    (hv : cfg.valid = true) (hr : f.err.redirectsValid = true) :
    (ErrMap.http.respond cfg acc f).view = (ErrMap.grpc.respond cfg acc f).view ∧
      (ErrMap.http.respond cfg acc f).view.isSome = true := by
  cases ha : f.err.action with
  | redirect =>
    obtain ⟨c, to, has, hm⟩ := action_redirect_as ha
    rw [show ErrMap.http.respond cfg acc f = _ from respond_of_redirect (tr := .http) ha has,
      show ErrMap.grpc.respond cfg acc f = _ from respond_of_redirect (tr := .grpc) ha has,
      emit_of_valid _ _ _ _ (Or.inr (redirectsValid_mem hr hm)), emit_of_valid _ _ _ _ (Or.inl rfl)]
    exact ⟨rfl, rfl⟩
  | respond c =>
    rw [show ErrMap.http.respond cfg acc f = _ from respond_of_class .http hv acc ha,
      show ErrMap.grpc.respond cfg acc f = _ from respond_of_class .grpc hv acc ha]
    refine ⟨?_, rfl⟩
    simp only [Out.view, challengeHeaders_eq, List.filter_append, view_filter_body]

example : (Cfg.mk false (ClassMap.const 418)).valid = true ∧
    (Err.chain [.kind .internal, .redirect 303 "/login"]).redirectsValid = true := by decide +kernel

/-- the hypothesis on the configuration is needed: a negative override is taken by the HTTP handler (whose
`WriteHeader` then panics) and ignored by the gRPC interceptor -/
example :
    ErrMap.http.respond ⟨false, { ClassMap.const 0 with authn := -1 }⟩ .absent (plain (.kind .authentication)) = .panic ∧
    ErrMap.grpc.respond ⟨false, { ClassMap.const 0 with authn := -1 }⟩ .absent (plain (.kind .authentication)) =
      .resp ⟨401, [], none, some 16⟩ := by decide +kernel

/-- **Never a success status.** Unless a success status is configured for a failure or carried by a redirect error,
no translator answers any error value with a 2xx status, and no translator ever lets the request pass. -/
theorem c12_never_success (tr : Transport) (cfg : Cfg) (acc : Accept) (f : Failure)
    (hc : cfg.noSuccess = true) (hr : f.err.redirectsNoSuccess = true) :
    tr.translator.respond cfg acc f ≠ .allowed ∧
      ∀ r, tr.translator.respond cfg acc f = .resp r → isSuccess r.status = false := by
  refine ⟨respond_ne_allowed tr.translator cfg acc f, fun r h => ?_⟩
  rcases respond_inv h with ⟨c, to, _, _, hm, rfl⟩ | ⟨c, _, rfl⟩
  · exact redirectsNoSuccess_mem hr hm
  · exact tr_code_noSuccess tr hc c

example : (Cfg.mk true { ClassMap.const 0 with authz := 404 }).noSuccess = true ∧
    (Err.join [.redirect 302 "/x", .kind .noRule]).redirectsNoSuccess = true := by decide +kernel

/-- the hypothesis is needed: the configuration accepts any integer, so an operator can turn a failure into 200 -/
example : ErrMap.http.respond ⟨false, { ClassMap.const 0 with authz := 200 }⟩ .absent (plain (.kind .authorization)) =
    .resp ⟨200, [], none, none⟩ := by decide +kernel

/-- **Envoy never lets a failure pass.** Whatever the error value, the configuration and the headers, the gRPC
interceptor answers with a denied response whose gRPC status is not OK (Envoy forwards a request only on OK); it
never fails to answer. -/
theorem c12_grpc_never_ok (cfg : Cfg) (acc : Accept) (f : Failure) :
    ∃ r g, ErrMap.grpc.respond cfg acc f = .resp r ∧ r.grpc = some g ∧ g ≠ 0 := by
  obtain ⟨r, h⟩ := respond_of_valid .grpc cfg acc f (Or.inl rfl)
  have hg : Spec.grpcFits .grpc r.grpc = true := by
    rcases respond_inv h with ⟨_, _, _, _, _, rfl⟩ | ⟨c, _, rfl⟩
    · exact Spec.grpcFits_redirect .grpc
    · exact Spec.grpcFits_class .grpc c
  cases hr : r.grpc with
  | none => rw [hr] at hg; cases hg
  | some g => exact ⟨r, g, h, hr, by rw [hr] at hg; exact bne_iff_ne.mp hg⟩

/-- **The HTTP handler always answers** when the configured statuses and the redirect codes are HTTP status codes
(`WriteHeader` does not panic). -/
theorem c12_http_answers (cfg : Cfg) (acc : Accept) (f : Failure)
    (hv : cfg.valid = true) (hr : f.err.redirectsValid = true) :
    ∃ r, ErrMap.http.respond cfg acc f = .resp r :=
  respond_of_valid .http cfg acc f (Or.inr ⟨hv, hr⟩)

/-! ## redirect and challenge, through the request contexts -/

/-- **Redirect.** After a redirect error handler ran — whatever the pipeline did before — every service answers
with the handler's status code (302 if none is configured), the `Location` header and nothing else. -/
theorem c12_redirect (tr : Transport) (cfg : Cfg) (acc : Accept) (ctx : Ctx) (code : Int) (to : String)
    (hv : validStatus (if code != 0 then code else 302) = true) :
    ∃ r, serve tr.translator cfg acc (redirectExec code to ctx) = .resp r ∧
      r.status = (if code != 0 then code else 302) ∧ r.headers = [("Location", to)] ∧ r.body = none := by
  simp only [serve, finalize_redirect]
  rw [respond_of_redirect (f := ⟨.redirect _ to, _⟩) rfl rfl]
  exact ⟨_, emit_of_valid _ _ _ _ (Or.inr hv), rfl, rfl, rfl⟩

example : validStatus (if (0 : Int) != 0 then 0 else 302) = true ∧
    validStatus (if (307 : Int) != 0 then 307 else 302) = true := by decide +kernel

/-- **Challenge.** After a `www_authenticate` error handler ran — whatever the pipeline did before — every service
answers with the status of an authentication failure (401 unless configured otherwise) and a `WWW-Authenticate`
header naming the configured realm ("Please authenticate" if none is configured). -/
theorem c12_www_authenticate (tr : Transport) (cfg : Cfg) (acc : Accept) (ctx : Ctx) (realm : String)
    (hv : cfg.valid = true) :
    ∃ r, serve tr.translator cfg acc (wwwAuthenticateExec realm ctx) = .resp r ∧
      r.status = (if cfg.ov.authn == 0 then 401 else cfg.ov.authn) ∧
      ("Www-Authenticate", "Basic realm=" ++ realmOf realm) ∈ r.headers := by
  simp only [serve, finalize_www]
  refine ⟨_, respond_of_class tr hv acc (c := .authn) rfl, rfl, ?_⟩
  rw [challengeHeaders_eq]
  exact List.mem_append_left _ (List.mem_map.mpr ⟨_, List.mem_append_right _ (List.mem_singleton_self _), rfl⟩)

example : (Cfg.mk true { ClassMap.const 0 with authn := 407 }).valid = true := by decide +kernel

/-! ## CEL expressions and the error handlers of a rule -/

/-- **Expression outcomes.** An authorization expression that evaluates to false is an authorization failure (403),
one that cannot be evaluated for the concrete request / subject (missing attribute, index out of range, division
by zero …) is "anything else" (500); likewise a pipeline step whose `if` condition cannot be evaluated fails with
an error of the internal class, whatever the step would have done. -/
theorem c12_cel_outcomes (step : Option Err) :
    celAuthorize .holds = none ∧
      (celAuthorize .fails).map Err.action = some (.respond .authz) ∧
      (celAuthorize .error).map Err.action = some (.respond .internal) ∧
      stepIf .holds step = step ∧ stepIf .fails step = none ∧
      (stepIf .error step).map Err.action = some (.respond .internal) :=
  ⟨rfl, rfl, rfl, rfl, rfl, rfl⟩

/-- **First applicable handler.** Handlers whose condition does not hold are skipped; the first whose condition
holds handles the failure; if none applies the failure itself reaches the translator. -/
theorem c12_first_applicable_handler (hs₁ rest : List (Cel × Handler)) (hf : ∀ p ∈ hs₁, p.1 = .fails)
    (h : Handler) (cause : Err) (ctx : Ctx) :
    handleError (hs₁ ++ (.holds, h) :: rest) cause ctx = (h.exec cause ctx, none) ∧
      handleError hs₁ cause ctx = (ctx, some cause) := by
  constructor
  · rw [handleError_skip hs₁ hf]; rfl
  · have := handleError_skip hs₁ hf [] cause ctx
    rw [List.append_nil] at this; rw [this]; rfl

example : ∀ p ∈ [(Cel.fails, Handler.redirect 303 "/login"), (Cel.fails, Handler.default)], p.1 = .fails := by decide +kernel

/-- **A handler condition that cannot be evaluated is an internal error.** Whatever the failure was, whatever
handlers precede (not applicable) or follow, every service answers with the status of an internal error (500 unless
configured), without `Location` and without challenge. -/
theorem c12_handler_condition_error (tr : Transport) (cfg : Cfg) (acc : Accept) (hs₁ rest : List (Cel × Handler))
    (hf : ∀ p ∈ hs₁, p.1 = .fails) (h : Handler) (cause : Err) (ctx : Ctx) (hv : cfg.valid = true) :
    ∃ r, serveFailure tr.translator cfg acc (hs₁ ++ (.error, h) :: rest) cause ctx = .resp r ∧
      r.status = (if cfg.ov.internal == 0 then 500 else cfg.ov.internal) ∧
      ∀ kv ∈ r.headers, kv.1 ≠ "Location" ∧ kv.1 ≠ "Www-Authenticate" := by
  have hh : handleError (hs₁ ++ (.error, h) :: rest) cause ctx = (ctx, some .foreign) := by
    rw [handleError_skip hs₁ hf]; rfl
  refine ⟨_, by simp only [serveFailure, hh]; exact respond_of_class tr hv acc (f := plain .foreign) rfl,
    rfl, fun kv hkv => ?_⟩
  simp only [challengeHeaders_eq, plain, List.map_nil, List.nil_append] at hkv
  exact bodyHeaders_ne _ _ kv hkv

/-- **No error handler pipeline lets a failed request pass.** For every list of conditional handlers, every
failure and every state of the request context, no service gives the positive answer. -/
theorem c12_failure_never_allowed (tr : Transport) (cfg : Cfg) (acc : Accept) (hs : List (Cel × Handler))
    (cause : Err) (ctx : Ctx) : serveFailure tr.translator cfg acc hs cause ctx ≠ .allowed := by
  induction hs with
  | nil => exact respond_ne_allowed tr.translator cfg acc _
  | cons p ps ih =>
    obtain ⟨c, h⟩ := p
    cases c with
    | error => exact respond_ne_allowed tr.translator cfg acc _
    | fails => exact ih
    | holds =>
      show serve _ cfg acc (h.exec cause ctx) ≠ .allowed
      cases h <;> exact serve_ne_allowed_of_error tr.translator cfg acc rfl

/-! ## the context of the request -/

/-- **The answer to a failure depends neither on the state of the request's context nor on `context.Canceled` /
`context.DeadlineExceeded` inside the failure.** Heimdall hands the context of the request to every mechanism; when
the client goes away — or merely closes its sending direction and keeps reading, for which net/http cancels the
context as well — an outbound call is aborted and the failure carries a `context` error somewhere in its chain. For
every translator, configuration and `Accept` header, for any two states `rc`, `rc'` of the request's context and any
two error values `e`, `e'` that consist of the same failures once the `context` errors are deleted wherever they
occur (`Err.essential`): the handlers of the services give the same answer (status, headers, body, gRPC code), be the
failure returned by the rule executor or kept as pipeline error and returned by `Finalize`; the translators classify
both alike; and neither is ever given the positive answer. -/
theorem c12_independent_of_request_context (tr : Transport) (cfg : Cfg) (acc : Accept) (rc rc' : ReqCtx)
    (e e' : Err) (ctx : Ctx) (h : e.essential = e'.essential) :
    handlerServe tr.translator cfg acc rc (some e) ctx = handlerServe tr.translator cfg acc rc' (some e') ctx ∧
      handlerServe tr.translator cfg acc rc none { ctx with pipelineError := some e } =
        handlerServe tr.translator cfg acc rc' none { ctx with pipelineError := some e' } ∧
      classify tr.translator.cases tr.translator.dflt e = classify tr.translator.cases tr.translator.dflt e' ∧
      handlerServe tr.translator cfg acc rc (some e) ctx ≠ .allowed ∧
      handlerServe tr.translator cfg acc rc none { ctx with pipelineError := some e } ≠ .allowed := by
  refine ⟨respond_congr_essential tr cfg acc [] h, ?_, ?_, ?_, ?_⟩
  · simp only [handlerServe, serve, finalize, Option.map_some]
    exact respond_congr_essential tr cfg acc _ h
  · rw [tr_classify, tr_classify]; exact action_congr_essential h
  · exact respond_ne_allowed tr.translator cfg acc _
  · exact serve_ne_allowed_of_error tr.translator cfg acc (ctx := { ctx with pipelineError := some e }) rfl

/-- a communication failure caused by the cancelled request context (`errorchain` with the `*url.Error` of the
aborted call as cause) consists of the same failures as the bare communication failure; so does any value with a
`context` error joined, wrapped or chained in -/
example : (Err.chain [.kind .communication, .wrap (.ctxDone .canceled)]).essential =
      (Err.chain [.kind .communication]).essential ∧
    (Err.join [.wrap (.chain [.kind .authentication, .chain [.kind .timeout, .ctxDone .deadlineExceeded]]),
      .ctxDone .canceled]).essential = [.kind .authentication, .kind .timeout] := by decide +kernel

/-- the half-closing client of the demonstration: the pipeline waited on a remote system, the call was aborted,
the request's context is cancelled — 502 from the HTTP services, 502 / DeadlineExceeded from the Envoy service;
an authentication failure with that cause is a 401, the bare `context.Canceled` a 500 -/
example :
    handlerServe ErrMap.http ⟨false, ClassMap.const 0⟩ .absent .cancelled
        (some (.chain [.kind .communication, .wrap (.ctxDone .canceled)])) ⟨[], none⟩ =
      .resp ⟨502, [], none, none⟩ ∧
    handlerServe ErrMap.grpc ⟨false, ClassMap.const 0⟩ .absent .deadlineExceeded
        (some (.chain [.kind .timeout, .wrap (.ctxDone .deadlineExceeded)])) ⟨[], none⟩ =
      .resp ⟨502, [], none, some 4⟩ ∧
    handlerServe ErrMap.http ⟨false, ClassMap.const 0⟩ .absent .cancelled none
        ⟨[], some (.chain [.kind .authentication, .chain [.kind .communication, .ctxDone .canceled]])⟩ =
      .resp ⟨401, [], none, none⟩ ∧
    handlerServe ErrMap.http ⟨false, ClassMap.const 0⟩ .absent .cancelled (some (.ctxDone .canceled)) ⟨[], none⟩ =
      .resp ⟨500, [], none, none⟩ := by decide +kernel

/-- **A failure met while the request's context is done is answered with the status of its class.** If the
failures of a value other than the `context` errors all have class `c` (and there is at least one), then in every
state of the request's context every service answers with the status configured for `c`, else 401 / 403 / 502 /
400 / 404 / 500 — and not with a success status unless one is configured. -/
theorem c12_cancelled_request_status (tr : Transport) (cfg : Cfg) (acc : Accept) (rc : ReqCtx) (e : Err)
    (ctx : Ctx) (c : Class) (hv : cfg.valid = true) (hne : e.essential ≠ [])
    (hall : ∀ l ∈ e.essential, l.action = .respond c) :
    ∃ r, handlerServe tr.translator cfg acc rc (some e) ctx = .resp r ∧
      r.status = (if cfg.ov.get c == 0 then defaultCodes.get c else cfg.ov.get c) ∧
      (cfg.noSuccess = true → isSuccess r.status = false) := by
  exact ⟨_, respond_of_class tr hv acc (f := plain e) (action_of_essential_class e _ hne hall), rfl,
    fun hn => status_noSuccess hn c⟩

example : (Cfg.mk true { ClassMap.const 0 with comm := 503 }).valid = true ∧
    (Err.chain [.kind .communication, .wrap (.ctxDone .canceled)]).essential ≠ [] ∧
    ∀ l ∈ (Err.chain [.kind .communication, .wrap (.ctxDone .canceled)]).essential, l.action = .respond .comm := by
  decide +kernel

/-! ## wrapping by the endpoint layer, token endpoints, informational responses -/

/-- `Action.rank` is the position in the precedence order the translators implement (`c12_precedence`); "anything
else" comes after every class of the list -/
theorem c12_rank_is_priority (a : Action) : a.rank = priority.idxOf a :=
  rank_eq_idxOf a

/-- **Putting an error of kind `k` in front of a failure** (`errorchain.NewWithMessage(heimdall.Err<k>, "…").
CausedBy(cause)`, what every layer of heimdall does when it hands a failure upwards) gives the class which comes
first in the precedence order: the wrapper's own class if it precedes (or equals) the class of the cause, else the
class of the cause — for every cause of any shape. -/
theorem c12_wrapping_by_kind (tr : Transport) (k : Kind) (cause : Err) :
    classify tr.translator.cases tr.translator.dflt (wrapKind k cause) =
      if k.action.rank ≤ cause.action.rank then k.action else cause.action := by
  rw [c12_precedence]; exact action_wrapKind k cause

/-- the wrapper's kind takes precedence over a communication failure exactly for authentication and authorization;
an argument, no-rule, configuration or internal error in front of it leaves the class alone -/
example : [Kind.authentication, .authorization, .communication, .timeout, .argument, .noRule, .configuration,
      .internal].map (fun k => (wrapKind k (.chain [.kind .communication, .wrap .foreign])).action) =
    [.respond .authn, .respond .authz, .respond .comm, .respond .comm, .respond .comm, .respond .comm,
      .respond .comm, .respond .comm] := by decide +kernel

/-- **The endpoint layer keeps the class of a failure.** A failure of an endpoint's authentication strategy leaves
the mechanism wrapped by `Endpoint.CreateRequest` (`ErrInternal "failed to authenticate request"`) and by the
mechanism (`ErrInternal "failed creating request"`). Both wrappers are of the internal kind, the last one in the
precedence order, so for EVERY cause — of any depth, any mix of kinds, with redirects, foreign and `context` errors —
the class is the class of the cause, and every translator gives the very same answer (status, headers, body, gRPC
code) as for the bare cause; no hypothesis is needed. -/
theorem c12_endpoint_wrapping_keeps_class (tr : Transport) (cfg : Cfg) (acc : Accept) (cause : Err)
    (ch : List String) :
    classify tr.translator.cases tr.translator.dflt (endpointWrap cause) =
        classify tr.translator.cases tr.translator.dflt cause ∧
      classify tr.translator.cases tr.translator.dflt (wrapKind .internal cause) =
        classify tr.translator.cases tr.translator.dflt cause ∧
      tr.translator.respond cfg acc ⟨endpointWrap cause, ch⟩ = tr.translator.respond cfg acc ⟨cause, ch⟩ := by
  refine ⟨?_, ?_, respond_congr tr cfg acc ch (action_endpointWrap cause) (asRedirect_endpointWrap cause)⟩
  · rw [c12_precedence, c12_precedence, action_endpointWrap]
  · rw [c12_precedence, c12_precedence, action_wrapInternal]

/-- the token endpoint of the remote authorizer's endpoint is unreachable: 502, as for the bare communication
failure; if the wrapper drops its cause (`ErrInternal "failed to authenticate request"` without `CausedBy`) the
class is lost: 500 -/
example :
    ErrMap.http.respond ⟨false, ClassMap.const 0⟩ .absent
        (plain (endpointWrap (.chain [.kind .communication, .wrap .foreign]))) = .resp ⟨502, [], none, none⟩ ∧
    ErrMap.grpc.respond ⟨false, { ClassMap.const 0 with comm := 504 }⟩ .absent
        (plain (endpointWrap (.chain [.kind .timeout, .wrap (.ctxDone .deadlineExceeded)]))) =
      .resp ⟨504, [], none, some 4⟩ ∧
    ErrMap.http.respond ⟨false, ClassMap.const 0⟩ .absent
        (plain (wrapKind .internal (.chain [.kind .internal]))) = .resp ⟨500, [], none, none⟩ := by decide +kernel

/-- **Failures of the token endpoint of an `oauth2_client_credentials` strategy have the class the property's table
gives them**, at the mechanism (`createRequest`) and at `Endpoint.SendRequest` (`authenticateRequest`): unreachable,
timed out, a status other than 200 / 400, a 400 with or without an OAuth2 error document, a 200 carrying an error
document → communication (502); a 200 that is not JSON → internal (500); an issued token → no failure. The cause
reported by net/http may be any value without a classified failure inside. -/
theorem c12_token_endpoint_fault_class (t : TokenOutcome) (hc : t.causeUnclassified = true) :
    (createRequest (.clientCredentials t)).map Err.action = t.expected ∧
      (authenticateRequest (.clientCredentials t)).map Err.action = t.expected := by
  have h : t.err.map Err.action = t.expected := by
    cases t with
    | sendFailed c | sendTimedOut c =>
      exact congrArg some ((action_wrapKind _ c).trans (by rw [action_of_unclassified hc]; rfl))
    | badRequest d => cases d <;> rfl
    | issued | unexpectedStatus | okUnparsable | okErrorDocument => rfl
  rw [← h]
  show (t.err.map endpointWrap).map Err.action = _ ∧ (t.err.map (wrapKind .internal)).map Err.action = _
  cases t.err with
  | none => exact ⟨rfl, rfl⟩
  | some e => exact ⟨congrArg some (action_endpointWrap e), congrArg some (action_wrapInternal e)⟩

example : (TokenOutcome.sendFailed (.wrap (.wrap (.ctxDone .canceled)))).causeUnclassified = true ∧
    (TokenOutcome.sendTimedOut (.wrap (.ctxDone .deadlineExceeded))).causeUnclassified = true ∧
    (createRequest (.clientCredentials (.sendFailed (.wrap .foreign)))) =
      some (.chain [.kind .internal, .chain [.kind .internal, .chain [.kind .communication, .wrap .foreign]]]) :=
  ⟨by decide +kernel, by decide +kernel, rfl⟩

/-- the other strategies: `basic_auth` and `api_key` cannot fail at request time; a signature that cannot be made
(a component to be signed is not on the request) is an internal error -/
example : createRequest .none = none ∧ createRequest .basicAuth = none ∧ createRequest .apiKey = none ∧
    createRequest (.signatures false) = none ∧
    (createRequest (.signatures true)).map Err.action = some (.respond .internal) := by decide +kernel

/-- **The final status survives informational responses.** For every log level (at `trace` the dump middleware hooks
`WriteHeader`), any number of informational statuses written first and a final status `code`: the writer ends with
exactly `code` — never with the implicit `200 OK` — the client got exactly those informational responses, and
whatever is written afterwards changes nothing. -/
theorem c12_final_status_survives_informational (lvl : LogLevel) (infos : List Int) (code : Int) (more : List Int)
    (hi : ∀ i ∈ infos, isInformational i = true) (hc : isInformational code = false) :
    (writeHeaders lvl (false, Writer.fresh) (infos ++ code :: more)).2 = ⟨infos, some code⟩ ∧
      (writeHeaders lvl (false, Writer.fresh) (infos ++ code :: more)).2.finish = code := by
  have h : (writeHeaders lvl (false, Writer.fresh) (infos ++ code :: more)).2 = ⟨infos, some code⟩ := by
    rw [writeHeaders_snd, foldl_writeHeader]
    simp [Writer.fresh, List.takeWhile_append_of_pos hi, List.dropWhile_append_of_pos hi, hc]
  exact ⟨h, by rw [h]; rfl⟩

example : (∀ i ∈ [100, 102, 103, 103], isInformational i = true) ∧ isInformational 502 = false ∧
    isInformational 101 = false := by decide +kernel

/-- **Informational responses of the upstream do not change the answer of the proxy.** Whatever informational
responses (`100 Continue`, `102 Processing`, `103 Early Hints` …) the upstream sent before it died, at every log
level: the client gets exactly those and then the answer to the communication failure — the same answer as without
them, with the status configured for communication errors, else 502, and no 2xx unless one is configured. An
upstream which goes on to answer is forwarded. Hypotheses: the configured statuses are HTTP status codes and the
one for communication errors is not itself informational. -/
theorem c12_informational_responses_do_not_change_status (lvl : LogLevel) (cfg : Cfg) (acc : Accept)
    (infos : List Int) (hi : ∀ i ∈ infos, isInformational i = true) (hv : cfg.valid = true)
    (hc : isInformational (cfg.status .comm) = false) :
    proxyForward lvl cfg acc infos .dies = (infos, ErrMap.http.respond cfg acc (plain upstreamFailure)) ∧
      proxyForward lvl cfg acc infos .answers = (infos, .allowed) ∧
      ∃ r, ErrMap.http.respond cfg acc (plain upstreamFailure) = .resp r ∧ r.status = cfg.status .comm ∧
        (cfg.noSuccess = true → isSuccess r.status = false) := by
  have hr : ErrMap.http.respond cfg acc (plain upstreamFailure) = .resp _ :=
    respond_of_class .http hv acc (f := plain upstreamFailure) (c := .comm) rfl
  have hinf : (writeHeaders lvl (false, Writer.fresh) infos).2 = ⟨infos, none⟩ := by
    -- all of `infos` is the informational prefix: read as `infos ++ []`
    rw [writeHeaders_snd, foldl_writeHeader, ← List.append_nil infos, List.takeWhile_append_of_pos hi,
      List.dropWhile_append_of_pos hi]
    simp [Writer.fresh]
  refine ⟨?_, ?_, _, hr, rfl, fun hn => status_noSuccess hn .comm⟩
  · have hfin : (writeHeaders lvl (writeHeaders lvl (false, Writer.fresh) infos) [cfg.status .comm]).2 =
        ⟨infos, some (cfg.status .comm)⟩ := by
      rw [writeHeaders_snd, hinf, foldl_writeHeader]
      simp [hc]
    simp only [proxyForward, hr, hfin, Writer.finish, Option.getD_some]
  · simp only [proxyForward, hinf]

example : (∀ i ∈ [103, 103], isInformational i = true) ∧
    (Cfg.mk true { ClassMap.const 0 with comm := 503 }).valid = true ∧
    isInformational ((Cfg.mk true { ClassMap.const 0 with comm := 503 }).status .comm) = false ∧
    isInformational ((Cfg.mk false (ClassMap.const 0)).status .comm) = false := by decide +kernel

/-- the demonstration: log level `trace`, `103 Early Hints`, then the upstream closes the connection — 502 -/
example : proxyForward .trace ⟨false, ClassMap.const 0⟩ .absent [103] .dies =
    ([103], .resp ⟨502, [], none, none⟩) := by decide +kernel

/-- the last hypothesis is needed: an operator who configures an informational status for communication errors
turns the failure into net/http's implicit `200 OK` -/
example : proxyForward .info ⟨false, { ClassMap.const 0 with comm := 103 }⟩ .absent [] .dies =
    ([103], .resp ⟨200, [], none, none⟩) := by decide +kernel

/-! ## error details -/

/-- **No details unless verbose.** With verbose responses disabled no translator puts error details (nor a
`Content-Type`) into the answer to any error value. -/
theorem c12_not_verbose_no_details (tr : Transport) (cfg : Cfg) (acc : Accept) (f : Failure) (r : Resp)
    (hq : cfg.verbose = false) (h : tr.translator.respond cfg acc f = .resp r) :
    r.body = none ∧ ∀ kv ∈ r.headers, kv.1 ≠ "Content-Type" := by
  have hb : tr.translator.body cfg acc = none := by unfold Translator.body; rw [hq]; rfl
  rcases respond_inv h with ⟨_, _, _, _, _, rfl⟩ | ⟨c, _, rfl⟩
  · exact ⟨rfl, by simp⟩
  · refine ⟨hb, fun kv hkv => ?_⟩
    rw [hb, challengeHeaders_eq] at hkv
    obtain ⟨v, _, rfl⟩ := List.mem_map.mp ((List.mem_append.mp hkv).resolve_right List.not_mem_nil)
    simp

/-- **Details in the negotiated content type.** When an answer carries error details, verbose responses are
enabled, the `Content-Type` is that of the body, and that media type has a positive quality under the request's
`Accept` header (RFC 7231 5.3.2) — or no supported type has one and the default `text/html` is used (only the gRPC
interceptor does that; the HTTP handler sends no details then). -/
theorem c12_body_negotiated (tr : Transport) (cfg : Cfg) (acc : Accept) (f : Failure) (r : Resp) (m : Media)
    (h : tr.translator.respond cfg acc f = .resp r) (hb : r.body = some m) :
    cfg.verbose = true ∧ ("Content-Type", m.mime) ∈ r.headers ∧
      (quality acc m > 0 ∨ (m = .html ∧ ∀ m', quality acc m' = 0)) := by
  rcases respond_inv h with ⟨_, _, _, _, _, rfl⟩ | ⟨c, _, rfl⟩
  · cases hb
  · simp only at hb
    obtain ⟨hverb, hneg⟩ := body_some_verbose hb
    exact ⟨hverb, by simp [hb, bodyHeaders], negotiate_quality tr acc hneg⟩

example : ErrMap.grpc.respond ⟨true, ClassMap.const 0⟩ (.ranges [⟨"text", "plain", 500, 0⟩, ⟨"image", "png", 1000, 0⟩])
    (plain (.chain [.kind .noRule])) = .resp ⟨404, [("Content-Type", "text/plain")], some .plain, some 5⟩ := by decide +kernel

/-! ## the executable specification -/

/-- **The translators meet the property.** For every transport, configuration, `Accept` header and failure, the
answer of the model is accepted by the executable specification `Spec.ok` — the judgement that is also applied to
the answers of the real services: an answer (no panic inside the property's domain, never the positive answer),
class of one of the failures inside with the status of that class, no success status, `Location` / challenge
headers, details only when verbose and negotiated, no foreign headers. -/
theorem c12_model_meets_spec (tr : Transport) (cfg : Cfg) (acc : Accept) (f : Failure) :
    Spec.ok tr cfg acc f (tr.translator.respond cfg acc f) = true := by
  cases h : tr.translator.respond cfg acc f with
  | allowed => exact absurd h (respond_ne_allowed tr.translator cfg acc f)
  | panic =>
    simp only [Spec.ok, Bool.not_eq_true', Bool.and_eq_false_iff]
    cases hv : cfg.valid
    · exact Or.inl rfl
    · cases hr : f.err.redirectsValid
      · exact Or.inr rfl
      · obtain ⟨r, hr'⟩ := respond_of_valid tr cfg acc f (Or.inr ⟨hv, hr⟩)
        rw [hr'] at h; cases h
  | resp r =>
    rcases respond_inv h with ⟨c, to, ha, _, hm, rfl⟩ | ⟨c, ha, rfl⟩
    · exact spec_redirect tr cfg acc f c to _ (Spec.grpcFits_redirect tr) ha hm
    · exact spec_respond tr cfg acc f c _ (Spec.grpcFits_class tr c) ha

/-- **No other collected header reaches an error response.** Whatever the pipeline collected for the upstream
before it failed, an answer to the failure carries only `Location`, `Content-Type`, `X-Content-Type-Options` and the
`WWW-Authenticate` values collected by error handlers. -/
theorem c12_no_upstream_leak (tr : Transport) (cfg : Cfg) (acc : Accept) (ctx : Ctx) (r : Resp)
    (h : serve tr.translator cfg acc ctx = .resp r) :
    ∀ kv ∈ r.headers, kv.1 ∈ errorHeaderNames ∧ (kv.1 = "Www-Authenticate" → kv ∈ ctx.upstream) := by
  cases he : ctx.pipelineError with
  | none => rw [serve, finalize, he] at h; cases h
  | some e =>
  have hspec := c12_model_meets_spec tr cfg acc
    ⟨e, ctx.upstream.filterMap fun kv => if kv.1 == "Www-Authenticate" then some kv.2 else none⟩
  rw [← serve_of_error he, h] at hspec
  simp only [Spec.ok, Bool.and_eq_true, List.all_eq_true, Bool.or_eq_true, bne_iff_ne, ne_eq,
    List.contains_eq_mem, decide_eq_true_eq, List.mem_filterMap] at hspec
  obtain ⟨⟨⟨_, hnames⟩, hwww⟩, _⟩ := hspec
  intro kv hkv
  refine ⟨hnames kv hkv, fun hk => ?_⟩
  rcases hwww kv hkv with hne | ⟨kv', hkv', hv⟩
  · exact absurd hk hne
  · split at hv
    · rename_i hk'
      have : kv = kv' := by
        rw [Prod.ext_iff]; exact ⟨by rw [hk, beq_iff_eq.mp hk'], (Option.some.inj hv).symm⟩
      rw [this]; exact hkv'
    · cases hv

end Heimdall.Props.C12
