import HeimdallModel.Lemmas.RTreeSim
/-!
# C02 on the byte-level radix tree

`Model/RTree.lean` is a byte-level transcription of `internal/x/radixtree/tree.go` (static children with shared
prefixes, prefix splitting, child priorities, node merging on delete), tied to the Go tree by a *structural*
correspondence check (complete tree dumps after every batch of operations).  The theorems below are the refinement
of that model to the token-level table model the other C02 / C06 theorems are about: the abstraction to a table is
proved, not only validated by testing.
-/
namespace Heimdall.Props.C02Byte
open Heimdall Heimdall.RTree

variable {V : Type}

theorem c02_byte_wf_empty : WF (empty : RTree V) := wf_empty

/-- **Lookup refines the table model**: on every well-formed byte-level tree, for every path and matcher,
`findNode` returns exactly (same value, keys, captured values, backtracking flag) what the table model's `find`
returns on the abstraction of the tree. -/
theorem c02_byte_find_refines (t : RTree V) (h : t.WF) (m : V → List String → List String → Bool) (path : String) :
    findNode m t path.toList [] = Heimdall.find m t.abs (tokenize path) [] :=
  rtree_find_refines t h m path

/-- `Add` keeps the tree well formed and commutes with the abstraction (same success, same error, same nodes) -/
theorem c02_byte_add_refines (canAdd : List V → V → Bool) (t : RTree V) (h : t.WF) (expr : String) (v : V) (bt : Bool) :
    (∀ t', RTree.add canAdd t expr v bt = .ok t' → t'.WF) ∧
    match RTree.add canAdd t expr v bt, Heimdall.add canAdd t.abs expr v bt with
    | .ok t', .ok T' => ∀ p, getNode t'.abs p = getNode T' p
    | .error e, .error e' => e = e'
    | _, _ => False :=
  ⟨fun t' h' => add_wf canAdd t t' expr v bt h h', by
    have h := rtree_add_refines canAdd t h expr v bt
    revert h
    generalize RTree.add canAdd t expr v bt = a, Heimdall.add canAdd t.abs expr v bt = b
    intro h
    cases h with
    | ok h => exact h
    | error => rfl⟩

/-- `Delete` keeps the tree well formed and commutes with the abstraction -/
theorem c02_byte_delete_refines (t : RTree V) (h : t.WF) (expr : String) (p : V → Bool) :
    (∀ t', RTree.delete t expr p = some t' → t'.WF) ∧
    match RTree.delete t expr p, Heimdall.del t.abs expr p with
    | some t', some T' => ∀ q, getNode t'.abs q = getNode T' q
    | none, none => True
    | _, _ => False :=
  ⟨fun t' h' => delete_wf t t' expr p h h', by
    have h := rtree_delete_refines t h expr p
    revert h
    generalize RTree.delete t expr p = a, Heimdall.del t.abs expr p = b
    intro h
    cases h with
    | some h => exact h
    | none => trivial⟩

/-- **Every history of `Add` / `Delete` calls** (failed calls discarded, as the repository discards its clone): the
byte-level tree stays well formed and answers every lookup exactly as the table model after the same calls. -/
theorem c02_byte_history_refines (canAdd : List V → V → Bool) (ops : List (TOp V))
    (m : V → List String → List String → Bool) (path : String) :
    (runR canAdd empty ops).WF ∧
    findNode m (runR canAdd empty ops) path.toList [] = Heimdall.find m (runT canAdd [] ops) (tokenize path) [] ∧
    RTree.find m (runR canAdd empty ops) path = lookup m (runT canAdd [] ops) path := by
  obtain ⟨hwf, _, hget⟩ := sim_run canAdd ops empty [] sim_empty
  have h2 := find_congr m _ _ hget (tokenize path) []
  refine ⟨hwf, (rtree_find_refines _ hwf m path).trans h2, ?_⟩
  rw [rtree_lookup_refines _ hwf m path]
  unfold lookup
  rw [h2]

/-- **Most specific match wins, on the byte-level tree** -/
theorem c02_byte_most_specific (t : RTree V) (h : t.WF) (m : V → List String → List String → Bool) (path : String)
    (f : Found V) (hf : (findNode m t path.toList []).1 = some f) :
    ∃ n ∈ t.abs, matchCaps n.pat (tokenize path) = some f.caps ∧ f.keys = n.keys ∧
      n.values.find? (fun v => m v n.keys f.caps) = some f.value ∧
      ∀ n' ∈ t.abs, ∀ caps', matchCaps n'.pat (tokenize path) = some caps' → specLt n'.pat n.pat = true →
        accepts m n' caps' = false ∧ n'.bt = true := by
  rw [rtree_find_refines t h m path] at hf
  exact Props.C02.c02_most_specific m t.abs (nodup_abs t h) (tokenize path) f hf

example : exampleTree.WF := by decide +kernel

end Heimdall.Props.C02Byte
