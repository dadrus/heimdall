import HeimdallModel.Lemmas.ProvidersHist
/-!
# C18 — rule providers converge to the latest valid content of their sources

Statements about the provider models of `Model/Providers.lean` (tied to `internal/rules/provider/*` by the
correspondence check of `tools/props/c18.py`, which drives the real providers) and the specification of
`Spec/Providers.lean`.  Histories are arbitrary finite lists of notifications / poll results, each with an arbitrary
set of sources whose processor calls are refused in that step.

The three providers that remember content digests (file_system, http_endpoint, cloud_blob) are instances of
`Provider`; `Provider.Correct` is the per-step contract, proved for each of them for **every** state reachable and every
admissible input, and everything the property demands follows from the contract for histories of any length.  The
kubernetes provider keeps no digests; its repository follows the informer's cache (`c18_k8s_follows_cache`).
-/
namespace Heimdall.Props.C18
open Heimdall.Prov

variable {σ : Type} [DecidableEq σ]

/-- file_system keeps the contract (`ruleSetsChanged`, `ruleSetCreatedOrUpdated`, `ruleSetDeleted`) -/
theorem c18_file_system_correct : (fileSystem : Provider σ (FsEvent σ)).Correct :=
  fileSystem.correct_of_movesTo (fun _ hp => nomatch hp) fun st e hi hz hadm =>
    have m := (fsStep_ok st e hi hz).movesTo
    ⟨m.noZero hz fun s => by
      split
      · exact Obs.next_ne_zero (FsEvent.raw_ne_zero hadm) (noZero_get hz s)
      · exact noZero_get hz s, m⟩

/-- http_endpoint keeps the contract (`watchChanges`, `ruleSetsUpdated`) -/
theorem c18_http_endpoint_correct : (httpEndpoint : Provider σ (HttpEvent σ)).Correct :=
  httpEndpoint.correct_of_movesTo trivial fun st e hi _ _ => ⟨trivial, (httpStep_ok st e hi).movesTo⟩

/-- cloud_blob keeps the contract (`watchChanges`, `ruleSetsUpdated`, `FetchRuleSets`), for any number of configured
buckets polled in any order (`BlobEvent.bucket`: a poll concerns the sources of its own bucket only): in particular a
blob that cannot be used neither loses its rule set nor keeps the other blobs of the bucket from being applied, and a
poll of one bucket neither removes nor replaces what was loaded from another one -/
theorem c18_cloud_blob_correct : (cloudBlob : Provider σ (BlobEvent σ)).Correct :=
  cloudBlob.correct_of_movesTo trivial fun st e hi _ hd => ⟨trivial, blobStep_movesTo st e hi hd.1 hd.2⟩

/-! ## what the contract gives for every history -/

section
variable {ε : Type} (P : Provider σ ε) (hP : P.Correct)
include hP

/-- **The repository holds exactly what the provider remembers**, after every history: one rule set per remembered
source, loaded from the content whose digest is remembered, and nothing else. -/
theorem c18_repository_is_book (es : List ε) (hes : ∀ e ∈ es, P.admissible e) :
    (P.after es).active = (P.after es).book ∧ (P.after es).book.keys.Nodup :=
  let ⟨hi, _, _⟩ := history P hP es hes; ⟨hi.sync, hi.nodup⟩

/-- **C18, main statement.**  After any history the rule set active for a source is the latest valid content the
history shows for it, and none if the source was last seen gone (removed, emptied, not found) — "latest" counting
only the steps that were not refused by the processor, which are retried with the next notification. -/
theorem c18_converges (es : List ε) (hes : ∀ e ∈ es, P.admissible e) (s : σ) :
    loaded (P.after es).active s = (desired (es.map (P.obs · s))).toList := by
  obtain ⟨hi, _, hb⟩ := history P hP es hes
  rw [hi.sync, loaded_eq_get _ _ hi.nodup, hb s]

/-- **The active rule sets are the union, over all sources of the provider, of their latest valid content**: a rule
set of content `h` is active for source `s` iff `h` is the latest valid content the history shows for `s` — for any
number of sources (files of a directory, endpoints, blobs of any number of buckets) whose notifications and polls are
interleaved in any order. -/
theorem c18_active_is_union (es : List ε) (hes : ∀ e ∈ es, P.admissible e) (s : σ) (h : Hash) :
    (s, h) ∈ (P.after es).active ↔ desired (es.map (P.obs · s)) = some h := by
  obtain ⟨hi, _, hb⟩ := history P hP es hes
  rw [hi.sync, ← hb s]
  exact mem_iff_get _ hi.nodup s h

/-- **Every change is applied exactly once, and nothing else is.**  After any history, the processor calls the next
input causes for a source are exactly the transition from the content loaded for it to what the input shows: one
`OnCreated` / `OnUpdated` / `OnDeleted` if that differs, no call if it is the same; each call is accepted unless the
processor refuses that source. -/
theorem c18_calls_exact (es : List ε) (hes : ∀ e ∈ es, P.admissible e) (e : ε) (he : P.admissible e) (s : σ) :
    (callsFor (P.step (P.after es) e).calls s).map (·.1) =
      transition s (desired (es.map (P.obs · s))) ((P.shows e s).next (desired (es.map (P.obs · s)))) ∧
    ∀ c ∈ (P.step (P.after es) e).calls, c.2 = decide (c.1.src ∉ P.rej e) := by
  obtain ⟨hi, hg, hb⟩ := history P hP es hes
  obtain ⟨_, _, _, hc, hf⟩ := hP.step _ e hi hg he
  exact ⟨by rw [hc s, hb s], hf⟩

/-- **Unchanged content triggers no reload**: if the input shows for a source the content that is loaded, no call is
made for it and the content stays loaded. -/
theorem c18_unchanged_no_reload (es : List ε) (hes : ∀ e ∈ es, P.admissible e) (e : ε) (he : P.admissible e) (s : σ)
    (h : Hash) (hshow : P.shows e s = .content h) (hcur : desired (es.map (P.obs · s)) = some h) :
    callsFor (P.step (P.after es) e).calls s = [] ∧ loaded (P.after (es ++ [e])).active s = [h] := by
  have hc := (c18_calls_exact P hP es hes e he s).1
  rw [hshow, hcur] at hc
  refine ⟨List.map_eq_nil_iff.mp (hc.trans (transition_self ..)), ?_⟩
  rw [c18_converges P hP _ (forall_mem_snoc hes he) s, P.desired_snoc, hcur, P.obs_next_eq (by rw [hshow]; rfl)]; rfl

/-- **An unusable new version leaves the previous one active**: if the input says nothing usable about a source
(content that cannot be parsed or is invalid, notification for another source, aborted poll) no call is made for it
and what is loaded for it stays loaded. -/
theorem c18_invalid_keeps_previous (es : List ε) (hes : ∀ e ∈ es, P.admissible e) (e : ε) (he : P.admissible e)
    (s : σ) (hshow : P.shows e s = .noinfo) :
    callsFor (P.step (P.after es) e).calls s = [] ∧
    loaded (P.after (es ++ [e])).active s = loaded (P.after es).active s := by
  have hc := (c18_calls_exact P hP es hes e he s).1
  rw [hshow] at hc
  refine ⟨List.map_eq_nil_iff.mp (hc.trans (transition_self ..)), ?_⟩
  rw [c18_converges P hP _ (forall_mem_snoc hes he) s, c18_converges P hP _ hes s, P.desired_snoc,
    P.obs_next_eq (by rw [hshow]; rfl)]

/-- ... and the digest remembered for the source stays what it was (so the next usable version is compared with the
version that is still loaded, not with the one that could not be used). -/
theorem c18_invalid_keeps_digest (es : List ε) (hes : ∀ e ∈ es, P.admissible e) (e : ε) (he : P.admissible e)
    (s : σ) (hshow : P.shows e s = .noinfo) :
    (P.after (es ++ [e])).book.get s = (P.after es).book.get s := by
  obtain ⟨_, _, hafter⟩ := history P hP _ (forall_mem_snoc hes he)
  obtain ⟨_, _, hbefore⟩ := history P hP es hes
  rw [hafter s, hbefore s, P.desired_snoc, P.obs_next_eq (by rw [hshow]; rfl)]

/-- **Removed or emptied sources are unloaded**: if the input shows a source gone and the processor does not refuse,
exactly one `OnDeleted` is made if something was loaded (none otherwise) and nothing is loaded for it afterwards. -/
theorem c18_removed_unloaded (es : List ε) (hes : ∀ e ∈ es, P.admissible e) (e : ε) (he : P.admissible e) (s : σ)
    (hshow : P.shows e s = .gone) (hacc : s ∉ P.rej e) :
    (callsFor (P.step (P.after es) e).calls s).map (·.1) =
      (if (loaded (P.after es).active s).isEmpty then [] else [Call.deleted s]) ∧
    loaded (P.after (es ++ [e])).active s = [] := by
  constructor
  · rw [(c18_calls_exact P hP es hes e he s).1, hshow, c18_converges P hP es hes s]
    cases desired (es.map (P.obs · s)) <;> rfl
  · rw [c18_converges P hP _ (forall_mem_snoc hes he) s, P.desired_snoc, P.obs_of_not_rej hacc, hshow]; rfl

/-- **Repeated notifications are harmless**: an input that was accepted causes no further call for the source when
it is delivered again (any number of times, see `c18_calls_exact` for histories in between). -/
theorem c18_repeated_no_call (es : List ε) (hes : ∀ e ∈ es, P.admissible e) (e : ε) (he : P.admissible e) (s : σ)
    (hacc : s ∉ P.rej e) :
    callsFor (P.step (P.after (es ++ [e])) e).calls s = [] := by
  have hc := (c18_calls_exact P hP _ (forall_mem_snoc hes he) e he s).1
  rw [P.desired_snoc, P.obs_of_not_rej hacc, Obs.next_idem, transition_self] at hc
  exact List.map_eq_nil_iff.mp hc

end

/-! ## a new version that is received incompletely

The fetch outcome "status 200, then the body ends before its announced end" (connection lost while the rule set is
transferred, `Content-Length` larger than what arrives, chunked transfer broken off inside a chunk or before the
terminating chunk; for cloud_blob: the GET of an object that is listed and whose attributes were read breaks off) is an
instance of "invalid new version", not of "communication error": something arrived, and it is not a usable rule set.
The latitude the property leaves for communication errors (keep or unload) does not apply; the clause
`c18_invalid_keeps_previous` does, and is stated here explicitly for this outcome. -/

/-- **http_endpoint: a partially received version leaves everything as it was.**  After every history of polls of any
number of endpoints (any outcomes, any refusal pattern), a poll whose fetch outcome is a proper prefix of a valid
document (`HttpOutcome.incomplete`) makes no processor call at all, leaves the rule sets active in the repository and
the digests remembered — of the polled endpoint and of every other one — exactly as they were, and what is loaded for
every source is still the latest valid content the history before shows for it. -/
theorem c18_partial_response_keeps_previous (es : List (HttpEvent σ)) (e : HttpEvent σ)
    (hpart : e.outcome.incomplete = true) :
    (httpStep ((httpEndpoint : Provider σ _).after es) e).calls = [] ∧
    ((httpEndpoint : Provider σ _).after (es ++ [e])).active = ((httpEndpoint : Provider σ _).after es).active ∧
    ((httpEndpoint : Provider σ _).after (es ++ [e])).book = ((httpEndpoint : Provider σ _).after es).book ∧
    ∀ s, loaded ((httpEndpoint : Provider σ _).after (es ++ [e])).active s =
      (desired (es.map ((httpEndpoint : Provider σ _).obs · s))).toList := by
  obtain ⟨x, ho⟩ := HttpOutcome.truncated_of_incomplete hpart
  have hstep : ∀ st : St σ, httpStep st e = Out.failed st := fun st => by unfold httpStep; rw [ho]
  have hrun : (httpEndpoint : Provider σ _).after (es ++ [e]) = (httpEndpoint : Provider σ _).after es := by
    show run httpStep St.init (es ++ [e]) = run httpStep St.init es
    rw [run_append, run_cons, run_nil, hstep]; rfl
  rw [hrun]
  exact ⟨by rw [hstep]; rfl, rfl, rfl, c18_converges httpEndpoint c18_http_endpoint_correct es (fun _ _ => trivial)⟩

/-- the same as an instance of the clause of the property: such a poll shows nothing usable about any source -/
theorem c18_partial_response_is_invalid (e : HttpEvent σ) (hpart : e.outcome.incomplete = true) (s : σ) :
    (httpEndpoint : Provider σ _).shows e s = .noinfo := by
  obtain ⟨x, ho⟩ := HttpOutcome.truncated_of_incomplete hpart
  show (if e.id = s then e.outcome.obs else Obs.noinfo) = Obs.noinfo
  rw [ho]; exact ite_self _

/-- a poll that finds blob `s` but cannot read its body to the end shows nothing usable about `s` -/
theorem c18_partial_blob_is_invalid (e : BlobEvent σ) (he : (cloudBlob : Provider σ _).admissible e) (s : σ)
    (hpart : e.incompleteFor s) : (cloudBlob : Provider σ _).shows e s = .noinfo := by
  obtain ⟨hb, hf⟩ := hpart
  show e.raw s = .noinfo
  cases hfetch : e.fetch with
  | single id b =>
    rw [hfetch] at hf
    cases b with
    | none => exact hf.elim
    | some b =>
      obtain ⟨x, rfl⟩ := BlobState.truncated_of_incomplete hf.2
      simp only [BlobEvent.raw, hb, hfetch, blobRuleSets]; rfl
  | listing items =>
    rw [hfetch] at hf
    obtain ⟨b, hmem, hinc⟩ := hf
    obtain ⟨x, rfl⟩ := BlobState.truncated_of_incomplete hinc
    -- the one entry of the listing for `s` is handed on as unusable
    have ⟨rss, hrs, hm⟩ : ∃ rss, blobRuleSets e.fetch = some rss ∧ (s, none) ∈ rss := by
      rw [hfetch]; exact ⟨_, rfl, List.mem_filterMap.mpr ⟨_, hmem, rfl⟩⟩
    have hn := (ruleSets_sublist hrs).nodup (BlobFetch.ids_nodup he.1)
    rw [raw_listed hrs hn hm hb]; rfl
  | _ => rw [hfetch] at hf; exact hf.elim

/-- **cloud_blob: a blob whose GET breaks off mid-body keeps its rule set.**  After every history of polls of any
number of buckets, a poll that finds blob `s` (listed, attributes read) but receives its body incompletely makes no
processor call for `s`, leaves what is loaded for `s` and the digest remembered for `s` as they were — while the other
blobs of the bucket are applied as usual (`c18_calls_exact`, `c18_converges` hold for them). -/
theorem c18_partial_blob_keeps_previous (es : List (BlobEvent σ))
    (hes : ∀ e ∈ es, (cloudBlob : Provider σ _).admissible e) (e : BlobEvent σ)
    (he : (cloudBlob : Provider σ _).admissible e) (s : σ) (hpart : e.incompleteFor s) :
    callsFor (blobStep ((cloudBlob : Provider σ _).after es) e).calls s = [] ∧
    loaded ((cloudBlob : Provider σ _).after (es ++ [e])).active s = loaded ((cloudBlob : Provider σ _).after es).active s ∧
    ((cloudBlob : Provider σ _).after (es ++ [e])).book.get s = ((cloudBlob : Provider σ _).after es).book.get s := by
  have hshow := c18_partial_blob_is_invalid e he s hpart
  obtain ⟨h1, h2⟩ := c18_invalid_keeps_previous cloudBlob c18_cloud_blob_correct es hes e he s hshow
  exact ⟨h1, h2, c18_invalid_keeps_digest cloudBlob c18_cloud_blob_correct es hes e he s hshow⟩

/-! ## file_system: the rule files present at start -/

/-- **`Start` is a history.**  If `Start` succeeds the provider is in the state it reaches by one create notification
for every entry of the configured directory that is not a sub directory (`fsSources`) — regular files and symbolic
links alike, a link having the state of its target — so every statement above holds for what is there at start too. -/
theorem c18_fs_start_is_history (rej : List σ) (entries : List (σ × EntryKind × FileState))
    (h : (fsStart rej entries).err = false) :
    (fsStart rej entries).st =
      (fileSystem : Provider σ _).after ((fsSources entries).map fun p => ⟨[.create], p.1, p.2, rej⟩) :=
  fsInit_run rej (fsSources entries) St.init h

/-- **Every rule file that exists at start is loaded, symbolic links to files included.**  If `Start` succeeds, an
entry `n` which is not a sub directory, shows the valid content `h` (for a link: its target does) and is not refused by
the processor has exactly the rule set `h` loaded afterwards — provided no other entry of that name says otherwise
(names in a directory are unique). -/
theorem c18_fs_start_loads_every_source (rej : List σ) (entries : List (σ × EntryKind × FileState))
    (hstart : (fsStart rej entries).err = false) (n : σ) (k : EntryKind) (h : Hash)
    (hmem : (n, k, .valid h) ∈ entries) (hk : k ≠ .directory) (hne : h ≠ 0) (hacc : n ∉ rej)
    (hz : ∀ e ∈ entries, e.2.2 ≠ .valid 0) (huniq : ∀ e ∈ entries, e.1 = n → e.2.2 = .valid h) :
    loaded (fsStart rej entries).st.active n = [h] := by
  have hadm : ∀ e ∈ (fsSources entries).map (fun p => (⟨[.create], p.1, p.2, rej⟩ : FsEvent σ)),
      (fileSystem : Provider σ _).admissible e :=
    List.forall_mem_map.mpr fun p hp => let ⟨_, hx, _⟩ := mem_fsSources.mp hp; hz _ hx
  rw [c18_fs_start_is_history rej entries hstart, c18_converges fileSystem c18_file_system_correct _ hadm n, List.map_map]
  -- every entry named `n` shows `h`, the others say nothing about `n`
  refine congrArg Option.toList (desired_of_shown _ h (fsSources entries) none (fun p hp => ?_)
    (.inr ⟨(n, .valid h), mem_fsSources.mpr ⟨k, hmem, hk⟩, (fsCreate_obs hacc ..).trans (if_pos rfl)⟩))
  obtain ⟨_, hx, _⟩ := mem_fsSources.mp hp
  simp only [Function.comp, fsCreate_obs hacc]
  by_cases e : p.1 = n
  · right; rw [if_pos e, huniq _ hx e]; rfl
  · left; exact if_neg e

/-! ### rule files replaced while `Start` is loading them -/

/-- **No second version next to the first one.**  Rule files may be replaced while `Start` is inside a processor call
of its initial load (`fsStartDuring`: any directory, any call `held`, any changes `chg`, any refusal pattern).  If
`Start` succeeds, it has done what the create notifications for the files *as the load read them* (`fsReadDuring`) do —
one sequential history, no handler running next to the initial load — so after it and after any notifications `es` the
watcher delivers later on, the repository holds exactly what the provider remembers, every source has at most ONE rule
set loaded (never an old and a new version side by side), and that one is the latest valid content the load and the
notifications have shown for it. -/
theorem c18_fs_start_under_changes_no_duplicate (rej : List σ) (entries : List (σ × EntryKind × FileState))
    (held : Nat) (chg : List (σ × FileState)) (es : List (FsEvent σ))
    (hstart : (fsStartDuring rej entries held chg).err = false)
    (hz : ∀ p ∈ fsReadDuring (fsSources entries) held chg, p.2 ≠ .valid 0)
    (hes : ∀ e ∈ es, (fileSystem : Provider σ _).admissible e) :
    (run fsStep (fsStartDuring rej entries held chg).st es).active =
      (run fsStep (fsStartDuring rej entries held chg).st es).book ∧
    (run fsStep (fsStartDuring rej entries held chg).st es).book.keys.Nodup ∧
    ∀ s, loaded (run fsStep (fsStartDuring rej entries held chg).st es).active s =
        (desired ((((fsReadDuring (fsSources entries) held chg).map
          fun p => (⟨[.create], p.1, p.2, rej⟩ : FsEvent σ)) ++ es).map
            ((fileSystem : Provider σ _).obs · s))).toList ∧
      (loaded (run fsStep (fsStartDuring rej entries held chg).st es).active s).length ≤ 1 := by
  have hadm : ∀ e ∈ (fsReadDuring (fsSources entries) held chg).map (fun p => (⟨[.create], p.1, p.2, rej⟩ : FsEvent σ)) ++ es,
      (fileSystem : Provider σ _).admissible e :=
    List.forall_mem_append.mpr ⟨List.forall_mem_map.mpr hz, hes⟩
  rw [show run fsStep (fsStartDuring rej entries held chg).st es = _ from fsInit_after rej _ hstart es]
  obtain ⟨h1, h2⟩ := c18_repository_is_book fileSystem c18_file_system_correct _ hadm
  refine ⟨h1, h2, fun s => ?_⟩
  have hc := c18_converges fileSystem c18_file_system_correct _ hadm s
  exact ⟨hc, hc ▸ Option.length_toList_le⟩

/-- **... and the next notification brings a file that was replaced after the load had read it to its latest
content.**  Whatever happened during `Start` and since: a notification that shows content `h` for file `n` and is not
refused leaves exactly `[h]` loaded for `n` — the version read at start is replaced, not kept next to it. -/
theorem c18_fs_changed_during_start_converges (rej : List σ) (entries : List (σ × EntryKind × FileState))
    (held : Nat) (chg : List (σ × FileState)) (es : List (FsEvent σ))
    (hstart : (fsStartDuring rej entries held chg).err = false)
    (hz : ∀ p ∈ fsReadDuring (fsSources entries) held chg, p.2 ≠ .valid 0)
    (hes : ∀ e ∈ es, (fileSystem : Provider σ _).admissible e)
    (e : FsEvent σ) (he : (fileSystem : Provider σ _).admissible e) (n : σ) (h : Hash)
    (hshow : (fileSystem : Provider σ _).shows e n = .content h) (hacc : n ∉ e.rej) :
    loaded (run fsStep (fsStartDuring rej entries held chg).st (es ++ [e])).active n = [h] := by
  obtain ⟨_, _, hloaded⟩ := c18_fs_start_under_changes_no_duplicate rej entries held chg (es ++ [e]) hstart hz
    (forall_mem_snoc hes he)
  rw [(hloaded n).1, ← List.append_assoc, Provider.desired_snoc, Provider.obs_of_not_rej _ hacc, hshow]; rfl

/-! ## kubernetes -/

variable {κ : Type} [DecidableEq κ]

/-- **The repository follows the informer's cache.**  After every history of watch notifications and re-lists (a
broken watch, missed deletions, resources deleted and created anew under the same name included) that the API server
can produce (`kWf`: rules change only together with the generation; a deletion shows the object as last seen) and in
which the processor refuses nothing, the rule sets loaded for source (key, uid) are the rules of the cached resource
with that key and uid if it is of this instance's authentication class, and none otherwise. -/
theorem c18_k8s_follows_cache (es : List (List κ × KEvent κ)) (hw : kWf ⟨[], []⟩ es = true) (s : κ × Nat) :
    loaded (kRun ⟨[], []⟩ es).active s = kWant (kRun ⟨[], []⟩ es).store s :=
  kRun_inv ⟨[], []⟩ es (fun _ => rfl) hw s

/-! ## the hypotheses are satisfiable, the statements are not vacuous -/

/-- a file system history: created, unchanged, changed, broken (kept), refused update (retried), renamed away -/
def fsHistory : List (FsEvent String) :=
  [⟨[.create], "a", .valid 1, []⟩, ⟨[.write], "a", .valid 1, []⟩, ⟨[.write], "a", .valid 2, []⟩,
   ⟨[.write], "a", .invalid, []⟩, ⟨[.write], "a", .valid 3, ["a"]⟩, ⟨[.chmod], "a", .valid 3, []⟩,
   ⟨[.create], "b", .valid 7, []⟩, ⟨[.rename], "a", .missing, []⟩]

example : ∀ e ∈ fsHistory, (fileSystem : Provider String _).admissible e := by
  show ∀ e ∈ fsHistory, e.file ≠ .valid 0
  decide +kernel
example : (fileSystem.after fsHistory).active = [("b", 7)] := by decide +kernel
example : desired (fsHistory.map ((fileSystem : Provider String _).obs · "a")) = none ∧
    desired ((fsHistory.take 7).map ((fileSystem : Provider String _).obs · "a")) = some 3 := by decide +kernel
/-- `fileSystem.admissible` (no file has the empty digest), under which `c18_file_system_correct` holds, is needed: an
empty digest would be taken for "not loaded" -/
example : (fsStep ⟨[("a", 0)], [("a", 0)]⟩ ⟨[.write], "a", .valid 5, []⟩).st.active = [("a", 0), ("a", 5)] := by decide +kernel

/-- a directory at start: a symbolic link to a rule file, a regular rule file, a dangling link, a sub directory -/
def dirAtStart : List (String × EntryKind × FileState) :=
  [("current.yaml", .symlink, .valid 4), ("plain.yaml", .regular, .valid 5), ("gone.yaml", .symlink, .missing),
   ("sub", .directory, .invalid)]

example : (fsStart [] dirAtStart).err = false ∧
    (fsStart [] dirAtStart).st.active = [("current.yaml", 4), ("plain.yaml", 5)] := by decide +kernel
/-- a link to a directory is read like a file and makes `Start` fail, a sub directory is skipped -/
example : (fsStart [] [("d", .symlink, .invalid), ("x.yaml", .regular, .valid 1)]).err = true := by decide +kernel

/-- a rule file is replaced while `Start` is inside the processor call for it (`held = 0`), a second one before it is
opened, a third one appears: the first keeps the version that was read, the second is loaded in its new version, the
third is not looked at — and the chmod notification afterwards updates the first -/
def dirChanged : List (String × FileState) := [("a.yaml", .valid 2), ("b.yaml", .valid 6), ("new.yaml", .valid 9)]

example : fsFirstCall (fsSources dirAtStart) 0 = some 0 := by decide +kernel
example : (fsStartDuring [] [("a.yaml", .regular, .valid 1), ("b.yaml", .regular, .valid 5)] 0 dirChanged).err = false ∧
    (fsStartDuring [] [("a.yaml", .regular, .valid 1), ("b.yaml", .regular, .valid 5)] 0 dirChanged).calls =
      [(.created "a.yaml" 1, true), (.created "b.yaml" 6, true)] := by decide +kernel
example : (run fsStep (fsStartDuring [] [("a.yaml", .regular, .valid 1), ("b.yaml", .regular, .valid 5)] 0 dirChanged).st
    [⟨[.chmod], "a.yaml", .valid 2, []⟩]).active = [("b.yaml", 6), ("a.yaml", 2)] := by decide +kernel
/-- what the statement excludes: a second handler (a watcher started before the initial load) that finds no digest for
the file either reports `OnCreated` too, and the repository keeps both versions -/
example : loaded (((St.init : St String).active.apply (.created "a.yaml" 1)).apply (.created "a.yaml" 2)) "a.yaml" = [1, 2] := by
  decide +kernel

/-- a bucket: one blob breaks while another changes and a third disappears; then the bucket cannot be reached -/
def blobHistory : List (BlobEvent String) :=
  [⟨fun _ => true, .listing [("x", .valid 1), ("y", .valid 2), ("z", .valid 3)], []⟩,
   ⟨fun _ => true, .listing [("x", .invalid), ("y", .valid 4)], []⟩,
   ⟨fun _ => true, .comm, []⟩]

example : ∀ e ∈ blobHistory, (cloudBlob : Provider String _).admissible e := by
  show ∀ e ∈ blobHistory, e.fetch.distinct ∧ e.fetch.within e.bucket
  decide +kernel
example : (cloudBlob.after (blobHistory.take 2)).active = [("x", 1), ("y", 4)] := by decide +kernel
example : (cloudBlob.after blobHistory).active = [] := by decide +kernel

/-- two buckets holding a blob of the same key (sources are (bucket, key)), polled in turn: neither poll touches what
the other bucket loaded; bucket 1 becomes unreachable, bucket 0 stays -/
def twoBuckets : List (BlobEvent (Nat × String)) :=
  [⟨(·.1 == 0), .listing [((0, "k"), .valid 1), ((0, "a"), .valid 2)], []⟩,
   ⟨(·.1 == 1), .listing [((1, "k"), .valid 3)], []⟩,
   ⟨(·.1 == 0), .listing [((0, "k"), .valid 1), ((0, "a"), .valid 2)], []⟩,
   ⟨(·.1 == 1), .listing [((1, "k"), .valid 4)], []⟩,
   ⟨(·.1 == 1), .comm, []⟩]

example : ∀ e ∈ twoBuckets, (cloudBlob : Provider (Nat × String) _).admissible e := by
  show ∀ e ∈ twoBuckets, e.fetch.distinct ∧ e.fetch.within e.bucket
  decide +kernel
example : (cloudBlob.after (twoBuckets.take 4)).active = [((0, "k"), 1), ((0, "a"), 2), ((1, "k"), 4)] := by decide +kernel
example : (cloudBlob.after twoBuckets).active = [((0, "k"), 1), ((0, "a"), 2)] := by decide +kernel

/-- an endpoint: loaded, unparsable answer (kept), 404 (unloaded), loaded again -/
def httpHistory : List (HttpEvent String) :=
  [⟨"u", .valid 1, []⟩, ⟨"u", .invalid, []⟩, ⟨"u", .status 404, []⟩, ⟨"u", .valid 1, []⟩]

example : (httpEndpoint.after (httpHistory.take 2)).active = [("u", 1)] ∧
    (httpEndpoint.after (httpHistory.take 3)).active = [] ∧ (httpEndpoint.after httpHistory).active = [("u", 1)] := by
  decide +kernel

/-- two endpoints loaded; then version 2 of `u` is on its way and the body breaks off: the hypothesis of
`c18_partial_response_keeps_previous` holds, nothing is called, version 1 stays active and remembered -/
def httpLoaded : List (HttpEvent String) := [⟨"u", .valid 1, []⟩, ⟨"w", .valid 7, []⟩]
def httpCutOff : HttpEvent String := ⟨"u", .truncated 2, []⟩

example : httpCutOff.outcome.incomplete = true := rfl
example : (httpStep (httpEndpoint.after httpLoaded) httpCutOff).calls = [] ∧
    (httpEndpoint.after (httpLoaded ++ [httpCutOff])).active = [("u", 1), ("w", 7)] ∧
    (httpEndpoint.after (httpLoaded ++ [httpCutOff])).book = [("u", 1), ("w", 7)] := by decide +kernel
/-- the complete version 2 afterwards is an update of version 1 (the digest remembered is still the one of version 1) -/
example : (httpStep (httpEndpoint.after (httpLoaded ++ [httpCutOff])) ⟨"u", .valid 2, []⟩).calls =
    [(.updated "u" 2, true)] := by decide +kernel
/-- in contrast, no answer at all (the latitude of the property: the code takes it for "source gone") -/
example : (httpEndpoint.after (httpLoaded ++ [⟨"u", .network, []⟩])).active = [("w", 7)] := by decide +kernel
/-- what the statement excludes: had the incomplete answer been taken for a communication error, `u` would be unloaded -/
example : (httpUpdated [] (httpEndpoint.after httpLoaded) "u" none).calls = [(.deleted "u", true)] := by decide +kernel

/-- a bucket: the GET of `x` breaks off mid-body while `y` changes and `z` is removed -/
def blobCutOff : BlobEvent String := ⟨fun _ => true, .listing [("x", .truncated 9), ("y", .valid 4)], []⟩

example : (cloudBlob : Provider String _).admissible blobCutOff := by
  show blobCutOff.fetch.distinct ∧ blobCutOff.fetch.within blobCutOff.bucket
  decide +kernel
example : blobCutOff.incompleteFor "x" := ⟨rfl, .truncated 9, by simp, rfl⟩
example : (cloudBlob.after (blobHistory.take 1 ++ [blobCutOff])).active = [("x", 1), ("y", 4)] ∧
    (blobStep (cloudBlob.after (blobHistory.take 1)) blobCutOff).calls =
      [(.deleted "z", true), (.updated "y" 4, true)] := by decide +kernel
/-- a single-blob url whose blob cannot be read to the end: the poll is abandoned, the rule set stays -/
example : (⟨fun _ => true, .single "x" (some (.truncated 9)), []⟩ : BlobEvent String).incompleteFor "x" := ⟨rfl, rfl, rfl⟩
example : (cloudBlob.after [⟨fun _ => true, .single "x" (some (.valid 1)), []⟩,
    ⟨fun _ => true, .single "x" (some (.truncated 9)), []⟩]).active = [("x", 1)] := by decide +kernel

/-- kubernetes: while the watch is down `a` is deleted and created anew (new uid), `b` is deleted, `c` appears -/
def k8sHistory : List (List String × KEvent String) :=
  [([], .added ⟨"a", 1, 1, true, 10⟩), ([], .added ⟨"b", 1, 1, true, 20⟩), ([], .modified ⟨"a", 1, 2, true, 11⟩),
   ([], .modified ⟨"a", 1, 2, true, 11⟩),
   ([], .relist [⟨"a", 2, 1, true, 12⟩, ⟨"c", 1, 1, true, 30⟩])]

example : kWf ⟨[], []⟩ k8sHistory = true := by decide +kernel
example : (kRun ⟨[], []⟩ k8sHistory).active = [(("a", 2), 12), (("c", 1), 30)] := by decide +kernel

end Heimdall.Props.C18
