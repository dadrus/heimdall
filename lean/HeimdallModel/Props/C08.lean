import HeimdallModel.Lemmas.UrlEscape
import HeimdallModel.Lemmas.UpstreamUrl
import HeimdallModel.Lemmas.ReqViewAlike
import HeimdallModel.Lemmas.SlashSetting
import HeimdallModel.Lemmas.AsciiChars
/-!
# C08 — percent-encoding cannot change the matched rule; encoded slashes obey the rule

A raw request path is a sequence of units (literal octets and percent-escapes, `PU`).  `Reenc us us'` says that
`us'` spells the same path as `us` with an arbitrary subset of the unreserved octets percent-encoded, hex digits in
either case.  The statements are about what the correspondence check runs against the real request context, repository,
rule and proxy: `Repo.serve` (lookup + the part of rule execution that precedes the pipeline), the URL a request is
forwarded to (`upstreamPath`, `Repo.upstream`), the request line written upstream (`Repo.sent`), and the lookup judged
under the setting of each rule (`Repo.findRuleSpec`).
-/
namespace Heimdall.Props.C08
open Heimdall

/-- request views that differ only in the spelling of the raw path -/
def respell (q : ReqView) (raw : List Char) : ReqView :=
  { q with rawPath := String.ofList raw, path := String.ofList ((pathUnescapeL raw).getD []) }

theorem respell_raw (q : ReqView) (raw : List Char) : (respell q raw).rawPath.toList = raw :=
  String.toList_ofList

theorem respell_path (q : ReqView) (us : List PU) (hwf : ∀ u ∈ us, u.wf) :
    (respell q (renderU us)).path.toList = us.map PU.dec := by
  simp [respell, pathUnescapeL_render us hwf]

theorem respell_slash (q : ReqView) (us : List PU) (hwf : ∀ u ∈ us, u.wf) :
    containsEncodedSlash (respell q (renderU us)).rawPath = us.any PU.isSlash := by
  rw [containsEncodedSlash, respell_raw, containsEncodedSlashL_render us hwf]

/-- a unit with the escapes of unreserved octets undone: what `normalizeUnreserved` makes of it -/
def normUnit : PU → PU
  | .lit c => .lit c
  | .esc a b => if isUnreserved (octet a b) then .lit (octet a b) else .esc a b

theorem normalizeL_byUnit : ByUnit normalizeL fun u r => (normUnit u).render ++ r :=
  ⟨normalizeL_cons_ne, fun a b ha hb t => by
    rw [normUnit]
    split
    · next h => exact (normalizeL_esc a b ha hb t).trans (if_pos h)
    · next h => exact (normalizeL_esc a b ha hb t).trans (if_neg h)⟩

theorem normalizeL_render (us : List PU) (hwf : ∀ u ∈ us, u.wf) :
    normalizeL (renderU us) = renderU (us.map normUnit) :=
  normalizeL_byUnit.render (fun us => renderU (us.map normUnit)) (by simp [renderU, normalizeL]) (fun _ _ => rfl) us hwf

theorem normUnit_dec (u : PU) : (normUnit u).dec = u.dec := by
  cases u with
  | lit c => rfl
  | esc a b => rw [normUnit]; split <;> rfl

/-- an encoded slash is no escape of an unreserved octet: it stays -/
theorem normUnit_isSlash (u : PU) : (normUnit u).isSlash = u.isSlash := by
  cases u with
  | lit c => rfl
  | esc a b =>
    rw [normUnit]
    split
    · next hu =>
      refine (Bool.eq_false_iff.mpr fun hs => ?_).symm
      rw [show octet a b = '/' from PU.dec_of_isSlash hs, not_unreserved_slash] at hu
      cases hu
    · rfl

theorem reenc_normUnit {us us' : List PU} (h : Reenc us us') : us'.map normUnit = us.map normUnit := by
  induction h with
  | nil => rfl
  | keep u _ ih => exact congrArg (normUnit u :: ·) ih
  | enc c a b hc _ _ ho _ ih =>
    subst ho
    simp only [List.map_cons, normUnit, hc, if_true, ih]

/-- **The lookup key ignores the encoding of unreserved octets.** -/
theorem c08_normalize_reenc (us us' : List PU) (hwf : ∀ u ∈ us, u.wf) (h : Reenc us us') :
    normalizeL (renderU us') = normalizeL (renderU us) := by
  rw [normalizeL_render us hwf, normalizeL_render us' (h.wf hwf), reenc_normUnit h]

theorem norm_alike (q : ReqView) {us us' : List PU} (hwf : ∀ u ∈ us, u.wf) (hwf' : ∀ u ∈ us', u.wf)
    (h : us.map normUnit = us'.map normUnit) : Alike (respell q (renderU us)) (respell q (renderU us')) where
  method := rfl
  scheme := rfl
  host := rfl
  path := by
    have hd := congrArg (List.map PU.dec) h
    simp only [List.map_map, Function.comp_def, normUnit_dec] at hd
    simp only [respell, pathUnescapeL_render us hwf, pathUnescapeL_render us' hwf', hd]
  rawEmpty := by
    have he := congrArg List.isEmpty h
    simp only [List.isEmpty_map] at he
    simp only [respell, ofList_isEmpty, renderU_isEmpty, he]
  slash := by
    have hs := congrArg (List.any · PU.isSlash) h
    simp only [List.any_map, Function.comp_def, normUnit_isSlash] at hs
    rw [respell_slash q us hwf, respell_slash q us' hwf', hs]
  key := by
    simp only [respell, normalizeUnreserved, String.toList_ofList, normalizeL_render us hwf, normalizeL_render us' hwf', h]

theorem respell_alike (q : ReqView) {us us' : List PU} (hwf : ∀ u ∈ us, u.wf) (h : Reenc us us') :
    Alike (respell q (renderU us')) (respell q (renderU us)) :=
  norm_alike q (h.wf hwf) hwf (reenc_normUnit h)

/-- **Re-encoding unreserved octets changes nothing observable**: the same rule is selected, the same captured
values are exposed, the request is accepted or rejected alike — for every repository state, with or without default
rule, for every method, host and scheme. -/
theorem c08_reencode_invariant (s : Repo) (hasDefault : Bool) (q : ReqView) (us us' : List PU)
    (hwf : ∀ u ∈ us, u.wf) (h : Reenc us us') :
    s.serve hasDefault (respell q (renderU us')) = s.serve hasDefault (respell q (renderU us)) :=
  (respell_alike q hwf h).serve s hasDefault

example : Reenc [.lit '/', .lit 'a', .lit 'd'] [.lit '/', .esc '6' '1', .lit 'd'] :=
  .keep _ (.enc 'a' '6' '1' (by decide) (by decide) (by decide) (by decide) (.keep _ .nil))

/-- **Encoded slash, setting `off`** (the setting of the default rule as well): the request is answered with the
precondition error before any pipeline step runs — for `%2F` and `%2f` alike. -/
theorem c08_slash_off (q : ReqView) (us : List PU) (hwf : ∀ u ∈ us, u.wf) (hs : us.any PU.isSlash = true)
    (params : List (String × String)) :
    execPrelude .off (respell q (renderU us)) params = .argument :=
  execPrelude_off (by rw [respell_slash q us hwf, hs]) params

example : ([PU.lit '/', .esc '2' 'f'] : List PU).any PU.isSlash = true := by decide

/-- the default rule always runs with the setting `off` -/
theorem c08_default_rule_rejects_encoded_slash (s : Repo) (q : ReqView) (us : List PU)
    (hwf : ∀ u ∈ us, u.wf) (hs : us.any PU.isSlash = true)
    (hd : (s.serve true (respell q (renderU us))).rule = some ("config", "default")) (hne : ∀ v ∈ s.index, ∀ x ∈ v.values, x.src ≠ "config") :
    (s.serve true (respell q (renderU us))).exec = some .argument := by
  unfold Repo.serve at hd ⊢
  cases hf : s.findRule true (respell q (renderU us)) with
  | none => simp [hf] at hd
  | default => simp only [c08_slash_off q us hwf hs]
  | rule v ps =>
    -- an entry of the tree is not the default rule: its source is not "config"
    obtain ⟨n, hn, hv⟩ := lookup_value_mem (findRule_eq_rule.mp hf)
    simp only [hf, Option.some.injEq, Prod.mk.injEq] at hd
    exact absurd hd.1 (hne n hn v hv)

/-- **Settings `on` and `no_decode` never reject because of an encoded slash.** -/
theorem c08_slash_allowed (h : SlashHandling) (hne : h ≠ .off) (q : ReqView) (params : List (String × String)) :
    ∃ caps, execPrelude h q params = .ok caps := by
  unfold execPrelude
  cases h with
  | off => exact absurd rfl hne
  | on => exact ⟨_, rfl⟩
  | noDecode => exact ⟨_, rfl⟩

/-- **`no_decode`: an encoded slash stays encoded in the captured value**, every other escape is decoded. -/
theorem c08_no_decode_capture (us : List PU) (hwf : ∀ u ∈ us, u.wf) :
    unescapeCapture .noDecode (String.ofList (renderU us)) = String.ofList (us.flatMap PU.decKeep) := by
  unfold unescapeCapture
  simp only [String.toList_ofList]
  rw [unescapeKeepSlashL_render us hwf]
  rfl

/-- **`on`: every escape, the encoded slash included, is decoded in the captured value.** -/
theorem c08_on_capture (us : List PU) (hwf : ∀ u ∈ us, u.wf) :
    unescapeCapture .on (String.ofList (renderU us)) = String.ofList (us.map PU.dec) := by
  unfold unescapeCapture
  simp only [String.toList_ofList]
  rw [pathUnescapeL_render us hwf]
  rfl

example : PU.decKeep (.esc '2' 'f') = ['%', '2', 'f'] ∧ PU.dec (.esc '2' 'f') = '/' ∧
    PU.decKeep (.esc '2' '0') = [' '] := by decide

/-- captured values are the same for every spelling: decoding undoes the re-encoding -/
theorem c08_capture_reenc (us us' : List PU) (hwf : ∀ u ∈ us, u.wf) (h : Reenc us us') :
    unescapeCapture .on (String.ofList (renderU us')) = unescapeCapture .on (String.ofList (renderU us)) := by
  rw [c08_on_capture us hwf, c08_on_capture us' (h.wf hwf), h.dec_eq]

theorem normUnit_wf (us : List PU) (hwf : ∀ u ∈ us, u.wf) : ∀ u ∈ us.map normUnit, u.wf := by
  refine List.forall_mem_map.mpr fun u hu => ?_
  cases u with
  | lit c => exact hwf _ hu
  | esc a b =>
    rw [normUnit]
    split
    · next h => exact fun e => by rw [e] at h; revert h; decide
    · exact hwf _ hu

/-- **What the code really decodes** — the tree cuts captures out of the *normalised* raw path: under `on` the
captured value is still the fully decoded segment. -/
theorem c08_on_capture_after_normalise (us : List PU) (hwf : ∀ u ∈ us, u.wf) :
    unescapeCapture .on (String.ofList (normalizeL (renderU us))) = String.ofList (us.map PU.dec) := by
  rw [normalizeL_render us hwf, c08_on_capture _ (normUnit_wf us hwf), List.map_map]
  exact congrArg _ (List.map_congr_left fun u _ => normUnit_dec u)

/-- **The default setting `off`**: a value without encoded slash is decoded completely. -/
theorem c08_off_capture (us : List PU) (hwf : ∀ u ∈ us, u.wf) (hs : us.any PU.isSlash = false) :
    unescapeCapture .off (String.ofList (renderU us)) = String.ofList (us.map PU.dec) :=
  (c08_no_decode_capture us hwf).trans (congrArg String.ofList (flatMap_decKeep us hs))

/-- **`off` at the level of `serve`**: whatever rule with the setting `off` the lookup selects, a request whose raw
path contains an encoded slash is answered with the precondition error. -/
theorem c08_off_never_accepts (s : Repo) (d : Bool) (q : ReqView) (h : containsEncodedSlash q.rawPath = true)
    (v : RVal) (ps : List (String × String)) (hf : s.findRule d q = .rule v ps) (hv : v.esh = .off) :
    (s.serve d q).exec = some .argument := by
  unfold Repo.serve
  simp only [hf, hv, execPrelude_off h]

/-- **All equivalent spellings, symmetrically**: two raw paths that agree once the escapes of unreserved octets are
undone (any subset encoded on either side, either hex case, `%6a` vs `%6A`, `%61b` vs `a%62`) are served alike. -/
theorem c08_spellings_equivalent (s : Repo) (hasDefault : Bool) (q : ReqView) (us us' : List PU)
    (hwf : ∀ u ∈ us, u.wf) (hwf' : ∀ u ∈ us', u.wf) (h : us.map normUnit = us'.map normUnit) :
    s.serve hasDefault (respell q (renderU us)) = s.serve hasDefault (respell q (renderU us')) :=
  (norm_alike q hwf hwf' h).serve s hasDefault

example : [PU.esc '6' 'a', .lit 'b'].map normUnit = [PU.lit 'j', .esc '6' '2'].map normUnit := by decide

/-! ## From the request line to the request view

`extractURL` keeps the path as received and percent-encodes only the octets that may not stand in a path
(`receivedPathL`, unit by unit `receivedUnit`).  The statements above are about a raw path given as units; these say
that the raw path of the request view has the same encoded slashes and the same decoding as the request line, for
every sequence of octets — so "`%2F` next to an octet Go does not accept" can neither slip past the check nor change
what is captured. -/

/-- the request view of a request line -/
def viewOfLine (q : ReqView) (us : List PU) : ReqView := respell q (receivedPathL (renderU us))

/-- the raw path of a request view (`receivedPathL` of whatever octets were received) consists of sendable units -/
theorem c08_request_view_sendable (us : List PU) (hwf : ∀ u ∈ us, u.wf) : ∀ u ∈ us.map receivedUnit, u.sendable := by
  refine List.forall_mem_map.mpr fun u hu => ?_
  have hw := hwf u hu
  cases u with
  | esc a b => exact hw
  | lit c =>
    rw [receivedUnit_lit]
    split
    · next hc => exact ⟨allowed_validPathChar c hc, hw⟩
    · exact PU.ofOctet_wf c

theorem viewOfLine_eq (q : ReqView) (us : List PU) (hwf : ∀ u ∈ us, u.wf) :
    viewOfLine q us = respell q (renderU (us.map receivedUnit)) := by
  rw [viewOfLine, receivedPathL_render us hwf]

theorem c08_request_line_view (q : ReqView) (us : List PU) (hwf : ∀ u ∈ us, u.wf) (hb : ∀ u ∈ us, u.byte) :
    containsEncodedSlash (viewOfLine q us).rawPath = us.any PU.isSlash ∧
      (viewOfLine q us).path = String.ofList (us.map PU.dec) := by
  have hwf' := sendable_wf (c08_request_view_sendable us hwf)
  rw [viewOfLine_eq q us hwf, respell_slash _ _ hwf', receivedU_slash us hb]
  refine ⟨rfl, ?_⟩
  show String.ofList _ = _
  rw [pathUnescapeL_render _ hwf', receivedU_dec us hb]
  rfl

/-- **`off`, stated for the request line**: whatever octets surround it, an encoded slash in the request line leads to
the precondition error. -/
theorem c08_slash_off_request_line (q : ReqView) (us : List PU) (hwf : ∀ u ∈ us, u.wf) (hb : ∀ u ∈ us, u.byte)
    (hs : us.any PU.isSlash = true) (params : List (String × String)) :
    execPrelude .off (viewOfLine q us) params = .argument :=
  execPrelude_off (by rw [(c08_request_line_view q us hwf hb).1, hs]) params

example : receivedPathL "/y/a%2Fb^".toList = "/y/a%2Fb%5E".toList := by
  simp only [Ascii.toList_lit _ _ rfl]; decide +kernel

/-! ## The path sent upstream

For a rule with a backend (`forward_to`) `ruleImpl.Execute` hands `Backend.CreateURL` the request URL as the
encoded-slash switch left it (`on`: raw path dropped; `off` / `no_decode`: raw path kept), `URLRewriter.Rewrite` cuts
`strip_path_prefix` **literally** from the escaped path and puts `add_path_prefix` in front.  `upstreamPath` is what
`EscapedPath()` of the result gives, i.e. what the proxy writes into the request line.

The request views are `respell q raw` for a raw path given as units that may stand in a path (`PU.sendable`; the raw
path of every request view is of that kind, `c08_request_view_sendable`). -/
open Upstream

/-- **From the request line**: the view of a request line `us` is `respell q` of the sendable units
`us.map receivedUnit`, and two request lines that are re-spellings of one another have views whose raw paths are
re-spellings of one another — so every `c08_upstream_…` statement below applies to request lines as received (octets a
path may not contain included). -/
theorem c08_upstream_request_line (q : ReqView) (us us' : List PU) (hwf : ∀ u ∈ us, u.wf) (h : Reenc us us') :
    viewOfLine q us = respell q (renderU (us.map receivedUnit)) ∧
    viewOfLine q us' = respell q (renderU (us'.map receivedUnit)) ∧
    (∀ u ∈ us.map receivedUnit, u.sendable) ∧ Reenc (us.map receivedUnit) (us'.map receivedUnit) :=
  ⟨viewOfLine_eq q us hwf, viewOfLine_eq q us' (h.wf hwf), c08_request_view_sendable us hwf, h.received⟩

/-- **`off` / `no_decode`: the path sent upstream is the received spelling** — `add_path_prefix`, then the received raw
path with the literal prefix cut, every escape as the client wrote it.  (`hcut` names what the literal cut leaves; see
`c08_upstream_prefix_as_configured` and `c08_upstream_no_strip` for the two ways it is met.) -/
theorem c08_upstream_kept_verbatim (esh : SlashHandling) (hesh : esh ≠ .on) (q : ReqView) (r : RewriteCfg)
    (us as ws : List PU) (hus : ∀ u ∈ us, u.sendable) (hne : us ≠ []) (has : ∀ u ∈ as, u.sendable)
    (hws : ∀ u ∈ ws, u.sendable) (hadd : r.add.toList = renderU as)
    (hcut : cutPrefixL r.strip.toList (renderU us) = renderU ws) :
    upstreamPath esh (some r) (respell q (renderU us)) = renderU as ++ renderU ws := by
  have hall : ∀ u ∈ as ++ ws, u.sendable := List.forall_mem_append.mpr ⟨has, hws⟩
  have hrw : rewritePath r (us.map PU.dec) (renderU us) = ((as ++ ws).map PU.dec, renderU (as ++ ws)) := by
    unfold rewritePath
    simp only [escapedPathL_render us hus, hadd, hcut, ← renderU_append, renderU_isEmpty, List.isEmpty_eq_false_iff.mpr hne,
      pathUnescapeL_render _ (sendable_wf hall), Option.getD_some]
    simp
  unfold upstreamPath
  simp only [hesh, if_false, respell_raw, respell_path q us (sendable_wf hus), hrw, ← renderU_append]
  exact escapedPathL_render _ hall

theorem c08_upstream_kept_verbatim_no_rewrite (esh : SlashHandling) (hesh : esh ≠ .on) (q : ReqView)
    (us : List PU) (hus : ∀ u ∈ us, u.sendable) :
    upstreamPath esh none (respell q (renderU us)) = renderU us := by
  unfold upstreamPath
  simp only [hesh, if_false, respell_raw, respell_path q us (sendable_wf hus)]
  exact escapedPathL_render _ hus

/-- the literal cut when the request spells the prefix as it is configured -/
theorem c08_upstream_prefix_as_configured (strip : String) (ps ws : List PU) (h : strip.toList = renderU ps) :
    cutPrefixL strip.toList (renderU (ps ++ ws)) = renderU ws := by
  rw [h, renderU_append, cutPrefixL_append]

theorem c08_upstream_no_strip (us : List PU) : cutPrefixL "".toList (renderU us) = renderU us := cutPrefixL_nil _

/-- **`no_decode`: every encoded slash of the request is an encoded slash at the corresponding position of the path
sent upstream**, in the hex case the client used: for a request `prefix ++ pre ++ %2F|%2f ++ post` the path sent is
`add ++ pre ++ %2F|%2f ++ post`. -/
theorem c08_upstream_no_decode_slash_stays_encoded (q : ReqView) (r : RewriteCfg) (ps pre post as : List PU) (x : Char)
    (hx : x = 'F' ∨ x = 'f')
    (hps : ∀ u ∈ ps, u.sendable) (hpre : ∀ u ∈ pre, u.sendable) (hpost : ∀ u ∈ post, u.sendable)
    (has : ∀ u ∈ as, u.sendable) (hadd : r.add.toList = renderU as) (hstrip : r.strip.toList = renderU ps) :
    upstreamPath .noDecode (some r) (respell q (renderU (ps ++ (pre ++ .esc '2' x :: post)))) =
      renderU as ++ renderU pre ++ '%' :: '2' :: x :: renderU post := by
  have hxh : isHex x = true := by rcases hx with rfl | rfl <;> decide
  have hws : ∀ u ∈ pre ++ .esc '2' x :: post, u.sendable :=
    List.forall_mem_append.mpr ⟨hpre, List.forall_mem_cons.mpr ⟨⟨by decide, hxh⟩, hpost⟩⟩
  rw [c08_upstream_kept_verbatim .noDecode (by decide) q r _ as _ (List.forall_mem_append.mpr ⟨hps, hws⟩) (by simp) has
    hws hadd (c08_upstream_prefix_as_configured r.strip ps _ hstrip), renderU_append, renderU_cons, List.append_assoc]
  rfl

example : renderU [PU.lit '/', .lit 'a', .esc '2' 'f', .lit 'b'] = "/a%2fb".toList := by
  simp only [Ascii.toList_lit _ _ rfl]; decide +kernel

/-- **`on`: the path sent upstream is the default encoding of the decoded path** (prefix cut from, and
`add_path_prefix` put in front of, that encoding): it does not depend on how the client spelled the path. -/
theorem c08_upstream_on_canonical (q : ReqView) (r : RewriteCfg) (us : List PU) (ad wd : List Char)
    (hwf : ∀ u ∈ us, u.wf) (hstar : us.map PU.dec ≠ ['*']) (hb : ∀ c ∈ ad ++ wd, c.toNat < 256)
    (hadd : r.add.toList = escapePathL ad)
    (hcut : cutPrefixL r.strip.toList (escapePathL (us.map PU.dec)) = escapePathL wd) :
    upstreamPath .on (some r) (respell q (renderU us)) = escapePathL ad ++ escapePathL wd := by
  unfold upstreamPath rewritePath
  simp only [if_true, respell_path q us hwf, escapedPathL_nil _ hstar, hadd, hcut, ← escapePathL_append,
    pathUnescapeL_escapePathL (ad ++ wd) hb, Option.getD_some, List.isEmpty_nil]
  split
  · exact escapedPathL_escapePathL _ hb
  · next hx =>
    -- nothing had to be escaped: no raw path is kept, `EscapedPath` encodes the path again
    refine escapedPathL_nil _ fun e => hx ?_
    rw [e, escapePathL_star]
    decide

theorem c08_upstream_on_canonical_no_rewrite (q : ReqView) (us : List PU) (hwf : ∀ u ∈ us, u.wf)
    (hstar : us.map PU.dec ≠ ['*']) :
    upstreamPath .on none (respell q (renderU us)) = escapePathL (us.map PU.dec) := by
  unfold upstreamPath
  simp only [if_true, respell_path q us hwf, escapedPathL_nil _ hstar]

/-- the default encoding never contains an encoded slash -/
theorem c08_upstream_on_no_encoded_slash (p : List Char) (hb : ∀ c ∈ p, c.toNat < 256) :
    containsEncodedSlashL (escapePathL p) = false := by
  rw [escapePathL_eq, containsEncodedSlashL_render _ (sendable_wf (escUnits_sendable p)), List.any_map]
  exact List.any_eq_false.mpr fun c hc => by simp [escUnit_not_slash c (hb c hc)]

/-- `on` without `strip_path_prefix`: the default encoding of the whole decoded path behind `add_path_prefix` -/
theorem upstream_on_no_strip (q : ReqView) (r : RewriteCfg) (us : List PU) (ad : List Char) (hwf : ∀ u ∈ us, u.wf)
    (hb : ∀ u ∈ us, u.byte) (hstar : us.map PU.dec ≠ ['*']) (hbad : ∀ c ∈ ad, c.toNat < 256)
    (hadd : r.add.toList = escapePathL ad) (hstrip : r.strip = "") :
    upstreamPath .on (some r) (respell q (renderU us)) = escapePathL ad ++ escapePathL (us.map PU.dec) :=
  c08_upstream_on_canonical q r us ad _ hwf hstar (List.forall_mem_append.mpr ⟨hbad, decs_byte us hb⟩) hadd
    (by rw [hstrip]; exact cutPrefixL_nil _)

/-- **Under `on` every encoded slash of the request is the path separator `/` at the corresponding position of
the path sent upstream** (no prefix cut; `add_path_prefix` in its default encoding, e.g. `/v2`). -/
theorem c08_upstream_on_slash_decoded (q : ReqView) (r : RewriteCfg) (pre post : List PU) (x : Char) (ad : List Char)
    (hx : x = 'F' ∨ x = 'f') (hpre : ∀ u ∈ pre, u.wf) (hpost : ∀ u ∈ post, u.wf)
    (hbpre : ∀ u ∈ pre, u.byte) (hbpost : ∀ u ∈ post, u.byte) (hbad : ∀ c ∈ ad, c.toNat < 256)
    (hadd : r.add.toList = escapePathL ad) (hstrip : r.strip = "") :
    upstreamPath .on (some r) (respell q (renderU (pre ++ .esc '2' x :: post))) =
      escapePathL ad ++ escapePathL (pre.map PU.dec) ++ '/' :: escapePathL (post.map PU.dec) := by
  have hxh : isHex x = true := by rcases hx with rfl | rfl <;> decide
  have hdx : PU.dec (.esc '2' x) = '/' := PU.dec_of_isSlash (by rcases hx with rfl | rfl <;> rfl)
  have hmap : (pre ++ .esc '2' x :: post).map PU.dec = pre.map PU.dec ++ '/' :: post.map PU.dec := by
    rw [List.map_append, List.map_cons, hdx]
  have hsl : escapePathL ('/' :: post.map PU.dec) = '/' :: escapePathL (post.map PU.dec) := by
    simp [escapePathL, shouldEscape_slash]
  have hwf : ∀ u ∈ pre ++ .esc '2' x :: post, u.wf :=
    List.forall_mem_append.mpr ⟨hpre, List.forall_mem_cons.mpr ⟨⟨by decide, hxh⟩, hpost⟩⟩
  have hb : ∀ u ∈ pre ++ .esc '2' x :: post, u.byte :=
    List.forall_mem_append.mpr ⟨hbpre, List.forall_mem_cons.mpr ⟨trivial, hbpost⟩⟩
  rw [upstream_on_no_strip q r _ ad hwf hb (ne_star_of_mem (c := '/') (by simp [hdx]) (by decide)) hbad hadd hstrip,
    hmap, escapePathL_append, hsl, List.append_assoc]

/-- **Spelling invariance of the path sent upstream, setting `on`**: the whole upstream URL is the same for two
spellings of one path, whatever `rewrite` says. -/
theorem c08_upstream_on_spelling_invariant (be : BackendCfg) (q : ReqView) (us us' : List PU) (rq : String)
    (hwf : ∀ u ∈ us, u.wf) (h : Reenc us us') :
    upstreamUrl .on be (respell q (renderU us')) rq = upstreamUrl .on be (respell q (renderU us)) rq :=
  (respell_alike q hwf h).upstreamUrl_on be rq

/-- **Spelling invariance of the path sent upstream, settings `off` and `no_decode`**: if the literal cut of
`strip_path_prefix` leaves re-spellings of one another (`hrw`; always so without `strip_path_prefix` and whenever both
requests spell the prefix as configured, see the corollaries), then the two paths sent upstream are re-spellings of one
another: they are equal once the escapes of unreserved octets are undone — so they agree on every encoded slash and on
every other escape, position by position — and they decode to the same octets. -/
theorem c08_upstream_spelling_invariant (esh : SlashHandling) (hesh : esh ≠ .on) (q : ReqView) (r : RewriteCfg)
    (us us' as ws ws' : List PU) (hus : ∀ u ∈ us, u.sendable) (hne : us ≠ []) (has : ∀ u ∈ as, u.sendable)
    (hws : ∀ u ∈ ws, u.sendable) (hadd : r.add.toList = renderU as)
    (hcut : cutPrefixL r.strip.toList (renderU us) = renderU ws)
    (hcut' : cutPrefixL r.strip.toList (renderU us') = renderU ws')
    (hre : Reenc us us') (hrw : Reenc ws ws') :
    normalizeL (upstreamPath esh (some r) (respell q (renderU us'))) =
        normalizeL (upstreamPath esh (some r) (respell q (renderU us))) ∧
      pathUnescapeL (upstreamPath esh (some r) (respell q (renderU us'))) =
        pathUnescapeL (upstreamPath esh (some r) (respell q (renderU us))) := by
  have hwf : ∀ u ∈ as ++ ws, u.wf := sendable_wf (List.forall_mem_append.mpr ⟨has, hws⟩)
  have hr2 : Reenc (as ++ ws) (as ++ ws') := Reenc.append_left as hrw
  rw [c08_upstream_kept_verbatim esh hesh q r us as ws hus hne has hws hadd hcut,
    c08_upstream_kept_verbatim esh hesh q r us' as ws' (hre.sendable hus) (hre.ne_nil hne) has (hrw.sendable hws) hadd hcut',
    ← renderU_append, ← renderU_append]
  exact ⟨c08_normalize_reenc _ _ hwf hr2, pathUnescapeL_reenc _ _ hwf hr2⟩

theorem c08_upstream_spelling_invariant_no_strip (esh : SlashHandling) (hesh : esh ≠ .on) (q : ReqView) (r : RewriteCfg)
    (us us' as : List PU) (hus : ∀ u ∈ us, u.sendable) (hne : us ≠ []) (has : ∀ u ∈ as, u.sendable)
    (hadd : r.add.toList = renderU as) (hstrip : r.strip = "") (hre : Reenc us us') :
    normalizeL (upstreamPath esh (some r) (respell q (renderU us'))) =
        normalizeL (upstreamPath esh (some r) (respell q (renderU us))) ∧
      pathUnescapeL (upstreamPath esh (some r) (respell q (renderU us'))) =
        pathUnescapeL (upstreamPath esh (some r) (respell q (renderU us))) :=
  c08_upstream_spelling_invariant esh hesh q r us us' as us us' hus hne has hus hadd
    (by rw [hstrip]; exact cutPrefixL_nil _) (by rw [hstrip]; exact cutPrefixL_nil _) hre hre

theorem c08_upstream_spelling_invariant_prefix_as_configured (esh : SlashHandling) (hesh : esh ≠ .on) (q : ReqView)
    (r : RewriteCfg) (ps ws ws' as : List PU) (hps : ∀ u ∈ ps, u.sendable) (hws : ∀ u ∈ ws, u.sendable)
    (hne : ps ++ ws ≠ []) (has : ∀ u ∈ as, u.sendable) (hadd : r.add.toList = renderU as)
    (hstrip : r.strip.toList = renderU ps) (hrw : Reenc ws ws') :
    normalizeL (upstreamPath esh (some r) (respell q (renderU (ps ++ ws')))) =
        normalizeL (upstreamPath esh (some r) (respell q (renderU (ps ++ ws)))) ∧
      pathUnescapeL (upstreamPath esh (some r) (respell q (renderU (ps ++ ws')))) =
        pathUnescapeL (upstreamPath esh (some r) (respell q (renderU (ps ++ ws)))) :=
  c08_upstream_spelling_invariant esh hesh q r _ _ as ws ws' (List.forall_mem_append.mpr ⟨hps, hws⟩) hne has hws hadd
    (c08_upstream_prefix_as_configured r.strip ps ws hstrip) (c08_upstream_prefix_as_configured r.strip ps ws' hstrip)
    (Reenc.append_left ps hrw) hrw

theorem c08_upstream_spelling_invariant_no_rewrite (esh : SlashHandling) (hesh : esh ≠ .on) (q : ReqView)
    (us us' : List PU) (hus : ∀ u ∈ us, u.sendable) (hre : Reenc us us') :
    normalizeL (upstreamPath esh none (respell q (renderU us'))) =
        normalizeL (upstreamPath esh none (respell q (renderU us))) := by
  rw [c08_upstream_kept_verbatim_no_rewrite esh hesh q us hus,
    c08_upstream_kept_verbatim_no_rewrite esh hesh q us' (hre.sendable hus)]
  exact c08_normalize_reenc _ _ (sendable_wf hus) hre

/-- non-vacuity: `/api/f/a%2Fb` and `/api/%66/a%2Fb`, prefix `/api` -/
example : Reenc [PU.lit '/', .lit 'f', .lit '/', .lit 'a', .esc '2' 'F', .lit 'b']
    [PU.lit '/', .esc '6' '6', .lit '/', .lit 'a', .esc '2' 'F', .lit 'b'] :=
  .keep _ (.enc 'f' '6' '6' (by decide) (by decide) (by decide) (by decide) (.keep _ (.keep _ (.keep _ (.keep _ .nil)))))

example : "/api".toList = renderU [PU.lit '/', .lit 'a', .lit 'p', .lit 'i'] ∧
    ∀ u ∈ [PU.lit '/', .lit 'a', .lit 'p', .lit 'i'], u.sendable := by
  refine ⟨by decide +kernel, ?_⟩
  simp only [List.forall_mem_cons, List.not_mem_nil, false_imp_iff, implies_true, and_true, PU.sendable]
  decide

/-- **Observation (recorded, not part of C08): the cut of `strip_path_prefix` is literal.**  A request that spells an
unreserved octet of the prefix percent-encoded selects the same rule, but its prefix is not cut; the property speaks
about the matched rule, captured values, acceptance and encoded slashes in the path sent upstream, not about the prefix
(design/C08.md, "literal prefix cut"). -/
example : cutPrefixL "/api".toList "/api/x".toList = "/x".toList ∧
    cutPrefixL "/api".toList "/%61pi/x".toList = "/%61pi/x".toList := by
  simp only [Ascii.toList_lit _ _ rfl]; decide +kernel

/-- scheme, host and query of the upstream URL do not depend on the path at all -/
theorem c08_upstream_rest_independent_of_spelling (esh : SlashHandling) (be : BackendCfg) (q : ReqView)
    (raw : List Char) (rq : String) :
    (upstreamUrl esh be (respell q raw) rq).scheme = (upstreamUrl esh be q rq).scheme ∧
    (upstreamUrl esh be (respell q raw) rq).host = (upstreamUrl esh be q rq).host ∧
    (upstreamUrl esh be (respell q raw) rq).query = (upstreamUrl esh be q rq).query := by
  refine ⟨?_, rfl, rfl⟩
  unfold upstreamUrl
  cases be.rewrite <;> rfl

/-- the lookup selects the same entry of the routing tree for every spelling -/
theorem c08_same_entry_for_every_spelling (s : Repo) (hasDefault : Bool) (q : ReqView) (us us' : List PU)
    (hwf : ∀ u ∈ us, u.wf) (h : Reenc us us') :
    s.findRule hasDefault (respell q (renderU us')) = s.findRule hasDefault (respell q (renderU us)) :=
  (respell_alike q hwf h).findRule s hasDefault

/-- **Forwarded alike**: whether a request is forwarded at all (the matched rule has a backend and did not answer with
the precondition error) does not depend on the spelling. -/
theorem c08_upstream_forwarded_alike (s : Repo) (hasDefault : Bool) (q : ReqView) (us us' : List PU) (rq : String)
    (hwf : ∀ u ∈ us, u.wf) (h : Reenc us us') :
    (s.upstream hasDefault (respell q (renderU us')) rq).isSome =
      (s.upstream hasDefault (respell q (renderU us)) rq).isSome :=
  (respell_alike q hwf h).upstream_isSome s hasDefault rq

/-- **`off`: a request with an encoded slash is never forwarded** (and the default rule, which always runs with `off`,
never forwards anything: it has no backend). -/
theorem c08_upstream_off_never_forwarded (s : Repo) (d : Bool) (q : ReqView) (rq : String)
    (h : containsEncodedSlash q.rawPath = true) (v : RVal) (ps : List (String × String))
    (hf : s.findRule d q = .rule v ps) (hv : v.esh = .off) :
    s.upstream d q rq = none := by
  unfold Repo.upstream
  simp only [hf, hv, execPrelude_off h]

theorem c08_upstream_default_rule_never_forwards (s : Repo) (q : ReqView) (rq : String)
    (hf : s.findRule true q = .default) : s.upstream true q rq = none := by
  unfold Repo.upstream
  simp [hf]

/-- whatever is forwarded was not answered with the precondition error -/
theorem c08_upstream_only_if_accepted (s : Repo) (d : Bool) (q : ReqView) (rq : String) (u : UpUrl)
    (h : s.upstream d q rq = some u) : ∃ caps, (s.serve d q).exec = some (.ok caps) := by
  unfold Repo.upstream at h
  unfold Repo.serve
  cases hf : s.findRule d q with
  | none => simp [hf] at h
  | default => simp [hf] at h
  | rule v ps =>
    simp only [hf] at h ⊢
    cases he : execPrelude v.esh q ps with
    | argument => simp [he] at h
    | ok caps => exact ⟨caps, rfl⟩

/-- **Both request contexts build the same view** of every request line the HTTP server accepts: same raw path, same
decoded path — hence the same rule, captured values, acceptance and upstream URL (`Repo.serve` and `Repo.upstream` are
functions of the view). -/
theorem c08_request_contexts_agree (received : String) (v : String × String) (h : httpViewPath received = some v) :
    envoyViewPath received = v := by
  unfold httpViewPath at h
  unfold envoyViewPath
  cases h1 : pathUnescape received with
  | none => simp [h1] at h
  | some p =>
    cases h2 : pathUnescape (receivedPath received) with
    | none => simp [h1, h2] at h
    | some p' =>
      simp [h1, h2] at h
      simp [h2, h]

/-- non-vacuity: a request line the HTTP server accepts, and one only the Envoy context sees -/
example : pathUnescapeL ['/', '%', '2', '5', '4', '1'] = some ['/', '%', '4', '1'] ∧
    pathUnescapeL ['/', '%', 'z', 'z'] = none := by decide

/-! ## The setting that governs a route is the setting of its rule, whatever was loaded before

`allow_encoded_slashes` reaches the matching code twice: baked into the `path_params` matcher of every route when the
rule factory creates the rule (`RVal.route.esh`), and as `ruleImpl.slashesHandling` (`RVal.esh`).  The statements
below are for **every history** of creations, updates and deletions of rule sets (rejected ones included) in which the
rules are as the factory creates them (`CoherentHistory`: both copies are the setting of the rule) — in particular
for histories in which several rules carry the very same `path_params` definition under different settings, and in
which a rule set comes back with nothing but the setting of a rule changed. -/

/-- **Every entry of the routing tree carries the setting of its own rule**, after any history. -/
theorem c08_index_carries_rule_setting (ops : List RepoOp) (hc : CoherentHistory ops) :
    ∀ n ∈ (Repo.run ops).index, ∀ v ∈ n.values, v.route.esh = v.esh :=
  allVals_run ops hc

/-- for an entry whose matcher carries the setting of its rule, the conditions as implemented are the conditions
judged under the setting of the rule -/
theorem c08_matcher_is_spec_under_rule_setting (q : ReqView) (v : RVal) (hv : v.coherent) (keys caps : List String) :
    repoMatcher q v keys caps = entrySpec q v keys caps := by
  unfold repoMatcher routeMatches entrySpec
  have hv' : v.route.esh = v.esh := hv
  rw [hv']
  congr 1
  exact List.all_congr rfl fun pp => ppOk_eq_ppSpec v.esh q keys caps pp

/-- **The lookup follows the setting of the rule, for every history**: `FindRule` answers as the lookup in which every
`path_params` condition is judged under the setting its rule is currently loaded with — which rule answers a request
with an encoded slash does not depend on what other rules (or earlier versions of the rule) with the same
`path_params` definition were loaded with. -/
theorem c08_lookup_follows_rule_setting (ops : List RepoOp) (hc : CoherentHistory ops) (hasDefault : Bool)
    (q : ReqView) : (Repo.run ops).findRule hasDefault q = (Repo.run ops).findRuleSpec hasDefault q := by
  unfold Repo.findRule Repo.findRuleSpec
  rw [lookup_matcher_congr (repoMatcher q) (entrySpec q) _ _
    (fun n hn v hv keys caps => c08_matcher_is_spec_under_rule_setting q v (allVals_run ops hc n hn v hv) keys caps)]
  cases lookup (entrySpec q) (Repo.run ops).index (lookupPath q) <;> rfl

/-- **`on` / `no_decode`: an encoded slash alone is never a reason for a route not to answer** — the condition holds
exactly when the parameter was captured and the expression accepts the value the pipeline is shown (`%2F` decoded to
`/` under `on`, kept as written under `no_decode`). -/
theorem c08_encoded_slash_alone_never_refuses (esh : SlashHandling) (hne : esh ≠ .off) (q : ReqView)
    (keys caps : List String) (pp : String × TM) :
    ppSpec esh q keys caps pp =
      match lookupKey keys caps pp.1 with
      | none => false
      | some raw => pp.2.matches (exposedValue esh q raw) := by
  unfold ppSpec
  cases lookupKey keys caps pp.1 with
  | none => rfl
  | some raw => cases esh <;> simp at hne ⊢

/-- what a condition is applied to is what `ruleImpl.Execute` puts into the captured values (`execPrelude`), for a
request with a raw path -/
theorem c08_condition_sees_exposed_capture (esh : SlashHandling) (q : ReqView) (raw : String)
    (h : q.rawPath.isEmpty = false) : exposedValue esh q raw = unescapeCapture esh raw := by
  simp [exposedValue, h]

/-- **`off`: a route with `path_params` is not for a request with an encoded slash** (and a route without them answers
with the precondition error, `c08_off_never_accepts`). -/
theorem c08_off_path_params_refuse_encoded_slash (q : ReqView) (keys caps : List String) (pp : String × TM)
    (hraw : q.rawPath.isEmpty = false) (hs : containsEncodedSlash q.rawPath = true) :
    ppSpec .off q keys caps pp = false := by
  unfold ppSpec
  cases lookupKey keys caps pp.1 with
  | none => rfl
  | some raw => simp [hraw, hs]

/-- non-vacuity: a history in which two rules carry the same `path_params` definition (`x`: glob `a*`) under different
settings, and the rule set is then re-loaded with only the setting of the first rule changed -/
def sharedDef : String × TM := ("x", .glob [.lit 'a', .star] '/')
def ruleWith (id : String) (e : String) (esh : SlashHandling) (ver : Nat) : RuleCfg :=
  { id, bt := false, esh, routes := [(e, { scheme := "", methods := [], hosts := [], pps := [sharedDef], esh })], ver }

example : CoherentHistory
    [.add "s1" [ruleWith "A" "/f/:x" .off 1, ruleWith "B" "/g/:x" .on 2],
     .upd "s1" [ruleWith "A" "/f/:x" .on 3, ruleWith "B" "/g/:x" .on 2]] := by
  intro op hop c hcm rt hrt
  simp only [List.mem_cons, List.not_mem_nil, or_false] at hop
  rcases hop with rfl | rfl <;>
    (simp only [RepoOp.rules, List.mem_cons, List.not_mem_nil, or_false] at hcm
     rcases hcm with rfl | rfl <;>
       (simp only [ruleWith, List.mem_cons, List.not_mem_nil, or_false] at hrt
        subst hrt
        rfl))

/-- what an entry whose matcher was compiled for ANOTHER setting than its rule's would do (the entry the
hypothesis `CoherentHistory` excludes): the rule says `on`, its matcher refuses the encoded slash. -/
example :
    let v : RVal := ⟨"B", "s1", .on, { scheme := "", methods := [], hosts := [], pps := [sharedDef], esh := .off }, 2⟩
    let q : ReqView := { method := "GET", scheme := "http", host := "h", rawPath := "/g/a%2Fb", path := "/g/a/b" }
    repoMatcher q v ["x"] ["a%2Fb"] = false ∧ ¬ v.coherent := by
  refine ⟨by decide +kernel, ?_⟩
  show ¬ (SlashHandling.off = SlashHandling.on)
  decide

/-! ## What the proxy writes into the request line of the request it sends upstream

`Repo.sent` is the request target the proxy service (`requestContext.Finalize`, `rewriteRequest`) writes to the
upstream connection: `RequestURI()` of the URL the rule returned, nothing of the URL of the received request.  Its
path part (`targetPath`: everything before the first `?`) is the path of that URL — so every statement about
`upstreamPath` above is a statement about the octets the upstream service receives. -/

/-- The path the rule computes never contains a `?` (`upstreamPath_no_qmark`), **so the path part of the request line
the proxy writes is exactly the path the rule computed** (`/` standing for the empty path), whatever the query is. -/
theorem c08_sent_path_is_upstream_path (esh : SlashHandling) (be : BackendCfg) (q : ReqView) (rq : String) :
    targetPath (requestTarget (upstreamUrl esh be q rq)) =
      if (upstreamPath esh be.rewrite q).isEmpty then ['/'] else upstreamPath esh be.rewrite q := by
  unfold requestTarget
  have hp : (upstreamUrl esh be q rq).path = String.ofList (upstreamPath esh be.rewrite q) := rfl
  rw [hp, ofList_isEmpty]
  split
  · exact targetPath_of_no_qmark ['/'] (by decide) _
  · exact targetPath_of_no_qmark _ (upstreamPath_no_qmark esh be.rewrite q) _

theorem sent_path_eq {esh : SlashHandling} {rw : Option RewriteCfg} {q : ReqView} {p : List Char}
    (h : upstreamPath esh rw q = p) (hne : p ≠ []) (host rq : String) :
    targetPath (requestTarget (upstreamUrl esh ⟨host, rw⟩ q rq)) = p :=
  (c08_sent_path_is_upstream_path esh ⟨host, rw⟩ q rq).trans (by rw [h, List.isEmpty_eq_false_iff.mpr hne]; rfl)

section BehindPrefix
variable {esh : SlashHandling} (hesh : esh ≠ .on) (q : ReqView) (host : String) {r : RewriteCfg} {ps ws as : List PU}
  (rq : String) (hps : ∀ u ∈ ps, u.sendable) (hws : ∀ u ∈ ws, u.sendable) (hne : ws ≠ [])
  (has : ∀ u ∈ as, u.sendable) (hadd : r.add.toList = renderU as) (hstrip : r.strip.toList = renderU ps)
include hesh hps hws hne has hadd hstrip

/-- `off` / `no_decode`, the prefix spelled as configured: what stands behind the prefix arrives as received -/
theorem sent_kept_behind_prefix :
    targetPath (requestTarget (upstreamUrl esh ⟨host, some r⟩ (respell q (renderU (ps ++ ws))) rq)) =
      renderU as ++ renderU ws :=
  sent_path_eq
    (c08_upstream_kept_verbatim esh hesh q r _ as ws (List.forall_mem_append.mpr ⟨hps, hws⟩) (by simp [hne]) has hws hadd
      (c08_upstream_prefix_as_configured r.strip ps ws hstrip))
    (List.append_ne_nil_of_right_ne_nil _ (renderU_ne_nil hne)) host rq

theorem sent_respelled_behind_prefix {ws' : List PU} (hrw : Reenc ws ws') :
    normalizeL (targetPath (requestTarget (upstreamUrl esh ⟨host, some r⟩ (respell q (renderU (ps ++ ws'))) rq))) =
      normalizeL (targetPath (requestTarget (upstreamUrl esh ⟨host, some r⟩ (respell q (renderU (ps ++ ws))) rq))) := by
  rw [sent_kept_behind_prefix hesh q host rq hps hws hne has hadd hstrip,
    sent_kept_behind_prefix hesh q host rq hps (hrw.sendable hws) (hrw.ne_nil hne) has hadd hstrip,
    ← renderU_append, ← renderU_append]
  exact c08_normalize_reenc _ _ (sendable_wf (List.forall_mem_append.mpr ⟨has, hws⟩)) (Reenc.append_left as hrw)

end BehindPrefix

/-- **`on`: an encoded slash of the request arrives at the upstream as the path separator `/`** — the request line
written for `pre ++ %2F|%2f ++ post` has the path `add ++ escape(dec pre) ++ "/" ++ escape(dec post)`. -/
theorem c08_sent_on_slash_decoded (q : ReqView) (host : String) (r : RewriteCfg) (pre post : List PU) (x : Char)
    (ad : List Char) (rq : String)
    (hx : x = 'F' ∨ x = 'f') (hpre : ∀ u ∈ pre, u.wf) (hpost : ∀ u ∈ post, u.wf)
    (hbpre : ∀ u ∈ pre, u.byte) (hbpost : ∀ u ∈ post, u.byte) (hbad : ∀ c ∈ ad, c.toNat < 256)
    (hadd : r.add.toList = escapePathL ad) (hstrip : r.strip = "") :
    targetPath (requestTarget (upstreamUrl .on ⟨host, some r⟩ (respell q (renderU (pre ++ .esc '2' x :: post))) rq)) =
      escapePathL ad ++ escapePathL (pre.map PU.dec) ++ '/' :: escapePathL (post.map PU.dec) :=
  sent_path_eq (c08_upstream_on_slash_decoded q r pre post x ad hx hpre hpost hbpre hbpost hbad hadd hstrip) (by simp) host rq

/-- **`on`: the request line written to the upstream has no encoded slash in its path** (prefixes in their default
encoding, as in `c08_upstream_on_canonical`). -/
theorem c08_sent_on_no_encoded_slash (q : ReqView) (host : String) (r : RewriteCfg) (us : List PU) (ad wd : List Char)
    (rq : String) (hwf : ∀ u ∈ us, u.wf) (hstar : us.map PU.dec ≠ ['*']) (hb : ∀ c ∈ ad ++ wd, c.toNat < 256)
    (hadd : r.add.toList = escapePathL ad)
    (hcut : cutPrefixL r.strip.toList (escapePathL (us.map PU.dec)) = escapePathL wd) :
    containsEncodedSlashL
      (targetPath (requestTarget (upstreamUrl .on ⟨host, some r⟩ (respell q (renderU us)) rq))) = false := by
  rw [c08_sent_path_is_upstream_path]
  simp only [c08_upstream_on_canonical q r us ad wd hwf hstar hb hadd hcut]
  split
  · decide
  · rw [← escapePathL_append]
    exact c08_upstream_on_no_encoded_slash _ hb

/-- **`no_decode`: an encoded slash of the request arrives at the upstream as the client wrote it**, same hex case,
same position. -/
theorem c08_sent_no_decode_slash_stays_encoded (q : ReqView) (host : String) (r : RewriteCfg)
    (ps pre post as : List PU) (x : Char) (rq : String) (hx : x = 'F' ∨ x = 'f')
    (hps : ∀ u ∈ ps, u.sendable) (hpre : ∀ u ∈ pre, u.sendable) (hpost : ∀ u ∈ post, u.sendable)
    (has : ∀ u ∈ as, u.sendable) (hadd : r.add.toList = renderU as) (hstrip : r.strip.toList = renderU ps) :
    targetPath (requestTarget
        (upstreamUrl .noDecode ⟨host, some r⟩ (respell q (renderU (ps ++ (pre ++ .esc '2' x :: post)))) rq)) =
      renderU as ++ renderU pre ++ '%' :: '2' :: x :: renderU post :=
  sent_path_eq (c08_upstream_no_decode_slash_stays_encoded q r ps pre post as x hx hps hpre hpost has hadd hstrip)
    (by simp) host rq

/-- **`on`: the request line written to the upstream does not depend on the spelling of the request.** -/
theorem c08_sent_on_spelling_invariant (s : Repo) (hasDefault : Bool) (q : ReqView) (us us' : List PU) (rq : String)
    (hwf : ∀ u ∈ us, u.wf) (h : Reenc us us') (v : RVal) (ps : List (String × String))
    (hf : s.findRule hasDefault (respell q (renderU us)) = .rule v ps) (hv : v.esh = .on) :
    s.sent hasDefault (respell q (renderU us')) rq = s.sent hasDefault (respell q (renderU us)) rq := by
  unfold Repo.sent
  rw [(respell_alike q hwf h).upstream_on s hasDefault rq hf hv]

/-- **`off`: for a request with an encoded slash nothing is written to any upstream.** -/
theorem c08_off_nothing_sent (s : Repo) (d : Bool) (q : ReqView) (rq : String)
    (h : containsEncodedSlash q.rawPath = true) (v : RVal) (ps : List (String × String))
    (hf : s.findRule d q = .rule v ps) (hv : v.esh = .off) : s.sent d q rq = none := by
  unfold Repo.sent
  rw [c08_upstream_off_never_forwarded s d q rq h v ps hf hv]
  rfl

/-- the default rule never writes anything -/
theorem c08_default_rule_nothing_sent (s : Repo) (q : ReqView) (rq : String) (hf : s.findRule true q = .default) :
    s.sent true q rq = none := by
  unfold Repo.sent
  rw [c08_upstream_default_rule_never_forwards s q rq hf]
  rfl

/-- whatever is written belongs to a request that was not answered with the precondition error, and is the
request target of the URL the matched rule computed. -/
theorem c08_sent_only_what_the_rule_computed (s : Repo) (d : Bool) (q : ReqView) (rq : String) (t : String)
    (h : s.sent d q rq = some t) :
    ∃ u, s.upstream d q rq = some u ∧ t = requestTarget u ∧ ∃ caps, (s.serve d q).exec = some (.ok caps) := by
  unfold Repo.sent at h
  cases hu : s.upstream d q rq with
  | none => simp [hu] at h
  | some u =>
    simp only [hu, Option.bind_some] at h
    split at h
    · exact ⟨u, rfl, (Option.some.inj h).symm, c08_upstream_only_if_accepted s d q rq u hu⟩
    · cases h

/-- non-vacuity: the request lines written for `/files/a/b` with and without a query, and for the empty path -/
example : requestTarget ⟨"http", "up:8080", "/files/a/b", ""⟩ = "/files/a/b" ∧
    requestTarget ⟨"http", "up:8080", "/files/a/b", "x=1"⟩ = "/files/a/b?x=1" ∧
    requestTarget ⟨"https", "up", "", ""⟩ = "/" ∧
    targetPath "/files/a%2Fb?x=%2F" = "/files/a%2Fb".toList ∧ transportSpeaks "ws" = false := by
  simp only [targetPath, Ascii.toList_lit _ _ rfl]; decide +kernel

/-! ## Dot segments

`.` is unreserved, so `/files/./a`, `/files/%2E/a`, `/files/%2e/a` are spellings of one request, and `..`, `%2E%2E`,
`.%2E`, `%2e.` are spellings of one segment (`DotSpelling`).  Next to an encoded slash the decoded path even has segment
borders the received one has not (`docs%2F..`).  Nothing between the request line and the upstream connection resolves,
drops or re-spells such a segment: what is written upstream decodes to what was received, octet by octet; under
`off` / `no_decode` it is the received spelling itself (so the encoded slashes around a dot segment stay encoded), under
`on` the dots arrive as dots between the same neighbours. -/

/-- **What is sent decodes to what was received**, for every setting (no `rewrite`): the decoded path of the request
line written upstream is the decoded path of the request, all of it — no segment, dot segment or other, is resolved,
dropped or added. -/
theorem c08_sent_decodes_to_received (esh : SlashHandling) (q : ReqView) (host : String) (us : List PU) (rq : String)
    (hus : ∀ u ∈ us, u.sendable) (hb : ∀ u ∈ us, u.byte) (hne : us ≠ []) (hstar : us.map PU.dec ≠ ['*']) :
    pathUnescapeL (targetPath (requestTarget (upstreamUrl esh ⟨host, none⟩ (respell q (renderU us)) rq))) =
      some (us.map PU.dec) := by
  by_cases hesh : esh = .on
  · subst hesh
    rw [sent_path_eq (c08_upstream_on_canonical_no_rewrite q us (sendable_wf hus) hstar)
      (escapePathL_ne_nil (mt List.map_eq_nil_iff.mp hne))]
    exact pathUnescapeL_escapePathL _ (decs_byte us hb)
  · rw [sent_path_eq (c08_upstream_kept_verbatim_no_rewrite esh hesh q us hus)
      (renderU_ne_nil hne)]
    exact pathUnescapeL_render us (sendable_wf hus)

/-- **`off` / `no_decode`: a dot segment is sent as the client spelled it**, between the neighbours the client gave
it: for a request `prefix ++ pre ++ seg ++ post` with `seg` any spelling of `.` / `..` the path of the request line
written upstream is `add ++ pre ++ seg ++ post` — whatever stands in `pre` and `post`, encoded slashes included
(`docs%2F..`, `%2e%2e/a%2Fb`). -/
theorem c08_sent_dot_segment_as_received (esh : SlashHandling) (hesh : esh ≠ .on) (q : ReqView) (host : String)
    (r : RewriteCfg) (ps pre seg post as : List PU) (rq : String) (hseg : DotSpelling seg)
    (hps : ∀ u ∈ ps, u.sendable) (hpre : ∀ u ∈ pre, u.sendable) (hpost : ∀ u ∈ post, u.sendable)
    (has : ∀ u ∈ as, u.sendable) (hadd : r.add.toList = renderU as) (hstrip : r.strip.toList = renderU ps) :
    targetPath (requestTarget (upstreamUrl esh ⟨host, some r⟩ (respell q (renderU (ps ++ (pre ++ seg ++ post)))) rq)) =
      renderU as ++ renderU pre ++ renderU seg ++ renderU post := by
  have hws : ∀ u ∈ pre ++ seg ++ post, u.sendable :=
    List.forall_mem_append.mpr ⟨List.forall_mem_append.mpr ⟨hpre, hseg.sendable⟩, hpost⟩
  have hne : pre ++ seg ++ post ≠ [] := by simp [hseg.ne_nil]
  rw [sent_kept_behind_prefix hesh q host rq hps hws hne has hadd hstrip]
  simp only [renderU_append, List.append_assoc]

/-- **`on`: a dot segment arrives as dots, unresolved**, between the same (decoded, default-encoded) neighbours, in
whatever way the client spelled it (no prefix cut; `add_path_prefix` in its default encoding). -/
theorem c08_sent_dot_segment_on (q : ReqView) (host : String) (r : RewriteCfg) (pre seg post : List PU) (ad : List Char)
    (rq : String) (hseg : DotSpelling seg) (hpre : ∀ u ∈ pre, u.wf) (hpost : ∀ u ∈ post, u.wf)
    (hbpre : ∀ u ∈ pre, u.byte) (hbpost : ∀ u ∈ post, u.byte) (hbad : ∀ c ∈ ad, c.toNat < 256)
    (hadd : r.add.toList = escapePathL ad) (hstrip : r.strip = "") :
    targetPath (requestTarget (upstreamUrl .on ⟨host, some r⟩ (respell q (renderU (pre ++ seg ++ post))) rq)) =
      escapePathL ad ++ escapePathL (pre.map PU.dec) ++ seg.map PU.dec ++ escapePathL (post.map PU.dec) ∧
    (seg.map PU.dec = ['.'] ∨ seg.map PU.dec = ['.', '.']) := by
  refine ⟨?_, hseg.dec⟩
  have hwf : ∀ u ∈ pre ++ seg ++ post, u.wf :=
    List.forall_mem_append.mpr ⟨List.forall_mem_append.mpr ⟨hpre, sendable_wf hseg.sendable⟩, hpost⟩
  have hb : ∀ u ∈ pre ++ seg ++ post, u.byte :=
    List.forall_mem_append.mpr ⟨List.forall_mem_append.mpr ⟨hbpre, hseg.byte⟩, hbpost⟩
  have hdot : '.' ∈ (pre ++ seg ++ post).map PU.dec := by
    rcases hseg.dec with e | e <;> simp [e]
  rw [sent_path_eq (upstream_on_no_strip q r _ ad hwf hb (ne_star_of_mem hdot (by decide)) hbad hadd hstrip)
      (List.append_ne_nil_of_right_ne_nil _ (escapePathL_ne_nil (List.ne_nil_of_mem hdot)))]
  simp only [List.map_append, escapePathL_append, hseg.escape_dec, List.append_assoc]

/-- **All spellings of a dot segment are forwarded alike** (`off` / `no_decode`): the paths written upstream for
`… seg …` and `… seg' …`, two spellings of the same dot segment, are equal once the escapes of unreserved octets are
undone — in particular they have the same encoded slashes at the same places. -/
theorem c08_sent_dot_spellings_alike (esh : SlashHandling) (hesh : esh ≠ .on) (q : ReqView) (host : String)
    (r : RewriteCfg) (ps pre seg seg' post as : List PU) (dots : List PU) (rq : String)
    (hd : dots = [.lit '.'] ∨ dots = [.lit '.', .lit '.']) (h1 : Reenc dots seg) (h2 : Reenc dots seg')
    (hps : ∀ u ∈ ps, u.sendable) (hpre : ∀ u ∈ pre, u.sendable) (hpost : ∀ u ∈ post, u.sendable)
    (has : ∀ u ∈ as, u.sendable) (hadd : r.add.toList = renderU as) (hstrip : r.strip.toList = renderU ps) :
    normalizeL (targetPath (requestTarget
        (upstreamUrl esh ⟨host, some r⟩ (respell q (renderU (ps ++ (pre ++ seg ++ post)))) rq))) =
      normalizeL (targetPath (requestTarget
        (upstreamUrl esh ⟨host, some r⟩ (respell q (renderU (ps ++ (pre ++ seg' ++ post)))) rq))) := by
  have hws : ∀ u ∈ pre ++ dots ++ post, u.sendable :=
    List.forall_mem_append.mpr ⟨List.forall_mem_append.mpr ⟨hpre, forall_mem_dots dot_sendable hd⟩, hpost⟩
  have hne : pre ++ dots ++ post ≠ [] := by rcases hd with rfl | rfl <;> simp
  exact (sent_respelled_behind_prefix hesh q host rq hps hws hne has hadd hstrip
      ((Reenc.append_left pre h1).append_right post)).trans
    (sent_respelled_behind_prefix hesh q host rq hps hws hne has hadd hstrip
      ((Reenc.append_left pre h2).append_right post)).symm

/-- non-vacuity: `%2E`, `%2e%2E`, `.%2e` are dot segments; `/d%2F..` decodes to `/d/..`: the decoded form has a dot
segment the received one has not -/
example : DotSpelling [.esc '2' 'E'] ∧ DotSpelling [.esc '2' 'e', .esc '2' 'E'] ∧ DotSpelling [.lit '.', .esc '2' 'e'] :=
  ⟨.inl (.enc '.' '2' 'E' (by decide) (by decide) (by decide) (by decide) .nil),
   .inr (.enc '.' '2' 'e' (by decide) (by decide) (by decide) (by decide)
     (.enc '.' '2' 'E' (by decide) (by decide) (by decide) (by decide) .nil)),
   .inr (.keep _ (.enc '.' '2' 'e' (by decide) (by decide) (by decide) (by decide) .nil))⟩

example : renderU [PU.lit '/', .lit 'd', .esc '2' 'F', .lit '.', .lit '.'] = "/d%2F..".toList ∧
    [PU.lit '/', .lit 'd', .esc '2' 'F', .lit '.', .lit '.'].map PU.dec = "/d/..".toList := by
  simp only [Ascii.toList_lit _ _ rfl]; decide +kernel

end Heimdall.Props.C08
