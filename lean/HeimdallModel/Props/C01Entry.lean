import HeimdallModel.Gen.EntrySrc
/-!
# C01 — the entry-point kernels *as they stand in the source*: no positive answer without a completed rule execution

`Gen/EntrySrc.lean` is regenerated on every run by the Go → Lean translator `extract/go2lean` (`cmd/entry`) from the whole
bodies of `(*ruleExecutor).Execute`, `(*handler).ServeHTTP` (decision and proxy services) and `(*Handler).Check` (Envoy
ext_authz). What the repository, the rule, the request context and the error handler do is a parameter; here each of
them logs its being called into the context (`Ev`), so the theorems say **which calls happen, in which order, for every
behaviour of the parts**:

* no rule found ⇒ the error is returned and no rule is executed;
* the request context is finalised (the accepted status is written / the request is forwarded / the OK check response
  is built) **only if** executing the rule returned no error - whatever the execution returned besides;
* every error (of the execution or of the finalisation) reaches the error handler exactly once, and nothing is written
  twice;
* a panic of the execution leaves the handler as a panic: nothing is finalised, no error response is invented.
These are the edges the model `Heimdall.Pipeline.serve` of `Model/EntryPoints.lean` (over which `Props/C01.lean` proves
"positive answer only after the whole effective pipeline succeeded") takes between its stages.
-/
namespace Heimdall.Props.C01
open Heimdall

namespace Entry

/-- what the parts of an entry point do, as far as the order of the calls goes -/
inductive Ev (Err : Type) where
  | found | executed | finalized | handled (e : Err)
deriving DecidableEq, Repr

variable {Err Rule Backend RC Resp : Type}

/-- a part that logs `ev` and returns `v` -/
def logs {α : Type} (ev : Ev Err) (v : α) : Go.M (List (Ev Err)) Unit α := fun l => .done v (l ++ [ev])

/-- the translated `ServeHTTP` with parts that log: `execResult` is what `Execute` returns, `finErr` what `Finalize`
returns -/
def serveSrc (rc : RC) (execResult : Option Backend × Option Err) (finErr : Option Err) :
    Go.M (List (Ev Err)) Unit Unit :=
  Entry.Src.HttpHandler.ServeHTTP (Go.pure rc) (fun _ => logs .executed execResult) (fun _ _ => logs .finalized finErr)
    (fun e => match e with | some e => logs (.handled e) () | none => Go.pure ()) ()

/-- the translated `Check` with parts that log -/
def checkSrc (rc : RC) (execResult : Option Backend × Option Err) (fin : Option Resp × Option Err) :
    Go.M (List (Ev Err)) Unit (Option Resp × Option Err) :=
  Entry.Src.EnvoyHandler.Check rc (fun _ => logs .executed execResult) (fun _ => logs .finalized fin) ()

end Entry

open Entry

/-- **The tie holds for this run:** `Gen/EntrySrc.lean` is the result of translating the current source. -/
theorem c01_entry_translated : Entry.Src.translationOk = true := by decide

variable {Err Rule Backend RC Resp : Type}

/-- **No rule, no execution**: when `FindRule` reports an error, `ruleExecutor.Execute` returns it and executes
nothing; otherwise it returns exactly what the rule's `Execute` returns. -/
theorem c01_entry_no_rule_no_execution (r : Rule) (findErr : Option Err)
    (executeRule : Rule → Go.M (List (Ev Err)) Unit (Option Backend × Option Err)) (l : List (Ev Err)) :
    Entry.Src.Executor.Execute (logs .found (r, findErr)) executeRule () l =
      match findErr with
      | some e => .done (none, some e) (l ++ [.found])
      | none => executeRule r (l ++ [.found]) := by
  cases findErr <;> rfl

/-- **What `ServeHTTP` does, for every outcome of its parts**: after a failed execution only the error handler runs;
after a successful one the context is finalised and the error handler runs iff finalising failed. -/
theorem c01_entry_serve_http (rc : RC) (b : Option Backend) (e fe : Option Err) :
    serveSrc rc (b, e) fe [] =
      .done () (match e, fe with
        | some e, _ => [.executed, .handled e]
        | none, some fe => [.executed, .finalized, .handled fe]
        | none, none => [.executed, .finalized]) := by
  cases e <;> cases fe <;> rfl

/-- **Finalised only after a successful execution** (decision: the accepted status; proxy: forwarding), whatever the
execution returned as backend. -/
theorem c01_entry_finalized_only_after_success (rc : RC) (b : Option Backend) (e fe : Option Err) (l : List (Ev Err))
    (h : serveSrc rc (b, e) fe [] = .done () l) (hf : Ev.finalized ∈ l) : e = none := by
  rw [c01_entry_serve_http] at h
  cases e with
  | none => rfl
  | some e0 =>
    cases (Go.Res.done.inj h).2
    simp at hf

/-- **Every error is answered by the error handler exactly once.** -/
theorem c01_entry_error_handled_once (rc : RC) (b : Option Backend) (e fe : Option Err) (l : List (Ev Err))
    (h : serveSrc rc (b, e) fe [] = .done () l) :
    (l.filter fun ev => match ev with | .handled _ => true | _ => false).length
      = if e.isSome || fe.isSome then 1 else 0 := by
  rw [c01_entry_serve_http] at h
  cases (Go.Res.done.inj h).2
  cases e <;> cases fe <;> rfl

/-- **A panic of the execution is not turned into an answer**: `ServeHTTP` panics, nothing is finalised and the error
handler is not asked (the recovery middleware around it answers). -/
theorem c01_entry_panic_propagates (rc : RC) (finalize : RC → Option Backend → Go.M (List (Ev Err)) Unit (Option Err))
    (handle : Option Err → Go.M (List (Ev Err)) Unit Unit) (l : List (Ev Err)) :
    Entry.Src.HttpHandler.ServeHTTP (Go.pure rc) (fun _ => Go.panic ()) finalize handle () l = .panic () l :=
  rfl

/-- **Envoy: `Check` builds a response only after a successful execution**; a failed execution is returned as the
error (for the gRPC error interceptor), the request context is not finalised. -/
theorem c01_entry_check (rc : RC) (b : Option Backend) (e : Option Err) (fin : Option Resp × Option Err) :
    checkSrc rc (b, e) fin [] =
      match e with
      | some e => .done (none, some e) [.executed]
      | none => .done fin [.executed, .finalized] := by
  cases e <;> rfl

/-- a failed execution with a backend value all the same (a rule returning `(upstream, err)`) is not finalised
(evaluated on the translated function) -/
example : serveSrc (Err := Nat) (Backend := Nat) () (some 7, some 1) none [] = .done () [.executed, .handled 1] := by
  decide +kernel

end Heimdall.Props.C01
