import HeimdallModel.Lemmas.Pipeline
import HeimdallModel.Lemmas.HttpChain
/-!
# C01 — a request is allowed only after its whole effective pipeline succeeded

Theorems about the model of rule execution (`Model/Pipeline.lean`) and of the three entry points
(`Model/EntryPoints.lean`), tied to `/repo` by the correspondence check of family `pipeline` (real rule factory,
CEL conditions, error handlers, repository, executor, decision / proxy / Envoy services; only the mechanisms replay
scripted outcomes).

Every statement quantifies over all rules (any number and mix of authenticators, authorizers, contextualizers,
finalizers, any conditions and flags), all outcome vectors (subjects, error values, panics), all error pipelines,
all status overrides, all three entry points.  `found` is the result of the rule lookup: the matching rule, the
default rule, or nothing.  `Completed r` (`Spec/Pipeline.lean`) is the condition of the property.

Side conditions are explicit Booleans: `cfg.errorCodesNonSuccess` (the operator did not override an error class
with a 2xx status; the schema allows any integer) and `redirectsNonSuccess found` (no redirect error handler with a
2xx code; the schema allows 301/302 only).  They are only needed where an HTTP *status* is judged; nothing is ever
forwarded and no OK check response is ever sent for a failed pipeline, whatever the configuration.
-/
namespace Heimdall.Props.C01
open Heimdall.Pipeline
open Heimdall.Pipeline.Witness (failing completing cfg cfgAuthzOk redirect200 panicking dfltDoc inheritingDoc)

/-- **Nothing reaches the upstream unless the pipeline completed** (no side condition): a request is forwarded
only by the proxy, only if a rule or the default rule applied, its whole effective pipeline completed, and that
rule names an upstream. -/
theorem c01_forwarded_only_if_completed (ep : EntryPoint) (cfg : Cfg) (view : ReqView) (up : Nat) (found : Option Rule)
    (h : (answer ep cfg view up found).forwarded = true) :
    ep = .proxy ∧ ∃ r, found = some r ∧ Completed r ∧ r.hasBackend = true := by
  rcases answer_dichotomy ep cfg view up found with ⟨r, rfl, hc, ha⟩ | ⟨_, href⟩
  · obtain ⟨hep, hb⟩ := acceptAnswer_forwarded (ha ▸ h)
    exact ⟨hep, r, rfl, hc, hb⟩
  · rw [href.not_forwarded] at h; cases h

/-- the hypothesis is satisfiable: the proxy forwards the request of a completed pipeline (upstream says 204) -/
example : (answer .proxy cfg {} 204 (some completing)).forwarded = true := by decide +kernel

/-- **Envoy gets an OK check response only for a completed pipeline** (no side condition: the gRPC translator
cannot produce `OK`, whatever status overrides are configured, and a panic fails the RPC). -/
theorem c01_envoy_ok_only_if_completed (cfg : Cfg) (view : ReqView) (up : Nat) (found : Option Rule)
    (h : (answer .envoy cfg view up found).success = true) : ∃ r, found = some r ∧ Completed r := by
  rcases answer_dichotomy .envoy cfg view up found with ⟨r, hr, hc, _⟩ | ⟨_, href⟩
  · exact ⟨r, hr, hc⟩
  · rw [href.envoy_not_success] at h; cases h

example : (answer .envoy cfgAuthzOk {} 200 (some completing)).success = true := by decide +kernel
/-- even with `authorization_error.code: 200` Envoy is told to deny -/
example : answer .envoy cfgAuthzOk {} 200 (some failing) = .checkDenied 9 303 := by decide +kernel

/-- **Soundness, all entry points.** A positive answer — a 2xx status of the decision or proxy service, an OK
check response, forwarding to the upstream — is given only if a rule or the default rule applied and its whole
effective pipeline completed. -/
theorem c01_sound (ep : EntryPoint) (cfg : Cfg) (view : ReqView) (up : Nat) (found : Option Rule)
    (hcfg : cfg.errorCodesNonSuccess = true) (hred : redirectsNonSuccess found = true)
    (h : (answer ep cfg view up found).positive = true) : ∃ r, found = some r ∧ Completed r := by
  rcases answer_dichotomy ep cfg view up found with ⟨r, hr, hc, _⟩ | ⟨_, href⟩
  · exact ⟨r, hr, hc⟩
  · rw [href.not_positive hcfg hred] at h; cases h

/-- the side conditions hold for a non-trivial configuration and rule, with a positive answer … -/
example : cfg.errorCodesNonSuccess = true ∧ redirectsNonSuccess (some completing) = true ∧
    (answer .decision cfg {} 200 (some completing)).positive = true := by decide +kernel
/-- … and they cannot be dropped: with `authorization_error.code: 200`, or with a redirect handler configured
with code 200, the decision service answers 200 for a pipeline that did not complete -/
example : cfgAuthzOk.errorCodesNonSuccess = false ∧ ¬ Completed { failing with errorHandlers := [] } ∧
    answer .decision cfgAuthzOk {} 200 (some { failing with errorHandlers := [] }) = .http 200 false :=
  ⟨by decide +kernel, not_completed (by decide +kernel), by decide +kernel⟩
example : redirectsNonSuccess (some redirect200) = false ∧ ¬ Completed redirect200 ∧
    answer .decision {} {} 200 (some redirect200) = .http 200 false :=
  ⟨by decide +kernel, not_completed (by decide +kernel), by decide +kernel⟩

/-- **In every other case the caller is refused**: no applicable rule, or a pipeline that did not complete
(mechanism error, condition that cannot be evaluated, failing or non-applicable error handler, panic) — the
response is not a success response and nothing reaches the upstream. -/
theorem c01_failure_refused (ep : EntryPoint) (cfg : Cfg) (view : ReqView) (up : Nat) (found : Option Rule)
    (hcfg : cfg.errorCodesNonSuccess = true) (hred : redirectsNonSuccess found = true)
    (hfail : ∀ r, found = some r → ¬ Completed r) :
    (answer ep cfg view up found).success = false ∧ (answer ep cfg view up found).forwarded = false := by
  rcases answer_dichotomy ep cfg view up found with ⟨r, hr, hc, _⟩ | ⟨_, href⟩
  · exact absurd hc (hfail r hr)
  · exact Bool.or_eq_false_iff.mp (href.not_positive hcfg hred)

/-- the hypotheses are satisfiable: no rule at all, a failing authorizer, a panic in a continue-on-error step -/
example : (∀ r, (none : Option Rule) = some r → ¬ Completed r) := fun _ h => nomatch h
example : ¬ Completed failing ∧ ¬ Completed panicking :=
  ⟨not_completed (by decide +kernel), not_completed (by decide +kernel)⟩
example : answer .proxy cfg {} 200 (some failing) = .http 303 false ∧
    answer .decision cfg {} 200 (some panicking) = .http 503 false ∧
    answer .envoy cfg {} 200 (some panicking) = .rpcError 13 ∧
    answer .decision cfg {} 200 none = .http 404 false := by decide +kernel

/-- **Every error handler records a pipeline error before reporting success**: if the error pipeline returns
`nil`, the request context carries a pipeline error — for every list of handlers, conditions, handler kinds and
causes. -/
theorem c01_error_pipeline_records (ehs : List ErrorHandler) (cause : Err) (c c' : Ctx)
    (h : runErrorHandlers ehs cause c = (none, c')) : c'.pipelineErr ≠ none := by
  rcases runErrorHandlers_cases ehs cause c with ⟨x, hx, _⟩ | ⟨pe, hpe, _⟩
  · rw [hx] at h; cases h
  · rw [hpe] at h; cases h; exact nofun

/-- the hypothesis is satisfiable: the first handler is not applicable, the second one handles the error -/
example : runErrorHandlers failing.errorHandlers (.ofKind .authorization) {} =
    (none, { pipelineErr := some ⟨[], some 303⟩ }) := by decide +kernel

/-- **Whatever an error handler renders, it records a pipeline error or fails.**  The `to` template of a redirect
handler may depend on what the client sent (a header, a query parameter, the URL) and so render to a URL, to the empty
string, to blanks, to several lines, or not at all.  For every handler kind, rendering outcome, cause and context: the
handler reports success *and* has recorded a pipeline error, or it is a redirect handler whose template failed — then it
returns an internal error and leaves the context alone.  There is no third case ("nothing to redirect to, so
nothing to do"). -/
theorem c01_handler_records_or_fails (k : EHKind) (cause : Err) (c : Ctx) :
    (∃ pe, k.run cause c = (none, c.setPipelineError pe)) ∨
    ((∃ code, k = .redirect .fails code) ∧ k.run cause c = (some (.ofKind .internal), c)) := by
  cases k with
  | default => exact Or.inl ⟨cause, rfl⟩
  | wwwAuthenticate => exact Or.inl ⟨.ofKind .authentication, rfl⟩
  | redirect to code =>
    cases to with
    | value s => exact Or.inl ⟨⟨[], some (redirectCode code)⟩, rfl⟩
    | fails => exact Or.inr ⟨⟨code, rfl⟩, rfl⟩

/-- the rendered value is not looked at: an empty, a blank, a multi-line `to` all record the redirect … -/
example : ∀ s ∈ ["", "  ", "\n  \n", "https://a.test/x\nX-Injected: 1", ":%zz"],
    (EHKind.redirect (.value s) 0).run (.ofKind .authentication) {} = (none, { pipelineErr := some ⟨[], some 302⟩ }) := by
  decide +kernel
/-- … and the caller of a failed pipeline is redirected (to nowhere) or, when the template fails, gets an internal
error: never the accepted status, never an OK check response, nothing forwarded -/
example : answer .decision cfg {} 200 (some { failing with errorHandlers := [⟨.always, .redirect (.value "") 0⟩] }) =
      .http 302 false ∧
    answer .envoy cfg {} 200 (some { failing with errorHandlers := [⟨.always, .redirect (.value "  ") 0⟩] }) =
      .checkDenied 9 302 ∧
    answer .proxy cfg {} 200 (some { failing with errorHandlers := [⟨.always, .redirect (.value "\n") 307⟩] }) =
      .http 307 false ∧
    answer .decision cfg {} 200 (some { failing with errorHandlers := [⟨.always, .redirect .fails 0⟩] }) =
      .http 503 false ∧
    answer .envoy cfg {} 200 (some { failing with errorHandlers := [⟨.always, .redirect .fails 0⟩] }) =
      .checkDenied 13 503 := by decide +kernel

/-- **The answer does not depend on what a redirect handler rendered**, only on whether rendering succeeded: replace
the value rendered by any redirect handler of the rule's error pipeline by any other string (present ↔ empty ↔ blank ↔
multi-line) — reply and executed mechanisms are the same at every entry point, for every rule and outcome vector. -/
theorem c01_answer_independent_of_rendered_value (ep : EntryPoint) (cfg : Cfg) (view : ReqView) (up : Nat) (r : Rule)
    (pre post : List ErrorHandler) (cond : Cond) (code : Nat) (s s' : String) :
    serve ep cfg view up (some { r with errorHandlers := pre ++ ⟨cond, .redirect (.value s) code⟩ :: post }) =
    serve ep cfg view up (some { r with errorHandlers := pre ++ ⟨cond, .redirect (.value s') code⟩ :: post }) := by
  have h := execute_congr_errorHandlers r _ _ (runErrorHandlers_rendered pre post cond code s s')
  cases ep <;> simp only [serve, serveHTTP, serveEnvoy, execute, h]

/-- **Finalisation is vetoed by a recorded pipeline error**, in all three request contexts: whatever backend the
rule returned, the answer is the translation of the recorded error, nothing is forwarded, no OK response. -/
theorem c01_finalize_vetoed (cfg : Cfg) (view : ReqView) (up : Nat) (backend : Bool) (c : Ctx) (e : Err)
    (h : c.pipelineErr = some e) :
    (finalizeHTTP false cfg view up backend c).resp = errorAnswer .decision cfg e ∧
    (finalizeHTTP true cfg view up backend c).resp = errorAnswer .proxy cfg e ∧
    (finalizeEnvoy cfg c).resp = errorAnswer .envoy cfg e := by
  simp only [finalizeHTTP, finalizeEnvoy, h, errorAnswer, Cfg.writeError, Cfg.denyReply, and_self]

example : ({ pipelineErr := some (.ofKind .authorization) } : Ctx).pipelineErr = some (.ofKind .authorization) := rfl

/-- **No error handler can turn a failed pipeline into a positive answer**: replace the error pipeline of a rule
whose pipeline did not complete by *any* list of error handlers — the answer stays negative at every entry point. -/
theorem c01_handler_cannot_rescue (ep : EntryPoint) (cfg : Cfg) (view : ReqView) (up : Nat) (r : Rule)
    (ehs : List ErrorHandler) (hcfg : cfg.errorCodesNonSuccess = true)
    (hred : ehs.all (·.redirectNonSuccess) = true) (hfail : ¬ Completed r) :
    (answer ep cfg view up (some { r with errorHandlers := ehs })).positive = false := by
  rcases answer_dichotomy ep cfg view up (some { r with errorHandlers := ehs }) with ⟨r', hr', hc, _⟩ | ⟨_, href⟩
  · cases hr'; exact absurd hc hfail
  · exact href.not_positive hcfg hred

example : cfg.errorCodesNonSuccess = true ∧
    ([⟨.always, .default⟩, ⟨.lit true, .redirect (.value "") 0⟩] : List ErrorHandler).all (·.redirectNonSuccess) = true ∧
    ¬ Completed failing :=
  ⟨by decide +kernel, by decide +kernel, not_completed (by decide +kernel)⟩

/-- **Completeness** (the model does not refuse everything): a completed pipeline gets exactly the positive
answer of its entry point — the accepted status, the OK check response, the upstream's answer. -/
theorem c01_complete (ep : EntryPoint) (cfg : Cfg) (view : ReqView) (up : Nat) (r : Rule) (h : Completed r) :
    answer ep cfg view up (some r) =
      match ep with
      | .decision => .http cfg.acceptedCode false
      | .proxy => if r.hasBackend then .http up true else .http (override cfg.internal 500) false
      | .envoy => .checkOk := by
  rcases answer_dichotomy ep cfg view up (some r) with ⟨r', hr', _, ha⟩ | ⟨hn, _⟩
  · cases hr'; rw [ha]; cases ep <;> rfl
  · exact absurd h (hn r rfl)

example : Completed completing := (completedB_iff _).mp (by decide +kernel)

/-- **Characterisation.** With a 2xx accepted status: the answer is positive *iff* a rule or the default rule
applied, its pipeline completed and (proxy) it names an upstream. -/
theorem c01_positive_iff (ep : EntryPoint) (cfg : Cfg) (view : ReqView) (up : Nat) (found : Option Rule)
    (hcfg : cfg.errorCodesNonSuccess = true) (hred : redirectsNonSuccess found = true)
    (hacc : isSuccessStatus cfg.acceptedCode = true) :
    (answer ep cfg view up found).positive = true ↔
      ∃ r, found = some r ∧ Completed r ∧ (ep = .proxy → r.hasBackend = true) := by
  rcases answer_dichotomy ep cfg view up found with ⟨r, rfl, hc, ha⟩ | ⟨hn, href⟩
  · rw [ha, acceptAnswer_positive ep cfg up r.hasBackend hcfg hacc]
    constructor
    · intro h; exact ⟨r, rfl, hc, fun hp => by simpa [hp] using h⟩
    · rintro ⟨r', hr', _, hb⟩; cases hr'; cases ep <;> first | rfl | simp [hb]
  · rw [href.not_positive hcfg hred]
    constructor
    · intro h; cases h
    · rintro ⟨r, hr, hc, _⟩; exact absurd hc (hn r hr)

example : cfg.errorCodesNonSuccess = true ∧ redirectsNonSuccess (some failing) = true ∧
    isSuccessStatus cfg.acceptedCode = true := by decide +kernel

/-- **Verbosity and content negotiation never change the verdict.** `respond.verbose` and the client's `Accept`
header (acceptable, unacceptable or malformed) influence only whether an error body is sent: status, forwarding,
check response — hence success and the positive/negative verdict — are the same for every value of both, at every
entry point, for every rule and outcome vector. -/
theorem c01_verdict_independent_of_verbosity (ep : EntryPoint) (cfg : Cfg) (verbose : Bool)
    (view view' : ReqView) (up : Nat) (found : Option Rule) :
    answer ep { cfg with verbose := verbose } view' up found = answer ep cfg view up found ∧
    (answer ep { cfg with verbose := verbose } view' up found).positive = (answer ep cfg view up found).positive ∧
    (answer ep { cfg with verbose := verbose } view' up found).forwarded = (answer ep cfg view up found).forwarded := by
  rw [answer_congr cfg { cfg with verbose := verbose } (httpStatus_congr rfl rfl rfl rfl rfl rfl) rfl ep view view'
    up found]
  exact ⟨rfl, rfl, rfl⟩

/-- the statement is not empty: verbosity and negotiation do change the reply (the body), only not the answer -/
example : errorBody .decision { cfg with verbose := true } { negotiable := true } 200 (some panicking) = true ∧
    errorBody .decision { cfg with verbose := true } { negotiable := false } 200 (some panicking) = false ∧
    errorBody .decision cfg { negotiable := true } 200 (some panicking) = false ∧
    answer .decision { cfg with verbose := true } { negotiable := false } 200 (some panicking) = .http 503 false := by
  decide +kernel

/-- **The log level never changes anything the caller sees.** The request-scoped logger (level `log.level`, put into
the request context by the logger middleware / interceptor) is consulted by the pipeline code — at trace level
`conditionalSubjectHandler.Execute` dumps the subject around the evaluation of the `if` condition — but only to write
log lines: answer, error body and the mechanisms executed are the same at every level, for every entry point, rule and
outcome vector; in particular a condition that cannot be evaluated fails the step at trace level as at any other. -/
theorem c01_verdict_independent_of_log_level (ep : EntryPoint) (cfg : Cfg) (level : LogLevel) (view : ReqView)
    (up : Nat) (found : Option Rule) :
    serve ep { cfg with logLevel := level } view up found = serve ep cfg view up found ∧
    answer ep { cfg with logLevel := level } view up found = answer ep cfg view up found ∧
    (answer ep { cfg with logLevel := level } view up found).positive = (answer ep cfg view up found).positive := by
  have h : serve ep { cfg with logLevel := level } view up found = serve ep cfg view up found :=
    serve_congr cfg { cfg with logLevel := level } (httpStatus_congr rfl rfl rfl rfl rfl rfl) rfl rfl rfl ep up found
  simp only [answer, h, and_self]

/-- a witness the tie replays at every level: a non-evaluable condition on a step that is not continue-on-error -/
example : answer .decision { cfg with logLevel := .trace } {} 200
    (some { completing with finalizers := [⟨"hdr", .broken, .ok, false⟩] }) = .http 503 false := by decide +kernel

/-! ## The response writer: headers set in front of the handler, the implicit `200 OK`, the CORS middleware

`serve` above is the service handler.  In the proxy service the CORS middleware (`serve.proxy.cors`) runs in front of
it — and in front of nothing else that matters here: it sits *behind* the recovery middleware — and puts `Vary: Origin`
(and `Access-Control-*` for an allowed origin) into the response before the rule is looked up.  `Model/HttpChain.lean`
threads the `http.ResponseWriter` through that chain; a chain that returns without `WriteHeader` is answered by
net/http with `200 OK`.  `serveChain` is what the correspondence check compares with the real services. -/

/-- **Every error is written, whatever is already in the header map.**  On a response writer on which nothing has been
sent yet (no status line, no body, nothing relayed) — with *any* headers already set by whoever ran before — the error
translator (`HandleError`, called by the service handler and by the recovery middleware) writes the status of the
error's class: the reply is exactly `writeError`'s.  There is no state of the header map in which it "leaves the
response alone" and net/http's implicit `200` goes out. -/
theorem c01_error_written_whatever_headers_set (cfg : Cfg) (view : ReqView) (e : Err) (rw : RW)
    (h : rw.fresh = true) :
    (cfg.handleError view e rw).status = some (cfg.httpStatus (classify e)) ∧
    (cfg.handleError view e rw).reply = cfg.writeError view e :=
  handleError_fresh cfg view e rw h

/-- the hypothesis is satisfiable by a writer whose header map is not empty (what the CORS middleware leaves behind);
the error is written on it … -/
example : (({} : RW).set ["Vary", "Access-Control-Allow-Origin"]).fresh = true ∧
    ((cfg.handleError {} (.ofKind .authentication) (({} : RW).set ["Vary", "Access-Control-Allow-Origin"])).reply).resp =
      .http 418 false := by decide +kernel
/-- … and the statement is not empty: had the translator returned without writing, the caller would have got a
positive answer -/
example : ((({} : RW).set ["Vary"]).reply).resp = .http 200 false ∧ ((({} : RW).set ["Vary"]).reply).resp.positive = true := by
  decide +kernel

/-- **The reply of the handler does not depend on the headers set in front of it.**  Run the service handler (inside the
recovery middleware) on two response writers on which nothing has been sent and whose header maps are arbitrary: same
reply, same executed mechanisms, same recorded pipeline error — namely those of `serve` — for every rule, outcome
vector (incl. panics), error pipeline, configuration, for the decision and the proxy service. -/
theorem c01_reply_independent_of_headers_already_set (proxy : Bool) (cfg : Cfg) (view : ReqView) (up : Nat)
    (found : Option Rule) (rw rw' : RW) (h : rw.fresh = true) (h' : rw'.fresh = true) :
    (handlerRW proxy cfg view up found rw).1.reply = (handlerRW proxy cfg view up found rw').1.reply ∧
    (handlerRW proxy cfg view up found rw).2 = (handlerRW proxy cfg view up found rw').2 ∧
    (handlerRW proxy cfg view up found rw).1.reply = (serveHTTP proxy cfg view up found).1 := by
  have h1 := handlerRW_reply proxy cfg view up found rw h
  have h2 := handlerRW_reply proxy cfg view up found rw' h'
  exact ⟨(congrArg Prod.fst h1).trans (congrArg Prod.fst h2).symm,
    (congrArg Prod.snd h1).trans (congrArg Prod.snd h2).symm, congrArg Prod.fst h1⟩

example : (({} : RW).fresh = true) ∧ ((({} : RW).set ["Vary"]).fresh = true) := by decide +kernel

/-- **The whole chain is the service handler, except for preflight requests.**  Unless the request is a CORS preflight
request at a proxy with `serve.proxy.cors` configured, the caller observes exactly `serve` — so every theorem above
speaks about what the caller of the real chain gets, with or without CORS, for every `Origin` header. -/
theorem c01_chain_is_handler (ep : EntryPoint) (cfg : Cfg) (view : ReqView) (up : Nat) (found : Option Rule)
    (h : ep ≠ .proxy ∨ cfg.cors = none ∨ view.preflight = false) :
    serveChain ep cfg view up found = serve ep cfg view up found :=
  serveChain_eq_serve ep cfg view up found ((preflightAnswered_false_iff ep cfg view).mpr h)

/-- a failed pipeline behind a CORS middleware that has granted the origin: refused like without CORS -/
example : chainAnswer .proxy { cfg with cors := some { origins := ["https://app.c01.test"] } }
      { origin := some "https://app.c01.test" } 200 (some failing) = .http 303 false ∧
    chainAnswer .proxy { cfg with cors := some {} } {} 200 none = .http 404 false ∧
    chainAnswer .proxy { cfg with cors := some {} } {} 200 (some panicking) = .http 503 false ∧
    (chainRW true { cfg with cors := some { origins := ["https://app.c01.test"] } }
      { origin := some "https://app.c01.test" } 200 (some failing)).1.headers =
      ["Vary", "Access-Control-Allow-Origin", "Location"] := by decide +kernel

/-- **Soundness of the whole chain.**  A positive answer at any entry point, with or without CORS, for any `Origin`
header and method, is given only if a rule or the default rule applied and its whole effective pipeline completed — or
the request is a preflight request answered by the CORS middleware of the proxy (the operator configured
`serve.proxy.cors`): then the answer is the bare `204` of the middleware, nothing is forwarded, no rule was looked up, no
mechanism ran. -/
theorem c01_chain_sound (ep : EntryPoint) (cfg : Cfg) (view : ReqView) (up : Nat) (found : Option Rule)
    (hcfg : cfg.errorCodesNonSuccess = true) (hred : redirectsNonSuccess found = true)
    (h : (chainAnswer ep cfg view up found).positive = true) :
    (∃ r, found = some r ∧ Completed r) ∨
    (ep = .proxy ∧ cfg.cors ≠ none ∧ view.preflight = true ∧
      serveChain ep cfg view up found = ({ resp := .http 204 false }, {})) := by
  unfold chainAnswer at h
  cases hp : preflightAnswered ep cfg view with
  | false =>
    rw [serveChain_eq_serve ep cfg view up found hp] at h
    exact .inl (c01_sound ep cfg view up found hcfg hred h)
  | true =>
    obtain ⟨hep, hc, hv⟩ := (preflightAnswered_iff ep cfg view).mp hp
    exact .inr ⟨hep, hc, hv, serveChain_preflight ep cfg view up found hp⟩

/-- both disjuncts occur: a completed pipeline behind CORS; a preflight request for a path no rule matches -/
example : (chainAnswer .proxy { cfg with cors := some {} } { origin := some "https://app.c01.test" } 204
      (some completing)).positive = true ∧
    chainAnswer .proxy { cfg with cors := some {} } { origin := some "https://app.c01.test", preflight := true } 200 none =
      .http 204 false ∧
    -- without CORS the same OPTIONS request goes through the rule lookup like any other
    chainAnswer .proxy cfg { origin := some "https://app.c01.test", preflight := true } 200 none = .http 404 false ∧
    -- and the decision service ignores `serve.decision.cors`
    chainAnswer .decision { cfg with cors := some {} } { preflight := true } 200 none = .http 404 false := by decide +kernel

/-- **Nothing reaches the upstream unless the pipeline completed — for the whole chain, no side condition, preflight
requests included.** -/
theorem c01_chain_forwarded_only_if_completed (ep : EntryPoint) (cfg : Cfg) (view : ReqView) (up : Nat)
    (found : Option Rule) (h : (chainAnswer ep cfg view up found).forwarded = true) :
    ep = .proxy ∧ ∃ r, found = some r ∧ Completed r ∧ r.hasBackend = true := by
  unfold chainAnswer at h
  cases hp : preflightAnswered ep cfg view with
  | false =>
    rw [serveChain_eq_serve ep cfg view up found hp] at h
    exact c01_forwarded_only_if_completed ep cfg view up found h
  | true => rw [serveChain_preflight ep cfg view up found hp] at h; cases h

example : (chainAnswer .proxy { cfg with cors := some { origins := ["*"], allowCredentials := true } }
    { origin := some "https://evil.c01.test" } 204 (some completing)).forwarded = true := by decide +kernel

/-- **A failed pipeline is refused by the whole chain**: no rule, or a pipeline that did not complete, and the request
is not a preflight request answered by the proxy's CORS middleware ⇒ no success response, nothing forwarded — whatever
CORS configuration and `Origin` header. -/
theorem c01_chain_failure_refused (ep : EntryPoint) (cfg : Cfg) (view : ReqView) (up : Nat) (found : Option Rule)
    (hcfg : cfg.errorCodesNonSuccess = true) (hred : redirectsNonSuccess found = true)
    (hfail : ∀ r, found = some r → ¬ Completed r)
    (hreq : ep ≠ .proxy ∨ cfg.cors = none ∨ view.preflight = false) :
    (chainAnswer ep cfg view up found).success = false ∧ (chainAnswer ep cfg view up found).forwarded = false := by
  unfold chainAnswer
  rw [c01_chain_is_handler ep cfg view up found hreq]
  exact c01_failure_refused ep cfg view up found hcfg hred hfail

example : ({ cfg with cors := some {} } : Cfg).errorCodesNonSuccess = true ∧ redirectsNonSuccess (some failing) = true ∧
    ¬ Completed failing ∧ ((EntryPoint.proxy ≠ .proxy) ∨ ({ cfg with cors := some {} } : Cfg).cors = none ∨
      ({ origin := some "https://app.c01.test" } : ReqView).preflight = false) :=
  ⟨by decide +kernel, by decide, not_completed (by decide +kernel), Or.inr (Or.inr rfl)⟩

/-- **CORS configuration and `Origin` header never change what the caller of a non-preflight request gets**: replace
`serve.<service>.cors` by any other configuration (or none) and the `Origin` header by any other value (or none) —
reply and executed mechanisms of the whole chain are the same, at every entry point, for every rule and outcome
vector.  (The headers of the response do change — `example` below — only not the status, the forwarding, the body.) -/
theorem c01_verdict_independent_of_cors (ep : EntryPoint) (cfg : Cfg) (view : ReqView) (up : Nat) (found : Option Rule)
    (cors : Option Cors) (origin : Option String) (hp : view.preflight = false) :
    serveChain ep { cfg with cors := cors } { view with origin := origin } up found =
      serveChain ep cfg view up found := by
  rw [c01_chain_is_handler ep cfg view up found (Or.inr (Or.inr hp)),
    c01_chain_is_handler ep { cfg with cors := cors } { view with origin := origin } up found (Or.inr (Or.inr hp))]
  exact serve_congr cfg { cfg with cors := cors } (httpStatus_congr rfl rfl rfl rfl rfl rfl) rfl rfl rfl ep up found

example : frontHeaders .proxy { cfg with cors := some { origins := ["https://app.c01.test"] } }
      { origin := some "https://app.c01.test" } = ["Vary", "Access-Control-Allow-Origin"] ∧
    frontHeaders .proxy { cfg with cors := some { origins := ["https://app.c01.test"] } }
      { origin := some "https://evil.c01.test" } = ["Vary"] ∧
    frontHeaders .proxy cfg { origin := some "https://app.c01.test" } = [] ∧
    frontHeaders .decision { cfg with cors := some {} } { origin := some "https://app.c01.test" } = [] := by decide +kernel

/-- **From the configuration to the answer**: whatever rule set and default rule were loaded (rejected ones never
reach a request), a positive answer means that the matching rule or the default rule applied and its effective
pipeline — own stages, or the default rule's where a stage is left empty — completed. -/
theorem c01_sound_loaded (ep : EntryPoint) (cfg : Cfg) (view : ReqView) (up : Nat) (dflt rule : Option RuleDoc) (repo : Repo)
    (routeMatches : Bool) (_hload : load ep.mode dflt rule = some repo)
    (hcfg : cfg.errorCodesNonSuccess = true) (hred : redirectsNonSuccess (repo.find routeMatches) = true)
    (h : (answer ep cfg view up (repo.find routeMatches)).positive = true) :
    ∃ r, (repo.rule = some r ∧ routeMatches = true ∨ repo.dflt = some r) ∧ Completed r := by
  obtain ⟨r, hr, hc⟩ := c01_sound ep cfg view up _ hcfg hred h
  refine ⟨r, ?_, hc⟩
  unfold Repo.find at hr
  cases routeMatches with
  | false => exact Or.inr hr
  | true =>
    simp only [if_true] at hr
    cases hrule : repo.rule with
    | none => rw [hrule] at hr; exact Or.inr hr
    | some r' => rw [hrule] at hr; cases hr; exact Or.inl ⟨rfl, rfl⟩

/-- the hypotheses are satisfiable: a rule naming only a finalizer inherits authenticator, authorizer and error
handler of the default rule; the proxy refuses to load a rule without upstream -/
example : ∃ repo, load .decision (some dfltDoc) (some inheritingDoc) = some repo ∧
    (repo.find true).map (·.authenticators.map (·.id)) = some ["d-anon"] ∧
    answer .decision cfg {} 200 (repo.find true) = .http 403 false := ⟨_, rfl, by decide, by decide +kernel⟩
example : load .proxy (some dfltDoc) (some { inheritingDoc with hasBackend := false }) = none := by decide +kernel
example : load .decision (some { dfltDoc with auth := [] }) none = none := by decide +kernel

end Heimdall.Props.C01
