import HeimdallModel.Lemmas.Table
import HeimdallModel.Lemmas.RepoOps
/-!
# C02 — the most specific matching path expression selects the rule

Property theorems about the routing-tree model (`Model/Trie.lean`, tied to `internal/x/radixtree` by the
correspondence check).  All statements quantify over every table, every request path, every matcher, every
backtracking flag; no bound on sizes.
-/
namespace Heimdall.Props.C02
open Heimdall

variable {V : Type} (m : V → List String → List String → Bool)

/-- **Most specific match wins.** If the lookup answers with a value, that value is the first accepted value
(in insertion order) of a node whose expression matches the path with exactly the exposed captures, and every
*more specific* matching expression of the table had no accepted value and allowed backtracking. -/
theorem c02_most_specific (t : Table V) (hnd : NodupPats t) (path : List Tok) (f : Found V)
    (h : (find m t path []).1 = some f) :
    ∃ n ∈ t, matchCaps n.pat path = some f.caps ∧ f.keys = n.keys ∧
      n.values.find? (fun v => m v n.keys f.caps) = some f.value ∧
      ∀ n' ∈ t, ∀ caps', matchCaps n'.pat path = some caps' → specLt n'.pat n.pat = true →
        accepts m n' caps' = false ∧ n'.bt = true := by
  rcases find_decided m t path with ⟨c, hc, -, hfind, hleast⟩ | ⟨-, hnone⟩
  · rw [hfind] at h
    obtain ⟨hv, hk, hcaps⟩ := (tryCand_fst_eq_some m).mp h
    refine ⟨c.node, getNode_mem hc.1, hcaps ▸ hc.2, hk, hcaps ▸ hv, fun n' hn' caps' hm' hlt => ?_⟩
    -- a more specific matching node that stopped the search would have decided it
    refine (stops_eq_false m (c := ⟨n', caps'⟩)).mp (Bool.eq_false_iff.mpr fun hs => ?_)
    rcases hleast _ (matching_of_mem hnd hn' hm') hs with he | hgt
    · rw [← he, specLt_irrefl] at hlt; cases hlt
    · rw [specLt_asymm _ _ hgt] at hlt; cases hlt
  · rw [hnone] at h; cases h

/-- **No rule.** If the lookup finds nothing, every matching expression with an accepted value is shadowed by a
more specific matching expression that has no accepted value and forbids backtracking. (With no such shadowing
node the lookup cannot fail: the default rule or "no rule" applies only then.) -/
theorem c02_none_only_if_shadowed (t : Table V) (hnd : NodupPats t) (path : List Tok)
    (h : (find m t path []).1 = none) :
    ∀ n ∈ t, ∀ caps, matchCaps n.pat path = some caps → accepts m n caps = true →
      ∃ n' ∈ t, ∃ caps', matchCaps n'.pat path = some caps' ∧ specLt n'.pat n.pat = true ∧
        accepts m n' caps' = false ∧ n'.bt = false := by
  intro n hn caps hm hacc
  have hs : stops m ⟨n, caps⟩ = true := by rw [stops, hacc]; rfl
  rcases find_decided m t path with ⟨c, hc, hsc, hfind, hleast⟩ | ⟨hall, -⟩
  · -- the deciding node has no accepted value, so it is not `n` and it forbids backtracking
    have hno := (tryCand_fst_eq_none m).mp (hfind ▸ h)
    have hbt : c.node.bt = false := by simpa [stops, hno] using hsc
    rcases hleast _ (matching_of_mem hnd hn hm) hs with he | hlt
    · rw [← he, hacc] at hno; cases hno
    · exact ⟨c.node, getNode_mem hc.1, c.caps, hc.2, hlt, hno, hbt⟩
  · cases (hall _ (matching_of_mem hnd hn hm)).symm.trans hs

/-- **Backtracking off stops the search.** A matching expression without an accepted value and with backtracking
disabled prevents every less specific expression from answering: whatever answers is not less specific. -/
theorem c02_no_backtracking_blocks (t : Table V) (hnd : NodupPats t) (path : List Tok)
    (n : Node V) (hn : n ∈ t) (caps : List String) (hm : matchCaps n.pat path = some caps)
    (_hno : accepts m n caps = false) (hbt : n.bt = false) (f : Found V)
    (h : (find m t path []).1 = some f) :
    ∃ n₁ ∈ t, matchCaps n₁.pat path = some f.caps ∧
      n₁.values.find? (fun v => m v n₁.keys f.caps) = some f.value ∧ specLt n.pat n₁.pat = false := by
  obtain ⟨n₁, hn₁, hm₁, _, hv₁, hall⟩ := c02_most_specific m t hnd path f h
  refine ⟨n₁, hn₁, hm₁, hv₁, ?_⟩
  cases hlt : specLt n.pat n₁.pat with
  | false => rfl
  | true => cases hbt.symm.trans (hall n hn caps hm hlt).2

/-- **Independent of the loading order.** Two tables that hold the same node for every expression — however they
were built up, in whatever order rules and rule sets were loaded — answer every lookup alike. -/
theorem c02_order_independent (t₁ t₂ : Table V) (h : ∀ p, getNode t₁ p = getNode t₂ p) (path : List Tok) :
    find m t₁ path [] = find m t₂ path [] :=
  find_congr m t₁ t₂ h path []

/-- routes with different expressions can be added in either order: the resulting tables hold the same nodes
(and the second order succeeds whenever the first one does) -/
theorem c02_add_comm (canAdd : List V → V → Bool) (t t₁ t₁₂ : Table V) (p₁ p₂ : List PTok) (k₁ k₂ : List String)
    (v₁ v₂ : V) (b₁ b₂ : Bool) (hne : p₁ ≠ p₂)
    (h1 : addPat canAdd t p₁ k₁ v₁ b₁ = .ok t₁) (h12 : addPat canAdd t₁ p₂ k₂ v₂ b₂ = .ok t₁₂) :
    ∃ t₂ t₂₁, addPat canAdd t p₂ k₂ v₂ b₂ = .ok t₂ ∧ addPat canAdd t₂ p₁ k₁ v₁ b₁ = .ok t₂₁ ∧
      ∀ q, getNode t₂₁ q = getNode t₁₂ q := by
  -- an addition leaves the node of every other expression as it is, and whether it succeeds depends on its own node only
  have e₁ : getNode t₁ p₂ = getNode t p₂ := by rw [addPat_getNode (h := h1), if_neg hne.symm]
  obtain ⟨t₂, h2⟩ := (addPat_ok_congr canAdd t₁ p₂ k₂ v₂ b₂ e₁).mp ⟨t₁₂, h12⟩
  have e₂ : getNode t₂ p₁ = getNode t p₁ := by rw [addPat_getNode (h := h2), if_neg hne]
  obtain ⟨t₂₁, h21⟩ := (addPat_ok_congr canAdd t p₁ k₁ v₁ b₁ e₂.symm).mp ⟨t₁, h1⟩
  refine ⟨t₂, t₂₁, h2, h21, fun q => ?_⟩
  rw [addPat_getNode (h := h21), addPat_getNode (h := h12), e₁, e₂, addPat_getNode (h := h2),
    addPat_getNode (h := h1)]
  by_cases hq : q = p₁
  · subst hq; rw [if_pos rfl, if_neg hne, if_pos rfl]
  · rw [if_neg hq, if_neg hq]

/-- **Wildcards never match an empty segment, a free wildcard matches the non-empty remainder**: every value
captured from a request path is non-empty. -/
theorem c02_captures_nonempty (pat : List PTok) (toks : List Tok) (hseg : ∀ t ∈ toks, ∀ s, t = .seg s → s ≠ "")
    (caps : List String) (h : matchCaps pat toks = some caps) : ∀ v ∈ caps, v ≠ "" := by
  induction pat generalizing toks caps with
  | nil => obtain ⟨-, rfl⟩ := matchCaps_nil.mp h; nofun
  | cons p ps ih =>
    cases toks with
    | nil => rw [matchCaps_cons_nil] at h; cases h
    | cons tok rest =>
      obtain ⟨htok, hrest⟩ := List.forall_mem_cons.mp hseg
      cases p with
      | lit s => exact ih rest hrest caps (matchCaps_lit_cons.mp h).2
      | wild =>
        obtain ⟨sg, c', rfl, hc', rfl⟩ := matchCaps_wild_cons.mp h
        exact List.forall_mem_cons.mpr ⟨htok sg rfl, ih rest hrest c' hc'⟩
      | catchAll =>
        obtain ⟨-, rfl⟩ := matchCaps_catchAll_cons.mp h
        exact List.forall_mem_singleton.mpr (render_ne_empty tok rest htok)

/-- the tokens of a request path satisfy the hypothesis of `c02_captures_nonempty` -/
theorem c02_request_tokens (p : String) : ∀ t ∈ tokenize p, ∀ s, t = .seg s → s ≠ "" :=
  tokenizeAux_nonempty _ _

example : matchCaps [.lit "/", .wild] (tokenize "/") = none := by decide +kernel
example : matchCaps [.lit "/", .catchAll] (tokenize "/") = none := by decide +kernel
example : matchCaps [.lit "/", .catchAll] (tokenize "/a/b") = some ["a/b"] := by decide +kernel

/-- **Backslash-escaped `:`, `*` and `\` start a literal segment**, everything else starting with `:` / `*` is a
single / free wildcard. -/
theorem c02_escaped_is_literal (c : Char) (r : List Char) (hc : c = '*' ∨ c = ':' ∨ c = '\\') :
    classifySeg (String.ofList ('\\' :: c :: r)) = (.lit (String.ofList (c :: r)), none) := by
  unfold classifySeg
  simp only [String.toList_ofList]
  rcases hc with rfl | rfl | rfl <;> simp

theorem c02_wildcard_segments (r : List Char) :
    classifySeg (String.ofList (':' :: r)) = (.wild, some (String.ofList r)) ∧
    classifySeg (String.ofList ('*' :: r)) = (.catchAll, some (String.ofList r)) := by
  unfold classifySeg
  simp

/-- **Matching expressions are comparable**: two different expressions that both match a path are ordered by
specificity one way or the other (so "most specific" is well defined). -/
theorem c02_specLt_total : ∀ (p q : List PTok) (toks : List Tok) (cp cq : List String),
    matchCaps p toks = some cp → matchCaps q toks = some cq → p ≠ q →
    specLt p q = true ∨ specLt q p = true := by
  intro p q toks cp cq hp hq hne
  -- both are nodes of a two-node table, hence candidates for `toks`, and the candidates are ordered by `specLt`
  let t : Table Unit := [⟨p, [], [], true⟩, ⟨q, [], [], true⟩]
  have h1 : (⟨⟨p, [], [], true⟩, cp⟩ : Cand Unit) ∈ cands t toks [] := mem_cands.mpr ⟨by simp [t, getNode], hp⟩
  have h2 : (⟨⟨q, [], [], true⟩, cq⟩ : Cand Unit) ∈ cands t toks [] := mem_cands.mpr ⟨by simp [t, getNode, hne], hq⟩
  exact pairwise_rel_or_rel (cands_sorted t toks []) h1 h2 (fun e => hne (by cases e; rfl))

/-- **Most specific wins, the converse direction**: if an expression matches, one of its values is accepted, and
every more specific matching expression has failed with backtracking enabled, then the lookup answers with the first
accepted value of exactly that expression. -/
theorem c02_most_specific_complete {V : Type} (m : V → List String → List String → Bool)
    (t : Table V) (hnd : NodupPats t) (path : List Tok) (n : Node V) (hn : n ∈ t) (caps : List String)
    (hm : matchCaps n.pat path = some caps) (hacc : accepts m n caps = true)
    (hall : ∀ n' ∈ t, ∀ caps', matchCaps n'.pat path = some caps' → specLt n'.pat n.pat = true →
        accepts m n' caps' = false ∧ n'.bt = true) :
    ∃ f, (find m t path []).1 = some f ∧ f.caps = caps ∧ f.keys = n.keys ∧
      n.values.find? (fun v => m v n.keys caps) = some f.value := by
  have hs : stops m ⟨n, caps⟩ = true := by rw [stops, hacc]; rfl
  rcases find_decided m t path with ⟨c, hc, hsc, hfind, hleast⟩ | ⟨hnone, -⟩
  · rcases hleast _ (matching_of_mem hnd hn hm) hs with he | hlt
    · -- `n` decides: it answers with its first accepted value
      subst he
      rw [accepts_eq_isSome, Option.isSome_iff_exists] at hacc
      obtain ⟨v, hv⟩ := hacc
      exact ⟨⟨v, n.keys, caps⟩, hfind ▸ (tryCand_fst_eq_some m).mpr ⟨hv, rfl, rfl⟩, rfl, rfl, hv⟩
    · -- a more specific node decides: by hypothesis it does not stop the search
      have := (stops_eq_false m).mpr (hall c.node (getNode_mem hc.1) c.caps hc.2 hlt)
      rw [hsc] at this; cases this
  · cases (hnone _ (matching_of_mem hnd hn hm)).symm.trans hs

/-- **Which flag counts when rules sharing an expression disagree**: "backtracking is enabled for the failed
expression" means the setting of the rule added to that expression LAST (rules of one rule set are added in rule-set
order) — every successful addition sets the flag of the node, whatever it was. -/
theorem c02_backtracking_flag_is_last_added (canAdd : List V → V → Bool) (t t' : Table V) (pat : List PTok)
    (keys : List String) (v : V) (bt : Bool) (h : addPat canAdd t pat keys v bt = .ok t') :
    (getNode t' pat).map (·.bt) = some bt := by
  rw [addPat_getNode (h := h)]
  simp only [if_true]
  cases getNode t pat <;> rfl

/-- **Default rule or "no rule"**: the repository answers with the default rule (if there is one) or with "no rule"
exactly when the lookup in the tree — most specific expression first, less specific ones only through backtracking —
finds nothing; otherwise it answers with what the lookup found. -/
theorem c02_default_or_none (s : Repo) (hasDefault : Bool) (q : ReqView) :
    (lookup (repoMatcher q) s.index (lookupPath q) = none →
        (hasDefault = true → s.findRule hasDefault q = .default) ∧
        (hasDefault = false → s.findRule hasDefault q = .none)) ∧
    (∀ v ps, lookup (repoMatcher q) s.index (lookupPath q) = some (v, ps) → s.findRule hasDefault q = .rule v ps) :=
  ⟨fun h => ⟨fun hd => by rw [findRule_of_none h, if_pos hd], fun hd => by rw [findRule_of_none h, hd]; rfl⟩,
    fun _ _ h => findRule_eq_rule.mpr h⟩

end Heimdall.Props.C02
