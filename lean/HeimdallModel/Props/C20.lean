import HeimdallModel.Lemmas.Config
import HeimdallModel.Lemmas.ConfigLeaf
import HeimdallModel.Lemmas.ConfigYaml
import HeimdallModel.Spec.ConfigSchema
/-!
# C20 — configuration file and environment variables are equivalent; the environment wins per leaf

The merged tree: model `Model/Config.lean` (`load defaults file env`, `merge`, `parseName`, `envTree`, the prefix),
reference notions `Spec/Config.lean` (`envName`, `≈`, `leaves`, `fromLeaves`, `envOf`, `Loadable`, `Expressible`);
all statements are for every configuration tree (any depth, any list length), every environment (any number of
variables) and every path. Values at a leaf: `Model/ConfigLeaf.lean` (`decode`), `Spec/ConfigLeaf.lean`. The YAML
reading of a text and references to variables: `Model/ConfigYaml.lean` (`readText`, `substitute`),
`Spec/ConfigYaml.lean`. Schema against loader: `Spec/ConfigSchema.lean` over the tables of `Gen/ConfigSchema.lean`.
-/
namespace Heimdall.Props.C20
open Heimdall.Config

/-- The loader reads a variable name back to the path the documented naming rule was applied to
    (prefix removed; `_` separates, `__` is a literal underscore, numbers are list indices, case is irrelevant). -/
theorem c20_key_roundtrip (p : Path) (h : pathOk p = true) : parseName (envName p) = p :=
  parseName_envName p h

/-- hypothesis of `c20_key_roundtrip` is satisfiable: a path through a list into a structure, names with `_` -/
example : pathOk [.key c!"mechanisms", .key c!"error_handlers", .idx 10, .key c!"config", .key c!"x_"] = true := by
  decide +kernel
/-- the documented example: `serve.trusted_proxies[0]` -/
example : envName [.key c!"serve", .key c!"trusted_proxies", .idx 0] = c!"SERVE_TRUSTED__PROXIES_0" := by
  decide +kernel

/-- Every place of the loaded configuration is decided by what defaults, file and environment hold at that very
    place: `result[p] = (defaults[p] ⊕ file[p]) ⊕ env[p]`, where `⊕` lets the right side win for scalars, keeps the
    left side where the right one has nothing, and merges maps key by key and lists index by index. -/
theorem c20_leafwise (d f : Val) (env : Env) (h : Loadable d f env = true) (p : Path) :
    (load d f env).get p = merge (merge (d.get p) (f.get p)) ((envTree env.entries).get p) := by
  have hL := loadable_pointwise h
  rw [load, get_merge hL.envKeys hL.withEnv, get_merge hL.fileKeys hL.defaultsFile]

/-- What a variable does to the place its name addresses, for every variable of every environment: the result there
    is what defaults and file hold, overridden by the variable's contribution `envVal` – its value, unless the value is
    nil and the place is a list position (then it contributes nothing, see `c20_env_nil_element_ignored`). -/
theorem c20_env_at_its_leaf (d f : Val) (env : Env) (h : Loadable d f env = true)
    (name : List Char) (a : String) (hm : (name, a) ∈ env) :
    (load d f env).get (parseName name)
      = merge (merge (d.get (parseName name)) (f.get (parseName name))) (envVal (parseName name) a) := by
  rw [c20_leafwise d f env h, entTree_get_entry env.entries (loadable_pointwise h).entries
    (List.mem_map_of_mem (f := fun e => (parseName e.1, envVal (parseName e.1) e.2)) hm)]

/-- The environment wins for exactly its leaf: the value of every variable is found at the path its name addresses,
    whatever file and defaults say there. The value may be any scalar, the one that is defined to be nil included
    (an empty variable, `null`, `~`: `a = nullText`, see `c20_env_nil_wins`).
    Not covered – because false on the code as it is, known finding C20-nil-list-element – is the single combination
    `holeVar`: a nil value addressed to a list position (`c20_env_wins_fails_nil_element`). -/
theorem c20_env_wins (d f : Val) (env : Env) (h : Loadable d f env = true)
    (name : List Char) (a : String) (hm : (name, a) ∈ env) (hv : holeVar (parseName name) a = false) :
    (load d f env).get (parseName name) = .atom a := by
  rw [c20_env_at_its_leaf d f env h name a hm]
  simp [envVal, hv, merge]

/-- `c20_env_wins` is not vacuous for nil values: an empty `SERVE_PROXY_HOST` over a file that sets the host -/
example :
    let env : Env := [(c!"SERVE_PROXY_HOST", nullText), (c!"SERVE_PROXY_PORT", "9000")]
    Loadable (.map (.cons c!"serve" (.map (.cons c!"proxy" (.map (.cons c!"port" (.atom "4455") .nil)) .nil)) .nil))
      (.map (.cons c!"serve" (.map (.cons c!"proxy" (.map (.cons c!"host" (.atom "\"127.0.0.1\"") .nil)) .nil)) .nil)) env = true
    ∧ (c!"SERVE_PROXY_HOST", nullText) ∈ env ∧ holeVar (parseName c!"SERVE_PROXY_HOST") nullText = false := by
  decide +kernel

/-- A variable that defines a property to be nil (empty value, `null`, `~`) wins like any other: whatever scalar the
    file or the defaults hold at that property, the loaded configuration holds the nil value there and none of theirs
    (the typed decoding then leaves the target's default, `c20_nil_keeps_default`). Holds below list entries too
    (`mechanisms.authorizers[1].config.expressions[0].message`); the place itself must not be a list position. -/
theorem c20_env_nil_wins (d f : Val) (env : Env) (h : Loadable d f env = true)
    (name : List Char) (hm : (name, nullText) ∈ env) (hp : endsInIdx (parseName name) = false) :
    (load d f env).get (parseName name) = Val.nil
    ∧ ∀ a, a ≠ nullText → (load d f env).get (parseName name) ≠ .atom a := by
  have key := c20_env_wins d f env h name nullText hm (by simp [holeVar, hp])
  refine ⟨key, fun a ha hc => ?_⟩
  rw [key] at hc
  exact ha (Val.atom.inj hc).symm

/-- the hypotheses are satisfiable: the message of an expression inside the second
    authorizer is reset, the file defines it -/
example :
    let env : Env := [(c!"MECHANISMS_AUTHORIZERS_1_CONFIG_EXPRESSIONS_0_MESSAGE", nullText)]
    let f : Val := .map (.cons c!"mechanisms" (.map (.cons c!"authorizers" (.seq
      (.cons (.map (.cons c!"id" (.atom "\"first\"") .nil))
      (.cons (.map (.cons c!"id" (.atom "\"second\"") (.cons c!"config" (.map (.cons c!"expressions" (.seq
        (.cons (.map (.cons c!"expression" (.atom "\"true\"") (.cons c!"message" (.atom "\"from file\"") .nil))) .nil))
        .nil)) .nil))) .nil))) .nil)) .nil)
    Loadable (.map .nil) f env = true
    ∧ endsInIdx (parseName c!"MECHANISMS_AUTHORIZERS_1_CONFIG_EXPRESSIONS_0_MESSAGE") = false
    ∧ (load (.map .nil) f env).get (parseName c!"MECHANISMS_AUTHORIZERS_1_CONFIG_EXPRESSIONS_0_MESSAGE") = Val.nil := by
  decide +kernel

/-- What the code does instead for a nil value addressed to a list position (known finding C20-nil-list-element), for
    every load: the variable changes nothing at that place – the file's (or default's) element survives. -/
theorem c20_env_nil_element_ignored (d f : Val) (env : Env) (h : Loadable d f env = true)
    (name : List Char) (a : String) (hm : (name, a) ∈ env) (hv : holeVar (parseName name) a = true) :
    (load d f env).get (parseName name) = merge (d.get (parseName name)) (f.get (parseName name)) := by
  rw [c20_env_at_its_leaf d f env h name a hm]
  simp [envVal, hv]

/-- ... hence `c20_env_wins` without its last hypothesis is false: `SERVE_TRUSTED__PROXIES_1=` over a file with two
    proxies leaves the second proxy of the file in place -/
theorem c20_env_wins_fails_nil_element :
    ¬ ∀ (d f : Val) (env : Env), Loadable d f env = true → ∀ name a, (name, a) ∈ env →
        (load d f env).get (parseName name) = .atom a := by
  intro hall
  have := hall (.map .nil)
    (.map (.cons c!"serve" (.map (.cons c!"trusted_proxies"
      (.seq (.cons (.atom "\"10.0.0.1\"") (.cons (.atom "\"10.0.0.2\"") .nil))) .nil)) .nil))
    [(c!"SERVE_TRUSTED__PROXIES_1", nullText)] (by decide +kernel) c!"SERVE_TRUSTED__PROXIES_1" nullText (by simp)
  revert this
  decide +kernel

/-- ... and nothing else changes: at a place no variable addresses (nor anything above or below it) the result is
    what file and defaults give; there the file wins over the defaults leaf by leaf and the defaults fill what the
    file does not define. -/
theorem c20_untouched (d f : Val) (env : Env) (h : Loadable d f env = true) (p : Path)
    (ht : env.touches p = false) :
    (load d f env).get p = merge (d.get p) (f.get p)
    ∧ (f.get p = .null → (load d f env).get p = d.get p)
    ∧ (∀ a, f.get p = .atom a → (load d f env).get p = .atom a) := by
  have key : (load d f env).get p = merge (d.get p) (f.get p) := by
    rw [c20_leafwise d f env h, entTree_get_off env.entries (loadable_pointwise h).entries, merge_null_right]
    simp only [Env.touches, List.any_eq_false] at ht
    simp only [Env.entries, List.all_map, List.all_eq_true]
    intro e hem
    simpa using ht e hem
  refine ⟨key, fun h0 => by rw [key, h0]; simp, fun a ha => by rw [key, ha]; simp [merge]⟩

/-- `Loadable` is satisfiable by a non-trivial load: a default, a file with a list, one variable that extends the list
    of the file and one that overrides a default (used by `c20_leafwise`, `c20_env_wins`, `c20_untouched`, `c20_perm`,
    `c20_env_as_file`) -/
example : Loadable
    (.map (.cons c!"serve" (.map (.cons c!"port" (.atom "4456") .nil)) .nil))
    (.map (.cons c!"serve" (.map (.cons c!"trusted_proxies" (.seq (.cons (.atom "\"10.0.0.1\"") .nil)) .nil)) .nil))
    [(c!"SERVE_TRUSTED__PROXIES_1", "\"10.0.0.2\""), (c!"SERVE_PORT", "9000")] = true := by decide +kernel
example : Env.touches [(c!"SERVE_TRUSTED__PROXIES_1", "\"10.0.0.2\""), (c!"SERVE_PORT", "9000")]
    [.key c!"serve", .key c!"host"] = false := by decide +kernel

/-- The result does not depend on the order in which the environment variables are enumerated. -/
theorem c20_perm (d f : Val) (env₁ env₂ : Env) (hp : env₁.Perm env₂) (h : Loadable d f env₁ = true) :
    load d f env₁ ≈ load d f env₂ := by
  have hL := loadable_pointwise h
  have hp' : env₁.entries.Perm env₂.entries := hp.map _
  exact merge_congr_right hL.envKeys (obs_entTree _ (entriesOk_perm hp' hL.entries)).1 hL.withEnv
    (entTree_perm hp' hL.entries)

/-- a non-trivial permutation of a consistent environment: two elements of one nested list and a scalar -/
example : List.Perm
    [(c!"M_AUTHENTICATORS_0_ID", "\"a\""), (c!"M_AUTHENTICATORS_1_ID", "\"b\""), (c!"LOG_LEVEL", "\"info\"")]
    [(c!"LOG_LEVEL", "\"info\""), (c!"M_AUTHENTICATORS_1_ID", "\"b\""), (c!"M_AUTHENTICATORS_0_ID", "\"a\"")]
    ∧ Loadable (.map .nil) .null
      [(c!"M_AUTHENTICATORS_0_ID", "\"a\""), (c!"M_AUTHENTICATORS_1_ID", "\"b\""), (c!"LOG_LEVEL", "\"info\"")] = true := by
  decide +kernel

/-- Giving the variables' leaves in the file instead (merged over what the file already says) has the identical
    effect: file-then-environment is one merge, `(d ⊕ f) ⊕ e ≈ d ⊕ (f ⊕ e)`. -/
theorem c20_env_as_file (d f : Val) (env : Env) (h : Loadable d f env = true) :
    load d f env ≈ load d (merge f (envTree env.entries)) [] := by
  have hL := loadable_pointwise h
  have hsplit := (pcompat_merge_left hL.fileKeys hL.defaultsFile).mp hL.withEnv
  rw [load_nil]
  exact merge_assoc hL.fileKeys hL.envKeys hL.defaultsFile hsplit.1 hsplit.2

/-- File and environment are equivalent sources: take any complete configuration `t` the naming rule can express and
    split its leaves in any way (list elements and structures inside lists included) into a part written to the file
    and a part given as environment variables named by the documented rule; loading the two parts gives the same
    configuration as loading `t` from the file alone. -/
theorem c20_split (d t : Val) (Lf Le : List (Path × String))
    (ht : Expressible t = true) (hc : d.compatB t = true)
    (hs : t.leaves.Perm (Lf ++ Le)) :
    load d (fromLeaves Lf) (envOf Le) ≈ load d t [] := by
  simp only [Expressible, Bool.and_eq_true] at ht
  obtain ⟨⟨hn, hl⟩, hok⟩ := ht
  have hL := consistent_leaves t hn
  have hLs := consistent_perm hs hL
  obtain ⟨hcf, hce, _⟩ := consistent_append hLs
  have hTf := pnodup_leafTree hcf
  have hTe := pnodup_leafTree hce
  have hfe := pdisj_pcompat (pdisj_leafTrees hLs)
  have hent : (envOf Le).entries = atoms Le := entries_envOf fun l hl' => by
    simpa using List.all_eq_true.mp hok l (hs.mem_iff.mpr (List.mem_append_right _ hl'))
  -- the two parts together are `t`
  have hsum : merge (envTree (atoms Lf)) (envTree (atoms Le)) ≈ t :=
    equiv_trans (equiv_symm (leafTree_append hLs))
      (equiv_trans (equiv_symm (leafTree_perm hs hL)) (leafTree_leaves t hn hl))
  have hdt := pcompat_of_compatB hc
  have hdsum : pcompat d (merge (envTree (atoms Lf)) (envTree (atoms Le))) :=
    pcompat_congr_right (equiv_symm hsum) hdt
  have hsplit := (pcompat_merge_right hTe hfe).mp hdsum
  rw [load_nil]
  unfold load
  rw [hent, fromLeaves_eq]
  exact equiv_trans (merge_assoc hTf hTe hsplit.1 hsplit.2 hfe)
    (merge_congr_right (pnodup_merge hTf hTe hfe) (pnodup_of_nodup hn) hdsum hsum)

/-- the hypotheses of `c20_split` are satisfiable: the documented mechanism list, its four leaves split so that both
    list elements are shared between file and environment, over defaults that define something else -/
example :
    let t : Val := .map (.cons c!"mechanisms" (.map (.cons c!"authenticators" (.seq
      (.cons (.map (.cons c!"id" (.atom "\"a\"") (.cons c!"type" (.atom "\"anonymous\"") .nil)))
      (.cons (.map (.cons c!"id" (.atom "\"b\"") (.cons c!"type" (.atom "\"basic_auth\"") .nil))) .nil))) .nil)) .nil)
    let d : Val := .map (.cons c!"log" (.map (.cons c!"level" (.atom "\"error\"") .nil)) .nil)
    Expressible t = true ∧ d.compatB t = true ∧ t.leaves.Perm (
      [([.key c!"mechanisms", .key c!"authenticators", .idx 1, .key c!"id"], "\"b\""),
       ([.key c!"mechanisms", .key c!"authenticators", .idx 0, .key c!"type"], "\"anonymous\"")] ++
      [([.key c!"mechanisms", .key c!"authenticators", .idx 0, .key c!"id"], "\"a\""),
       ([.key c!"mechanisms", .key c!"authenticators", .idx 1, .key c!"type"], "\"basic_auth\"")]) := by
  decide +kernel

/-! ## the prefix of the variable names (`--env-config-prefix`)

The theorems above speak about variable names with the prefix removed. The prefix is whatever the operator configured –
upper, lower or mixed case, with or without a trailing `_`, padded with blanks on the command line – and the loader has
to use it as written: the variables of the process that start with it (character by character) are the configuration,
all others are none of its business. -/

/-- The documented name of a property under ANY configured prefix is read back to the property: the loader removes the
    (trimmed) prefix as written and reads the rest by the naming rule. -/
theorem c20_prefix_name_roundtrip (configured : List Char) (p : Path) (h : pathOk p = true) :
    (stripPrefix? (trimSpace configured) (trimSpace configured ++ envName p)).map parseName = some p := by
  rw [stripPrefix?_append]
  simp [parseName_envName p h]

/-- the hypothesis is satisfiable, and the prefix may be in lower or mixed case and padded: `DemoCfg_LOG__LEVEL` -/
example : pathOk [.key c!"log_level"] = true ∧ trimSpace c!" DemoCfg_ " = c!"DemoCfg_"
    ∧ trimSpace c!" DemoCfg_ " ++ envName [.key c!"log_level"] = c!"DemoCfg_LOG__LEVEL" := by decide +kernel

/-- Loading with a configured prefix from a process environment in which the variables carry that prefix is loading
    the variables themselves: every statement above about `load` (leaf-wise result, the environment wins, untouched
    places, permutations, file ≡ environment, every split) holds for every prefix. -/
theorem c20_prefix_env_equiv (d f : Val) (configured : List Char) (env : Env) :
    loadP d f configured (withPrefix (trimSpace configured) env) = load d f env := by
  simp [loadP, selectEnv_withPrefix]

/-- Variables of the process whose name does not start with the configured prefix – among them those that differ from
    it in the case of a letter only – have no effect on the loaded configuration. -/
theorem c20_prefix_foreign_ignored (d f : Val) (configured : List Char) (penv : ProcEnv) :
    loadP d f configured penv = loadP d f configured (penv.filter fun e => !foreignTo configured e) := by
  unfold loadP
  rw [selectEnv_filter]

/-- ... in particular removing or adding any number of foreign variables anywhere changes nothing -/
theorem c20_prefix_foreign_irrelevant (d f : Val) (configured : List Char) (penv₁ penv₂ : ProcEnv)
    (h : (penv₁.filter fun e => !foreignTo configured e) = (penv₂.filter fun e => !foreignTo configured e)) :
    loadP d f configured penv₁ = loadP d f configured penv₂ := by
  rw [c20_prefix_foreign_ignored d f configured penv₁, c20_prefix_foreign_ignored d f configured penv₂, h]

/-- The prefix is compared as written: under the prefix `DemoCfg_` the variable `DemoCfg_PORT` is the property `port`,
    `DEMOCFG_PORT` and `democfg_PORT` are foreign; under `democfg_` it is the other way round. (A loader that folds
    the case of the configured prefix reads the wrong set of variables.) -/
theorem c20_prefix_compared_as_written :
    selectEnv c!"DemoCfg_" [(c!"DemoCfg_PORT", "8080"), (c!"DEMOCFG_PORT", "1"), (c!"democfg_PORT", "2")]
      = [(c!"PORT", "8080")]
    ∧ selectEnv c!"democfg_" [(c!"DemoCfg_PORT", "8080"), (c!"DEMOCFG_PORT", "1"), (c!"democfg_PORT", "2")]
      = [(c!"PORT", "2")]
    ∧ foreignTo c!"DemoCfg_" (c!"DEMOCFG_PORT", "1") = true := by decide +kernel

/-- The result does not depend on the order in which the process enumerates its variables, whatever the prefix and
    whatever else the environment holds. -/
theorem c20_prefix_perm (d f : Val) (configured : List Char) (penv₁ penv₂ : ProcEnv) (hp : penv₁.Perm penv₂)
    (h : Loadable d f (selectEnv configured penv₁) = true) :
    loadP d f configured penv₁ ≈ loadP d f configured penv₂ :=
  c20_perm d f _ _ (selectEnv_perm configured hp) h

/-- File and environment are equivalent sources under every prefix: take any complete configuration `t` the naming rule
    can express, split its leaves in any way between the file and variables named `<prefix><documented name>`, and let
    the process environment hold any other variables in between (`hsel`: those that carry the prefix are exactly the
    ones named for `Le`); the load gives the configuration the complete file gives. -/
theorem c20_prefix_split (d t : Val) (Lf Le : List (Path × String)) (configured : List Char) (penv : ProcEnv)
    (ht : Expressible t = true) (hc : d.compatB t = true) (hs : t.leaves.Perm (Lf ++ Le))
    (hsel : (penv.filter fun e => !foreignTo configured e) = withPrefix (trimSpace configured) (envOf Le)) :
    loadP d (fromLeaves Lf) configured penv ≈ load d t [] := by
  rw [c20_prefix_foreign_ignored, hsel, c20_prefix_env_equiv]
  exact c20_split d t Lf Le ht hc hs

/-- the hypotheses are satisfiable: a configuration with a list, `port` and the second entry from variables
    under a mixed-case prefix, a same-named upper-case variable and `PATH` in between -/
example :
    let t : Val := .map (.cons c!"log_level" (.atom "\"debug\"") (.cons c!"port" (.atom "8080")
      (.cons c!"entries" (.seq (.cons (.map (.cons c!"name" (.atom "\"first\"") .nil))
        (.cons (.map (.cons c!"name" (.atom "\"second\"") .nil)) .nil))) .nil)))
    let Lf : List (Path × String) := [([.key c!"log_level"], "\"debug\""), ([.key c!"entries", .idx 0, .key c!"name"], "\"first\"")]
    let Le : List (Path × String) := [([.key c!"port"], "8080"), ([.key c!"entries", .idx 1, .key c!"name"], "\"second\"")]
    let penv : ProcEnv := [(c!"DEMOCFG_PORT", "1"), (c!"DemoCfg_PORT", "8080"), (c!"PATH", "\"/bin\""),
      (c!"DemoCfg_ENTRIES_1_NAME", "\"second\"")]
    Expressible t = true ∧ t.leaves.Perm (Lf ++ Le)
    ∧ (penv.filter fun e => !foreignTo c!"DemoCfg_" e) = withPrefix (trimSpace c!"DemoCfg_") (envOf Le) := by
  decide +kernel

/-! ## values: the environment spelling of a value the file can carry -/

/-- The plain spelling of a value in an environment variable yields the same leaf as the file carrying the value,
    for every typed value and every YAML reading `y` of the spelling that is faithful (the text itself; the integer
    whose canonical numeral is the text; for a boolean property the boolean the text names).
    Partial: the full statement `∀ v y, SpellingEquivalent v y` is false on the code as it is, see the witnesses
    below (known finding C20-env-value-retyped): what is missing are the readings that print differently from what was
    written, for string properties. -/
theorem c20_env_spelling_partial (v : Value) (y : Scalar) (h : faithful v y = true) : SpellingEquivalent v y := by
  unfold SpellingEquivalent
  cases y with
  | str x =>
    have hx : x = v.spelling := beq_iff_eq.mp h
    subst hx
    cases v with
    | str s => rfl
    | text s => rfl
    | int n => show decode .int (.str (showInt n)) = .int n; rw [decode, parseCanon_showInt]
    | bool b => cases b <;> decide +kernel
  | int n =>
    simp only [faithful, Bool.and_eq_true, beq_iff_eq, bne_iff_ne] at h
    cases v with
    | str s => exact congrArg Leaf.str h.1.1
    | int m => rw [showInt_inj (a := n) (b := m) h.1.1]; rfl
    | bool b => exact absurd rfl h.2
    | text s => exact absurd rfl h.1.2
  | bool b =>
    simp only [faithful, Bool.and_eq_true, beq_iff_eq, bne_iff_ne] at h
    cases v with
    | bool b' => cases b <;> cases b' <;> first | rfl | exact absurd h.1.1.1 (by decide)
    | str s => exact absurd rfl h.1.1.2
    | int m => exact absurd rfl h.2
    | text s => exact absurd rfl h.1.2
  | _ => cases h

/-- the hypothesis is satisfiable by the interesting cases: a numeric password read as an integer, a negative number
    given as text, a boolean, a duration -/
example : faithful (.str c!"42") (.int 42) = true ∧ faithful (.int (-3)) (.str c!"-3") = true
    ∧ faithful (.bool true) (.bool true) = true ∧ faithful (.text c!"5s") (.str c!"5s") = true := by
  decide +kernel

/-- the full statement fails: `ID=true` for a string property arrives as `"1"`, ... -/
theorem c20_env_spelling_fails_bool : ¬ SpellingEquivalent (.str c!"true") (.bool true) :=
  fun h => absurd (Leaf.str.inj h) (by decide)

/-- ... and `PASSWORD=007` (YAML reads the integer 7) arrives as `"7"` -/
theorem c20_env_spelling_fails_numeral : ¬ SpellingEquivalent (.str c!"007") (.int 7) := by
  exact fun h => absurd (Leaf.str.inj h) (by decide +kernel)

/-- ... and `NAME=~` (as `null`, `Null`, blanks, and for a non-empty default the empty text): YAML reads nil, the
    string property keeps its default instead of the text (same known finding) -/
theorem c20_env_spelling_fails_nil : ¬ SpellingEquivalent (.str c!"~") .null := by
  intro h; cases h

/-- A nil value (the empty variable, `null`, `~`) arriving at a typed leaf – string, number, boolean, hook-parsed –
    leaves what the decoding target held before: the default of the property.
    Together with `c20_env_nil_wins`: a variable that defines a property to be nil resets it to its default, whatever the
    file says, which is what the file saying `null` at that property gives (`c20_env_as_file`). -/
theorem c20_nil_keeps_default (t : LeafType) (ht : t ≠ .any) (dflt : Leaf) : decodeOver t dflt .null = dflt := by
  cases t <;> first | rfl | exact absurd rfl ht

/-- ... and a member of a free-form map (the `config` of a mechanism) becomes nil itself, default or not -/
theorem c20_nil_member_is_nil (dflt : Leaf) : decodeOver .any dflt .null = .raw .null := rfl

/-- ... and every other reading replaces the default (the decoder writes the target): the default plays no role -/
theorem c20_value_replaces_default (t : LeafType) (dflt : Leaf) (y : Scalar) (h : decode t y ≠ .zero) :
    decodeOver t dflt y = decode t y := by
  unfold decodeOver
  split
  · next h0 => exact absurd h0 h
  · rfl

/-- not vacuous: a port from the environment over the default port -/
example : decode .int (.int 9000) ≠ .zero ∧ decodeOver .int (.int 4455) (.int 9000) = .int 9000 := by decide +kernel

/-! ## dialect: the validation of the file, the loader and the typing of variables read a text alike -/

/-- The scalar the schema validation judges is the scalar the loader merges, and the scalar a variable with the same
    text delivers, for every text. In the model the three decoders are one function (in /repo all three are
    gopkg.in/yaml.v3); that the REAL `ValidateConfig`, the real `koanfFromYaml` and the real `toRealType` agree with
    `readText` – and with each other – on the whole pool of dialect-sensitive texts is the obligation the
    correspondence check discharges on every run (harness op `readings`, values stream `dialect`). -/
theorem c20_validator_reads_like_loader (t : List Char) :
    validatorReads t = loaderReads t ∧ loaderReads t = envReads t := ⟨rfl, rfl⟩

/-- The loader's dialect (YAML 1.2 core schema): among ALL plain texts exactly `true True TRUE` / `false False FALSE`
    are booleans. In particular no spelling of `yes no on off y n` is. -/
theorem c20_only_six_booleans (s : List Char) (b : Bool) (h : readPlain s = .bool b) :
    (b = true ∧ s ∈ trueWords) ∨ (b = false ∧ s ∈ falseWords) := by
  rcases readPlain_cases s with hw | ⟨_, hn⟩ | hn | ⟨r, hr⟩ | hs
  · rw [h] at hw
    rcases wordReading_some hw with ⟨e, _⟩ | ⟨e, hm⟩ | ⟨e, hm⟩ | ⟨r, e⟩ <;> cases e
    · exact .inl ⟨rfl, hm⟩
    · exact .inr ⟨rfl, hm⟩
  · cases h.symm.trans hn
  · exact absurd (hn.symm.trans h) (numericReading_ne_bool _ _)
  · cases h.symm.trans hr
  · cases h.symm.trans hs

/-- ... and exactly `~ null Null NULL` and the empty text are nil -/
theorem c20_only_five_nils (s : List Char) (h : readPlain s = .null) : s ∈ nullWords := by
  rcases readPlain_cases s with hw | ⟨rfl, _⟩ | hn | ⟨r, hr⟩ | hs
  · rw [h] at hw
    rcases wordReading_some hw with ⟨_, hm⟩ | ⟨e, _⟩ | ⟨e, _⟩ | ⟨r, e⟩
    · exact hm
    all_goals cases e
  · simp [nullWords]
  · exact absurd (hn.symm.trans h) (numericReading_ne_null _)
  · cases h.symm.trans hr
  · cases h.symm.trans hs

/-- The texts decoders of other dialects read differently (YAML 1.1 booleans in every case, the merge key, the value
    key, sexagesimal numbers, near-octals) are, for validator, loader and environment typing alike, the string written. -/
theorem c20_dialect_words_are_strings :
    ∀ w ∈ dialectStrings, validatorReads w = some (.str w) ∧ loaderReads w = some (.str w) ∧ envReads w = some (.str w) := by
  decide +kernel

/-- ... and these are not (nil words, octal / hexadecimal / underscore / exponent numerals, `.inf`, `.NaN`, a date, a
    boolean): the file has to quote them for a string property, as the schema demands -/
theorem c20_dialect_retyped_readings : ∀ p ∈ dialectRetyped, readText p.1 = some p.2 := by
  decide +kernel

/-- File ≡ environment for one text: whenever the file that says `t` at a leaf passes the validation, a variable carrying
    `t` for that leaf yields the very same leaf (any leaf type, any JSON type the schema asks for, any text). -/
theorem c20_file_accepted_same_as_env (lt : LeafType) (want : JsonType) (t : List Char) (l : Leaf)
    (h : fileOutcomeOf lt want t = some (.leaf l)) : envOutcomeOf lt t = some (.leaf l) := by
  cases hr : readText t with
  | none => simp [fileOutcomeOf, validatorReads, hr] at h
  | some y =>
    rw [fileOutcomeOf_eq hr, Option.some.injEq, fileOutcome] at h
    rw [envOutcomeOf_eq hr]
    split at h
    · exact congrArg some h
    · cases h

/-- the hypothesis is satisfiable: `x-authenticated: yes` of a header finalizer (a member of a free-form map, the
    schema wants a string) and `host: on` (a string field) -/
example : fileOutcomeOf .any .string c!"yes" = some (.leaf (.raw (.str c!"yes")))
    ∧ fileOutcomeOf .string .string c!"on" = some (.leaf (.str c!"on")) := by decide +kernel

/-- A text all three decoders read as a string `s` (plain like `yes`, `1:30`, `<<`, or quoted like `"017"`) is usable
    from the file and from the environment and arrives as `s` from both, at a string field of the configuration and at
    a member of a free-form map (header template, `subject`, `auth_class`, `realm`, key store `password`). -/
theorem c20_string_text_usable_from_both (t s : List Char) (h : readText t = some (.str s)) :
    fileOutcomeOf .string .string t = some (.leaf (.str s)) ∧ envOutcomeOf .string t = some (.leaf (.str s))
    ∧ fileOutcomeOf .any .string t = some (.leaf (.raw (.str s))) ∧ envOutcomeOf .any t = some (.leaf (.raw (.str s))) := by
  exact ⟨fileOutcomeOf_eq h _ _, envOutcomeOf_eq h _, fileOutcomeOf_eq h _ _, envOutcomeOf_eq h _⟩

/-- not vacuous: plain, single and double quoted -/
example : readText c!"off" = some (.str c!"off") ∧ readText c!"'017'" = some (.str c!"017")
    ∧ readText c!"\"~\"" = some (.str c!"~") := by decide +kernel

/-- "Usable from a file iff usable from the environment" for a string property, text by text. Partial: it holds for
    every text read as a string, as a timestamp or as a collection (usable from both, resp. from neither); it is false
    on the code as it is for the texts read as nil, integer, float or boolean – the schema rejects the unquoted text in
    the file while the variable is retyped and loads (`c20_string_place_file_iff_env_fails_numeral`, known finding
    C20-env-value-retyped). -/
theorem c20_string_place_file_iff_env_partial (t : List Char) (y : Scalar) (h : readText t = some y)
    (hy : (∃ s, y = .str s) ∨ y = .time ∨ y = .coll) :
    ∃ f e, fileOutcomeOf .string .string t = some f ∧ envOutcomeOf .string t = some e ∧ f.usable = e.usable := by
  refine ⟨_, _, fileOutcomeOf_eq h _ _, envOutcomeOf_eq h _, ?_⟩
  rcases hy with ⟨s, rfl⟩ | rfl | rfl <;> rfl

/-- the hypotheses are satisfiable by each kind: a YAML 1.1 boolean word, and a date -/
example : readText c!"no" = some (.str c!"no") ∧ readText c!"2001-12-14" = some .time := by decide +kernel

/-- the unrestricted statement fails: `host: 017` is rejected by the schema ("got number, want string"), `HOST=017`
    loads (as `"15"`) -/
theorem c20_string_place_file_iff_env_fails_numeral :
    fileOutcomeOf .string .string c!"017" = some .rejected
    ∧ (∃ e, envOutcomeOf .string c!"017" = some e ∧ e.usable = true) := by
  have hr : readText c!"017" = some (.int 15) := by decide +kernel
  exact ⟨fileOutcomeOf_eq hr _ _, _, envOutcomeOf_eq hr _, rfl⟩

/-- Why a validator with another dialect breaks the property (stated for any validator reading): if
    the validator reads a boolean where the loader reads the string, the file is rejected although the variable loads. -/
theorem c20_other_dialect_rejects (s : List Char) (b : Bool) :
    fileOutcome .string .string (.bool b) (.str s) = .rejected
    ∧ (envOutcome .string (.str s)).usable = true ∧ (fileOutcome .string .string (.str s) (.str s)).usable = true := by
  exact ⟨rfl, rfl, rfl⟩


/-! ## histories: a load is a function of its own file and environment -/

/-- Whatever was loaded before and whatever is loaded afterwards in the same process, the result of a load is
    `load` of its own defaults, file and environment. -/
theorem c20_history_independent (pre post : List (Val × Val × Env)) (d f : Val) (env : Env) :
    (runHistory (pre ++ (d, f, env) :: post))[pre.length]? = some (load d f env) := by
  simp [runHistory]

/-! ## schema of the file = what the loader supports (over the tables regenerated from the source on every run) -/

open Heimdall.Config.Schema in
/-- obligation over the generated tables, re-checked against the current source on every run -/
theorem c20_tables_agree : tablesAgree = true := by decide +kernel

open Heimdall.Config.Schema in
/-- The schema validation applied to the file accepts exactly the mechanism (and cache) types for which the loader has
    a factory; every option of the static configuration the schema names is read by the loader (nothing is accepted
    and then ignored), and every option the loader reads passes the schema. Hence a configuration is usable from a
    file if and only if it is usable from the environment, as far as types and option names go. -/
theorem c20_schema_eq_loader :
    (∀ cat typ, schemaAcceptsType cat typ = loaderSupportsType cat typ)
    ∧ (∀ path key, schemaNamesOption path key = true → loaderReadsOption path key = true)
    ∧ (∀ path key, loaderReadsOption path key = true → schemaAcceptsOption path key = true) := by
  have h := c20_tables_agree
  simp only [tablesAgree, Bool.and_eq_true] at h
  obtain ⟨⟨h1, h2⟩, h3⟩ := h
  simp only [List.all_eq_true, Bool.and_eq_true] at h3
  -- what the agreement of the tables says of the row found for a path
  have hrow := fun path r (hr : row? path = some r) => h3 r (List.mem_of_find?_eq_some hr)
  refine ⟨fun cat typ => contains_congr h1 h2 _, fun path key hk => ?_, fun path key hk => ?_⟩
  · simp only [schemaNamesOption, loaderReadsOption] at hk ⊢
    cases hr : row? path with
    | none => simp [hr] at hk
    | some r => simp only [hr] at hk ⊢; exact (hrow path r hr).1 key (List.contains_iff_mem.mp hk)
  · simp only [schemaAcceptsOption, loaderReadsOption] at hk ⊢
    cases hr : row? path with
    | none => simp [hr] at hk
    | some r => simp only [hr] at hk ⊢; exact (hrow path r hr).2 key (List.contains_iff_mem.mp hk)

open Heimdall.Config.Schema in
/-- the statement is not vacuous: a type and an option that both sides know, and one that neither knows -/
example : schemaAcceptsType "authenticators" "jwt" = true ∧ loaderSupportsType "finalizers" "nope" = false
    ∧ loaderReadsOption "serve.proxy.respond.with" "precondition_error" = true
    ∧ schemaAcceptsOption "serve.proxy.respond.with" "argument_error" = false := by decide +kernel

/-! ## options inside a mechanism's `config`: the file validation and the type factories know the same names

Over the table measured on the running code in every run (`Gen/ConfigSchema.lean`, `mechOptionTable`): the real
`ValidateConfig` and the real type factories were asked about every candidate name at every place below `config`. -/

open Heimdall.Config.Schema in
/-- obligation over the measured table, re-measured on the current code on every run -/
theorem c20_mech_tables_agree : mechTablesAgree = true := by decide +kernel

open Heimdall.Config.Schema in
/-- For every mechanism type, every place below its `config` and EVERY option name: what the type factory reads passes
    the validation of the file (so what is usable from variables is usable from a file); where both sides check names
    they accept exactly the same names; and where a factory takes no notice of its config the file validation accepts
    no option (nothing is accepted and then ignored). -/
theorem c20_mech_options_schema_eq_loader (r : MechRow) (hr : r ∈ Heimdall.Gen.ConfigSchema.mechOptionTable)
    (key : String) :
    (r.loaderReads key = true → r.schemaAccepts key = true)
    ∧ (r.schemaClosed = true → r.loaderClosed = true → r.schemaAccepts key = r.loaderReads key)
    ∧ (r.loaderClosed = false → r.schemaAccepts key = false) := by
  have h := c20_mech_tables_agree
  simp only [mechTablesAgree, Bool.and_eq_true, List.all_eq_true] at h
  have hok := h.1.2 r hr
  unfold mechRowOk at hok
  cases hl : r.loaderClosed with
  | false =>
    simp only [hl, Bool.false_eq_true, if_false, Bool.and_eq_true, List.isEmpty_iff] at hok
    obtain ⟨⟨hsc, hsn⟩, _⟩ := hok
    refine ⟨by simp [MechRow.loaderReads, hl], by simp, fun _ => ?_⟩
    simp [MechRow.schemaAccepts, hsc, hsn]
  | true =>
    simp only [hl, if_true, Bool.or_eq_true, Bool.not_eq_true', Bool.and_eq_true, List.all_eq_true] at hok
    refine ⟨fun hrd => ?_, fun hsc _ => ?_, by simp⟩
    · simp only [MechRow.loaderReads, hl, Bool.true_and] at hrd
      rcases hok with hopen | ⟨hsub, _⟩
      · simp [MechRow.schemaAccepts, hopen]
      · simp only [MechRow.schemaAccepts, Bool.or_eq_true]
        exact Or.inr (hsub key (List.contains_iff_mem.mp hrd))
    · rcases hok with hopen | ⟨hsub, hsup⟩
      · rw [hsc] at hopen; exact absurd hopen (by simp)
      · simp only [MechRow.schemaAccepts, MechRow.loaderReads, hsc, hl, Bool.not_true, Bool.false_or, Bool.true_and]
        exact contains_congr (List.all_eq_true.mpr hsup) (List.all_eq_true.mpr hsub) key

open Heimdall.Config.Schema in
/-- not vacuous: measured rows of the table – a type that reads options (also below `config.endpoint`), and one whose
    factory ignores the config -/
example : (mechRow? "error_handlers" "www_authenticate" "").isSome = true
    ∧ (mechRow? "authorizers" "remote" "endpoint").isSome = true
    ∧ (mechRow? "finalizers" "noop" "").map (·.loaderClosed) = some false := by decide +kernel

open Heimdall.Config.Schema in
/-- Hence, as far as types and option names go: a mechanism declaration all of whose options stand where the factory
    checks names is usable from a file if and only if it is usable from environment variables – for every category,
    type and list of options. -/
theorem c20_mech_usable_file_iff_env (d : MechDecl) (he : d.effective = true) :
    d.usableFromFile = d.usableFromEnv := by
  unfold MechDecl.usableFromFile MechDecl.usableFromEnv
  cases hf : d.factoryAccepts with
  | false => simp
  | true =>
    simp only [Bool.and_true]
    simp only [MechDecl.factoryAccepts, Bool.and_eq_true, List.all_eq_true] at hf
    simp only [MechDecl.effective, List.all_eq_true] at he
    simp only [MechDecl.validationAccepts, Bool.and_eq_true, List.all_eq_true]
    refine ⟨by rw [c20_schema_eq_loader.1]; exact hf.1, fun o ho => ?_⟩
    have h1 := hf.2 o ho
    have h2 := he o ho
    cases hrow : mechRow? d.cat d.typ o.1 with
    | none => simp [hrow] at h1
    | some r =>
      simp only [hrow] at h1 h2 ⊢
      have hm : r ∈ Heimdall.Gen.ConfigSchema.mechOptionTable := List.mem_of_find?_eq_some hrow
      apply (c20_mech_options_schema_eq_loader r hm o.2).1
      simp only [MechRow.loaderRefuses, h2, Bool.true_and, Bool.not_eq_true', Bool.not_eq_false'] at h1
      simp only [MechRow.loaderReads, h2, Bool.true_and]
      exact h1

open Heimdall.Config.Schema in
/-- the hypothesis is satisfiable and both outcomes occur: the realm of a `www_authenticate` error handler is usable from
    both sources, an option no factory reads from neither -/
example :
    let good : MechDecl := ⟨"error_handlers", "www_authenticate", [("", "realm")]⟩
    let bad : MechDecl := ⟨"error_handlers", "www_authenticate", [("", "realm"), ("", "zz_unknown")]⟩
    good.effective = true ∧ good.usableFromFile = true ∧ good.usableFromEnv = true
    ∧ bad.effective = true ∧ bad.usableFromFile = false ∧ bad.usableFromEnv = false := by decide +kernel

open Heimdall.Config.Schema in
/-- What the hypothesis `effective` excludes, for every declaration: an option handed to a mechanism whose factory takes
    no notice of its config (`noop`, `allow`, `deny`, `default`, `unauthorized`) is rejected in a file, while the same
    variable changes nothing – it is no option of the mechanism. -/
theorem c20_mech_ignored_config_refused_by_file (d : MechDecl) (o : String × String) (ho : o ∈ d.options)
    (r : MechRow) (hrow : mechRow? d.cat d.typ o.1 = some r) (hl : r.loaderClosed = false) :
    d.usableFromFile = false := by
  have hm : r ∈ Heimdall.Gen.ConfigSchema.mechOptionTable := List.mem_of_find?_eq_some hrow
  have hs := (c20_mech_options_schema_eq_loader r hm o.2).2.2 hl
  have : d.validationAccepts = false := by
    simp only [MechDecl.validationAccepts, Bool.and_eq_false_iff, List.all_eq_false]
    exact Or.inr ⟨o, ho, by simp [hrow, hs]⟩
  simp [MechDecl.usableFromFile, this]

/-! ## References to environment variables in the file (`${NAME}`)

The file may take the value of a property from a variable of any name. The reference is resolved in the TEXT of the
file before YAML reads it, so the file with the reference is the file that says the contents literally at that place –
quotes around the reference included. -/

/-- Resolving references is textual: a reference `${NAME}` – wherever it stands, between quotes, inside a longer text –
    is replaced by the contents of the variable, what stands before it (no `$`) is copied, the rest is resolved on. -/
theorem c20_reference_is_textual (vs : Vars) (pre n post : List Char) (hp : noDollar pre = true)
    (hn : nameOk n = true) :
    substitute vs (pre ++ (plainRef n ++ post))
      = (substitute vs post).map (fun s => pre ++ (vs.contents n ++ s)) :=
  substitute_reference vs pre n post hp hn

/-- hypotheses satisfiable, non-trivially: `p: "${PW}" # x` with `PW=0815` is `p: "0815" # x` -/
example : substitute [(c!"PW", c!"0815")] (c!"p: \"" ++ (plainRef c!"PW" ++ c!"\" # x")) = some c!"p: \"0815\" # x" := by
  decide +kernel

/-- A file without references is read as it is. -/
theorem c20_no_reference_unchanged (vs : Vars) (t : List Char) (h : noDollar t = true) :
    loaderReadsRef vs t = loaderReads t ∧ validatorReadsRef vs t = validatorReads t := by
  exact ⟨readRefText_eq (substitute_noDollar vs t h), readRefText_eq (substitute_noDollar vs t h)⟩

/-- **A quoted reference is the string of the contents.** For every variable name and ALL contents that may stand
    between double quotes (no `"`, no `\`, one line) – `0815`, `007`, `1e3`, `0x1f`, `true`, `null`, `~`, a date, the empty
    text –: the file saying `"${NAME}"` is read, by the loader and by the validation, as the string of the contents;
    exactly as the file that says `"contents"` literally and as the property's own variable carrying `"contents"`. -/
theorem c20_quoted_reference_is_string (vs : Vars) (n : List Char) (hn : nameOk n = true)
    (hv : dquoteSafe (vs.contents n) = true) :
    loaderReadsRef vs (dquoted (plainRef n)) = some (.str (vs.contents n))
    ∧ validatorReadsRef vs (dquoted (plainRef n)) = some (.str (vs.contents n))
    ∧ loaderReads (dquoted (vs.contents n)) = some (.str (vs.contents n))
    ∧ envReads (dquoted (vs.contents n)) = some (.str (vs.contents n)) := by
  have hs : substitute vs (dquoted (plainRef n)) = some (dquoted (vs.contents n)) :=
    substitute_wrapped vs ['"'] n ['"'] rfl hn rfl
  have hr := readText_dquoted _ hv
  exact ⟨(readRefText_eq hs).trans hr, (readRefText_eq hs).trans hr, hr, hr⟩

theorem c20_single_quoted_reference_is_string (vs : Vars) (n : List Char) (hn : nameOk n = true)
    (hv : squoteSafe (vs.contents n) = true) :
    loaderReadsRef vs (squoted (plainRef n)) = some (.str (vs.contents n))
    ∧ validatorReadsRef vs (squoted (plainRef n)) = some (.str (vs.contents n))
    ∧ envReads (squoted (vs.contents n)) = some (.str (vs.contents n)) := by
  have hs : substitute vs (squoted (plainRef n)) = some (squoted (vs.contents n)) :=
    substitute_wrapped vs ['\''] n ['\''] rfl hn rfl
  have hr := readText_squoted _ hv
  exact ⟨(readRefText_eq hs).trans hr, (readRefText_eq hs).trans hr, hr⟩

-- `floatLimit` is `2 ^ 1024 - 2 ^ 970`: reading `0815` as a float compares against it
set_option exponentiation.threshold 2048 in
/-- the hypotheses are satisfiable, and the quotes matter: with `PW=0815` the quoted reference is the string `0815`
    (a key store password), the plain reference is a number; with `PW=null` the quoted one is
    the string `null`, the plain one nil -/
example :
    let vs : Vars := [(c!"PW", c!"0815"), (c!"N", c!"null")]
    nameOk c!"PW" = true ∧ dquoteSafe (vs.contents c!"PW") = true
    ∧ loaderReadsRef vs c!"\"${PW}\"" = some (.str c!"0815")
    ∧ loaderReadsRef vs c!"${PW}" = some (.float c!"815")
    ∧ loaderReadsRef vs c!"'${N}'" = some (.str c!"null")
    ∧ loaderReadsRef vs c!"${N}" = some .null
    ∧ loaderReadsRef vs c!"${UNSET:=4460}" = some (.int 4460) := by decide +kernel

/-- Hence for every leaf type: a string property given as `"${NAME}"` in the file passes the validation and yields the
    same leaf as the literal `"contents"` in the file and as the property's own variable carrying `"contents"` – usable
    from the file iff usable from the environment, with identical effect. -/
theorem c20_quoted_reference_same_as_literal_and_env (lt : LeafType) (vs : Vars) (n : List Char)
    (hn : nameOk n = true) (hv : dquoteSafe (vs.contents n) = true) :
    fileOutcomeRef lt .string vs (dquoted (plainRef n)) = some (.leaf (decode lt (.str (vs.contents n))))
    ∧ fileOutcomeOf lt .string (dquoted (vs.contents n)) = some (.leaf (decode lt (.str (vs.contents n))))
    ∧ envOutcomeOf lt (dquoted (vs.contents n)) = some (.leaf (decode lt (.str (vs.contents n)))) := by
  obtain ⟨h1, h2, h3, _⟩ := c20_quoted_reference_is_string vs n hn hv
  exact ⟨by rw [fileOutcomeRef, h2, h1]; rfl, fileOutcomeOf_eq h3 _ _, envOutcomeOf_eq h3 _⟩

/-- A plain reference (`port: ${PORT}`) is read exactly as the property's own variable carrying the contents is read:
    YAML decides what the contents are (a number, a boolean, nil, a string). -/
theorem c20_plain_reference_reads_as_variable (vs : Vars) (n : List Char) (hn : nameOk n = true) :
    loaderReadsRef vs (plainRef n) = envReads (vs.contents n)
    ∧ validatorReadsRef vs (plainRef n) = envReads (vs.contents n) := by
  have hs : substitute vs (plainRef n) = some (vs.contents n) := by
    simpa using substitute_wrapped vs [] n [] rfl hn rfl
  exact ⟨readRefText_eq hs, readRefText_eq hs⟩

end Heimdall.Props.C20
