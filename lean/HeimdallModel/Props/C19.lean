import HeimdallModel.Lemmas.Loaders
import HeimdallModel.Gen.LoaderGuards
/-!
# C19 — no reloadable or remote input can crash the process

Theorems about the model of heimdall's run-time readers (`Model/Loaders.lean`): key stores and trust stores (any
list of PEM blocks, any truncation of it, any key sizes, any certificates and issuer relations), rule sets (any
untyped value in any position the rule factory and the scopes hook look at, pipelines of any length, any mechanism
catalogue), the background goroutines that apply them (any sequence of notifications), the request goroutines, the
credentials file of the redis cache (whatever the YAML decoder finds in it, any history of reloads and re-connects),
the secrets watcher over several files (any history of file operations), rule sets polled from an HTTP endpoint (any
history of complete, partial and missing responses), and the kubernetes provider's status update and copy of a
RuleSet resource (any `status.activeIn`, any answers of the API server, any JSON value in a mechanism config).

The model is parameterised by `Guards`: one flag per check in the code.  The theorems say for **every** flag
combination whether the guarantee holds (`… ↔ …`), so they cover the code as it is (`Guards.head`, all checks) and
the code as it was (`Guards.original`) alike; the correspondence run establishes which of the two the working tree
behaves like, on concrete files.
-/
namespace Heimdall.Props.C19
open Heimdall Heimdall.Loaders

/-! ## key stores -/

/-- **The certificate walk ends.** With the visited check `buildChain` needs at most one call per certificate of
the file, and the chain it returns starts at the certificate of the key and consists of certificates of the file. -/
theorem c19_chain_walk_ends (g : Guards) (hg : g.chainVisited = true) (certs : List Cert) (c : Cert) :
    ∃ chain, buildChain g (certs.length + 1) [] c certs = some chain ∧ [c] <+: chain ∧
      ∀ x ∈ chain, x = c ∨ x ∈ certs := by
  obtain ⟨chain, hb, hpre, hin⟩ := buildChain_start g hg certs c
  exact ⟨chain, hb, hpre, fun x hx => (hin x hx).imp_left List.mem_singleton.mp⟩

example : Guards.head.chainVisited = true := rfl

/-- **… and without the check it does not.** A certificate and its renewal (same subject, same key; likewise two
authorities that certify each other) send the walk back and forth for ever: no amount of stack suffices. -/
theorem c19_chain_walk_diverges (g : Guards) (hg : g.chainVisited = false) (fuel : Nat) (done : List Cert) :
    buildChain g fuel done (Witness.selfSigned 10 4 "me")
        [Witness.selfSigned 10 4 "me", Witness.selfSigned 11 4 "me"] = none ∧
      buildChain g fuel done (Witness.selfSigned 11 4 "me")
        [Witness.selfSigned 10 4 "me", Witness.selfSigned 11 4 "me"] = none := by
  cases g
  cases hg
  -- without the check each of the two is the other's next issuer whatever the chain so far: one call of the walk from
  -- either is the walk from the other with less fuel
  induction fuel generalizing done with
  | zero => exact ⟨rfl, rfl⟩
  | succ n ih => exact ⟨(ih _).2, (ih _).1⟩

example : Guards.original.chainVisited = false := rfl

/-- **The guard has to be the whole chain.** Remembering only the certificate the walk came from ends every cycle
of two, but three generations of one certificate (likewise three authorities certifying each other in a circle) send
it round for ever: `a → b → c → a → …`, for every amount of fuel, from the start and from every point of the circle. -/
theorem c19_predecessor_guard_insufficient (fuel : Nat) :
    let a := Witness.selfSigned 10 4 "me"
    let b := Witness.selfSigned 11 4 "me"
    let c := Witness.selfSigned 12 4 "me"
    ∀ done : List Cert,
      ((done.getLast? = none ∨ done.getLast? = some c) → buildChainPrev fuel done a [a, b, c] = none) ∧
      (done.getLast? = some a → buildChainPrev fuel done b [a, b, c] = none) ∧
      (done.getLast? = some b → buildChainPrev fuel done c [a, b, c] = none) := by
  intro a b c
  induction fuel with
  | zero => intro done; exact ⟨fun _ => rfl, fun _ => rfl, fun _ => rfl⟩
  | succ n ih =>
    -- with the predecessor put in, the next issuer is the next of the circle: one call of the walk from a point is
    -- the walk from the next point with less fuel
    intro done
    refine ⟨fun h => ?_, fun h => ?_, fun h => ?_⟩
    · rcases h with h | h <;>
        (simp only [buildChainPrev, nextIssuerPrev, h]; exact (ih (done ++ [a])).2.1 List.getLast?_concat)
    · simp only [buildChainPrev, nextIssuerPrev, h]
      exact (ih (done ++ [b])).2.2 List.getLast?_concat
    · simp only [buildChainPrev, nextIssuerPrev, h]
      exact (ih (done ++ [c])).1 (Or.inr List.getLast?_concat)

/-- the same weaker guard ends on two generations (which is why a pool with cycles of two cannot tell the guards
apart), the full guard ends on three -/
example : buildChainPrev 3 [] (Witness.selfSigned 10 4 "me")
    [Witness.selfSigned 10 4 "me", Witness.selfSigned 11 4 "me"] =
      some [Witness.selfSigned 10 4 "me", Witness.selfSigned 11 4 "me"] := by decide +kernel
example : buildChain Guards.head 4 [] (Witness.selfSigned 10 4 "me")
    [Witness.selfSigned 10 4 "me", Witness.selfSigned 11 4 "me", Witness.selfSigned 12 4 "me"] =
      some [Witness.selfSigned 10 4 "me", Witness.selfSigned 11 4 "me", Witness.selfSigned 12 4 "me"] := by decide +kernel

/-- **Key material never crashes a loader — exactly under the four checks.** For every component, key id and list
of PEM blocks the load returns (new material or an error) if and only if the walk is bounded, the loaders ask
whether the store has a key before taking the first one, reject keys without JOSE algorithm, and the HTTP message
signer knows the size the store reports for P-521. -/
theorem c19_material_returns_iff (g : Guards) :
    (∀ (c : Consumer) (keyId : String) (blocks : List Block), (load g c keyId blocks).returns = true) ↔
      (g.chainVisited && g.materialSafe) = true := by
  refine iff_check (fun hg c keyId blocks => ?_) fun hg h => ?_
  · rw [Bool.and_eq_true] at hg
    exact load_returns g hg.1 hg.2 c keyId blocks
  · rcases (Bool.and_eq_false_iff.mp hg) with hv | hm
    · exact ((Out.returns_iff _).mp (h ..)).2 (renewed_fatal g hv .tls)
    · obtain ⟨c, blocks, hp⟩ := load_panics g hm
      exact ((Out.returns_iff _).mp (h ..)).1 hp

example : (Guards.head.chainVisited && Guards.head.materialSafe) = true := by decide +kernel
example : (Guards.original.chainVisited && Guards.original.materialSafe) = false := by decide +kernel

/-- what a usable key store loads to, per component -/
example : load Guards.head .jwt "" Witness.good = .ok ⟨"3f5128b1", "PS256", ["3f5128b1"], "", 0⟩ := by decide +kernel
example : load Guards.head .tls "" Witness.good = .ok ⟨"3f5128b1", "", [], "12", 1⟩ := by decide +kernel

/-- the inputs of the findings, before and after -/
example : load Guards.original .jwt "" [] = .panic ∧ load Guards.head .jwt "" [] = .err .noKeys := by decide +kernel
example : load Guards.original .jwt "" [Witness.keyBlock Witness.rsa1024] = .panic ∧
    load Guards.head .jwt "" [Witness.keyBlock Witness.rsa1024] = .err .unsupportedKeySize := by decide +kernel
example : load Guards.original .httpsig "" [Witness.keyBlock Witness.ec521] = .panic ∧
    (load Guards.head .httpsig "" [Witness.keyBlock Witness.ec521]).isOk = true := by decide +kernel
example : load Guards.original .tls "" Witness.renewed = .fatal ∧
    load Guards.head .tls "" Witness.renewed = .err .chainInvalid := by decide +kernel

/-- **Every truncation.** Whatever prefix of the blocks of a file a loader finds while the file is being written,
the load returns; and a prefix without a complete key (in particular the empty file and a file of certificates
only) is never taken over, so the material in use stays. -/
theorem c19_truncations (g : Guards) (hg : (g.chainVisited && g.materialSafe) = true) (c : Consumer)
    (keyId : String) (blocks : List Block) (t : List Block) (_ht : t ∈ truncations blocks) :
    (load g c keyId t).returns = true ∧
      ((∀ b ∈ t, ∀ k, b.content ≠ .key k) → ∀ st, (reload g c keyId st t).2 = st) := by
  refine ⟨(c19_material_returns_iff g).mpr hg c keyId t, fun hno st => ?_⟩
  rw [reload_eq_commit]
  exact commit_rejected (load_no_keys g c keyId t hno) some st

example : [Witness.keyBlock Witness.rsa2048 .rsaKey] ∈ truncations Witness.good := by decide +kernel
example : ([] : List Block) ∈ truncations Witness.good := by decide +kernel

/-- **A reload keeps or replaces, nothing in between.** For every flag combination: new material is in effect
exactly after a successful load and is determined by the file alone; after an error — and even after a panic or a
fatal error — the material in use is the previous one. -/
theorem c19_reload_keeps_state (g : Guards) (c : Consumer) (keyId : String) (st : Option Loaded)
    (blocks : List Block) :
    (∀ s, load g c keyId blocks = .ok s → reload g c keyId st blocks = (.ok (), some s)) ∧
      ((load g c keyId blocks).isOk = false → (reload g c keyId st blocks).2 = st) := by
  rw [reload_eq_commit]
  exact ⟨fun s h => commit_accepted h some st, fun h => commit_rejected h some st⟩

/-- the judgement the check applies to what it observes is met by the model exactly when the load returns -/
theorem c19_reload_admissible_iff (g : Guards) (c : Consumer) (keyId : String) (st : Option Loaded)
    (blocks : List Block) :
    reloadAdmissible st (reload g c keyId st blocks).1 (reload g c keyId st blocks).2 = true ↔
      (load g c keyId blocks).returns = true := by
  rw [reload_eq_commit]
  exact Iff.of_eq (congrArg (· = true) (commit_admissible id ..))

/-! ## trust stores -/

/-- **Trust stores**: reading returns for every file (any blocks, anything or nothing after the last complete
block, strict or not) if and only if `ReadPEM` stops at the end of the PEM data. -/
theorem c19_trust_returns_iff (g : Guards) :
    (∀ (strict : Bool) (f : PemFile), (loadTrust g strict f).returns = true) ↔ g.pemEnd = true :=
  iff_check (loadTrust_returns g) fun hg h => ((Out.returns_iff _).mp (h ..)).1 (empty_trust_panics g hg true)

/-- with the check, a trust store that is accepted holds at least one certificate: an empty or not yet written
file is rejected, not turned into "trust nobody" silently -/
theorem c19_trust_never_empty (g : Guards) (hg : g.pemEnd = true) (strict : Bool) (f : PemFile) (cs : List Cert)
    (h : loadTrust g strict f = .ok cs) : cs ≠ [] := by
  rw [loadTrust_checked g hg] at h
  split at h
  · cases h
  · split at h
    · cases h
    · cases h
      rintro rfl
      contradiction

example : loadTrust Guards.original true ⟨[Witness.certBlock (Witness.selfSigned 1 1 "ca")], true⟩ = .panic ∧
    loadTrust Guards.head true ⟨[Witness.certBlock (Witness.selfSigned 1 1 "ca")], true⟩ =
      .ok [Witness.selfSigned 1 1 "ca"] := by decide +kernel
example : loadTrust Guards.head false ⟨[Witness.keyBlock Witness.rsa2048], false⟩ = .err .emptyTrustStore := by decide +kernel

/-! ## rule sets -/

/-- **The scopes hook** returns for every value if and only if it checks types instead of asserting them. -/
theorem c19_scopes_returns_iff (g : Guards) :
    (∀ v : Val, (decodeScopes g v).returns = true) ↔ g.scopeTypes = true := by
  refine iff_check (fun h v => ?_) fun hg h => ?_
  · exact (Out.within_false _).symm.trans (Out.within_or (decodeScopes_within g v) (Bool.or_eq_true_iff.mpr (.inl h)))
  · have := h (.list [.num 1])
    simp [decodeScopes, scopeValues, hg] at this

/-- **Type-confused rule sets never crash the loader — exactly under the checks.** For every mechanism catalogue,
every CEL compiler and every rule set document (any number of rules, `execute` / `on_error` of any shape, steps with
any value under any key) loading returns if and only if the factory and the scopes hook check types, or the rule
set processor recovers. -/
theorem c19_ruleset_returns_iff (g : Guards) :
    (∀ (env : Env) (d : RuleSetDoc), (loadRuleSet g env d).returns = true) ↔
      (g.factorySafe || g.processorRecover) = true := by
  refine iff_check (fun h env d => ?_) fun hg h => ?_
  · exact (Out.within_false _).symm.trans (Out.within_or (loadRuleSet_within g env d) (Bool.or_eq_true_iff.mpr (.inl h)))
  · obtain ⟨d, hp⟩ := loadRuleSet_panics g hg
    exact ((Out.returns_iff _).mp (h ..)).1 hp

example : (Guards.head.factorySafe || Guards.head.processorRecover) = true := by decide +kernel
example : (Guards.original.factorySafe || Guards.original.processorRecover) = false := by decide +kernel

/-- the inputs of the findings, before and after; a well-formed rule set is accepted by both -/
example : loadRuleSet Guards.original Witness.env Witness.confusedReference = .panic ∧
    loadRuleSet Guards.head Witness.env Witness.confusedReference = .err .badReferenceType := by
  decide +kernel
example : loadRuleSet Guards.original Witness.env Witness.confusedConfig = .panic ∧
    loadRuleSet Guards.head Witness.env Witness.confusedConfig = .err .badConfigType := by
  decide +kernel
example : loadRuleSet Guards.original Witness.env Witness.confusedScopes = .panic ∧
    loadRuleSet Guards.head Witness.env Witness.confusedScopes = .err .scopesShape := by
  decide +kernel
example : loadRuleSet Guards.original Witness.env Witness.wellFormed = .ok ["r1"] ∧
    loadRuleSet Guards.head Witness.env Witness.wellFormed = .ok ["r1"] := by
  decide +kernel

/-- **All or nothing.** For every flag combination, catalogue and document: if a rule set is accepted, the rules that
come into force for its file are all the rules of the document, in order — never a part of them, never none. -/
theorem c19_accepted_ruleset_is_complete (g : Guards) (env : Env) (d : RuleSetDoc) (ids : List String)
    (h : loadRuleSet g env d = .ok ids) : ids = d.rules.map (·.id) ∧ ids ≠ [] := by
  have hids := loadRuleSet_ids g env d ids h
  refine ⟨hids, fun hnil => ?_⟩
  unfold loadRuleSet at h
  split at h
  · cases h
  · rename_i hne
    rw [hids, List.map_eq_nil_iff] at hnil
    rw [hnil] at hne
    exact hne rfl

example : loadRuleSet Guards.head Witness.env Witness.wellFormed = .ok ["r1"] := by
  decide +kernel

/-- **A rejected rule file changes nothing.** For every flag combination: the rules in force for a file change only
when its content is taken over (a document that loads; an empty or vanished file, which means "no rules"); content that is
unparsable, type-confused or even crashing leaves them as they were. -/
theorem c19_rulefile_keeps_state (g : Guards) (env : Env) (st : Option (List String)) (content : FileContent) :
    (fileChanged g env st content).2 = orKeep (ruleLoads g env content) st ∧
      ((fileChanged g env st content).1.isOk = false → (fileChanged g env st content).2 = st) := by
  refine ⟨fileChanged_state g env st content, fun h => ?_⟩
  rw [fileChanged_eq_commit, commit_isOk] at h
  rw [fileChanged_eq_commit, commit_rejected h]

/-! ## goroutines -/

/-- **Watchers go on.** A background loop whose handlers end within what the loop recovers from survives every
sequence of notifications, handles every single one of them (it is not stopped), and ends in the state the
handlers leave one after the other. -/
theorem c19_watcher_goes_on {σ : Type} (guard : Bool) (hs : List (σ → Out Unit × σ)) (p : Proc σ)
    (hp : p.alive = true) (hw : ∀ h ∈ hs, ∀ s, (h s).1.within guard = true) :
    (run guard hs p).alive = true ∧ (run guard hs p).handled = p.handled + hs.length ∧
      (run guard hs p).state = hs.foldl (fun s h => (h s).2) p.state := by
  rw [run_of_within guard hs p hp hw]
  exact ⟨rfl, rfl, rfl⟩

/-- the hypothesis is met by a recovering loop whose handlers reload key material (bounded walk) -/
example (g : Guards) (hv : g.chainVisited = true) (c : Consumer) (keyId : String) (blocks : List Block)
    (s : Option Loaded) : (reload g c keyId s blocks).1.within true = true := by
  rw [reload_eq_commit, commit_outcome]
  exact Out.within_or (load_within_visited g hv c keyId blocks) (Bool.or_true _)

/-- a recovering loop over a panicking and a succeeding handler: both handled, the second one's state in effect -/
example : (run true [fun s => (.panic, s), fun _ => (.ok (), 7)] (⟨true, 0, 0⟩ : Proc Nat)).alive = true ∧
    (run true [fun s => (.panic, s), fun _ => (.ok (), 7)] (⟨true, 0, 0⟩ : Proc Nat)).handled = 2 ∧
    (run true [fun s => (.panic, s), fun _ => (.ok (), 7)] (⟨true, 0, 0⟩ : Proc Nat)).state = 7 := by decide +kernel

/-- **… and die of one unrecovered panic.** Without `recover` a single panicking handler ends the process; no
later notification is handled. -/
theorem c19_unrecovered_panic_ends_process {σ : Type} (h : σ → Out Unit × σ) (later : List (σ → Out Unit × σ))
    (p : Proc σ) (hp : p.alive = true) (hpanic : (h p.state).1 = .panic) :
    (run false (h :: later) p).alive = false ∧ (run false (h :: later) p).handled = p.handled := by
  have hd : deliver false h p = ⟨false, (h p.state).2, p.handled⟩ := by
    rw [deliver_alive false h p hp, hpanic]
    rfl
  rw [run, List.foldl_cons, ← run, run_dead false later _ (by rw [hd]), hd]
  exact ⟨rfl, rfl⟩

/-- **Requests.** With the recovery middleware and interceptor in place, a request whose handler panics is answered
with an error response on both kinds of servers and the process lives; without them the client of an HTTP service
loses its connection and a panic in the gRPC service ends the process. -/
theorem c19_requests (g : Guards) :
    ((∀ srv, serve g srv .panic = (true, .errorResponse)) ↔ (g.httpRecovery && g.grpcRecovery) = true) ∧
      (∀ srv r, serve g srv (.err r) = (true, .errorResponse)) ∧
      (g.grpcRecovery = false → serve g .grpc .panic = (false, .connectionDropped)) := by
  refine ⟨⟨?_, ?_⟩, fun srv r => rfl, fun h => by simp [serve, h]⟩
  · intro h
    have h1 := h .http
    have h2 := h .grpc
    cases hh : g.httpRecovery <;> cases hg : g.grpcRecovery <;> simp [serve, hh, hg] at h1 h2 ⊢
  · intro h srv
    simp only [Bool.and_eq_true] at h
    cases srv <;> simp [serve, h.1, h.2]

/-! ## the process -/

/-- **No history of inputs ends the process, and what was loaded last stays in effect.** Under a sound combination
of checks (`Sound`: bounded walk; each panic source checked or below a `recover`), for every catalogue, every
configured key id, every start state and every sequence of key-file changes, rule-file changes and requests (none
of whose handlers dies of something unrecoverable): the process is alive at the end, every component works with
the material of the last key file that loaded (the initial material if none did), and the rules in force are those
of the last rule file content that was taken over. -/
theorem c19_process_survives (g : Guards) (hs : Sound g = true) (env : Env) (keyId : Consumer → String)
    (s : System) (es : List Event) (ha : s.alive = true) (hreq : noFatalRequest es = true) :
    (steps g env keyId s es).alive = true ∧
      (∀ c, (steps g env keyId s es).material c =
        lastGood (materialLoads g c (keyId c)) (s.material c) (keyFilesOf c es)) ∧
      (steps g env keyId s es).rules = lastGood (ruleLoads g env) s.rules (ruleFilesOf es) := by
  induction es generalizing s with
  | nil => exact ⟨ha, fun c => rfl, rfl⟩
  | cons e es ih =>
    rw [noFatalRequest_cons, Bool.and_eq_true] at hreq
    obtain ⟨h1, h2, h3⟩ := step_live g env keyId s ha e
    rw [survived_of_sound g hs env keyId e hreq.1] at h1
    obtain ⟨i1, i2, i3⟩ := ih (step g env keyId s e) h1 hreq.2
    refine ⟨i1, fun c => ?_, ?_⟩
    · rw [keyFilesOf_cons c e es, lastGood_append, ← h2 c]
      exact i2 c
    · rw [ruleFilesOf_cons e es, lastGood_append, ← h3]
      exact i3

example : Sound Guards.head = true := by decide +kernel

/-- a history mixing every kind of hostile input with good ones -/
def hostile : List Event :=
  [.keyFile .jwt Witness.good, .keyFile .jwt [], .keyFile .tls Witness.renewed,
   .keyFile .httpsig [Witness.keyBlock Witness.ec521], .keyFile .jwt [Witness.keyBlock Witness.rsa1024],
   .ruleFile (.doc Witness.wellFormed), .ruleFile (.doc Witness.confusedReference),
   .ruleFile (.doc Witness.confusedScopes), .ruleFile .unparsable,
   .request .grpc .panic, .request .http .panic, .request .http (.ok 200)]

example : noFatalRequest hostile = true := by decide +kernel
example : (steps Guards.head Witness.env (fun _ => "") ⟨true, none, none, none, none⟩ hostile).alive = true ∧
    (steps Guards.head Witness.env (fun _ => "") ⟨true, none, none, none, none⟩ hostile).jwt =
      some ⟨"3f5128b1", "PS256", ["3f5128b1"], "", 0⟩ ∧
    (steps Guards.head Witness.env (fun _ => "") ⟨true, none, none, none, none⟩ hostile).rules = some ["r1"] := by
  decide +kernel

/-- **Soundness is necessary.** If the combination of checks is not sound, some history ends the process: the
five conjuncts of `Sound` each have a witness (renewed certificate; empty, small-key or P-521 key store; reference
or scopes of the wrong type; a file that vanishes; a panicking gRPC handler). -/
theorem c19_unsound_crashes (g : Guards) (hs : Sound g = false) :
    ∃ (es : List Event), noFatalRequest es = true ∧
      (steps g Witness.env (fun _ => "") ⟨true, none, none, none, none⟩ es).alive = false := by
  -- one event that is not survived does it: a key file, a rule file or a panicking gRPC handler
  suffices h : ∃ e, noFatalRequest [e] = true ∧ e.survived g Witness.env (fun _ => "") = false by
    obtain ⟨e, hreq, h⟩ := h
    exact ⟨[e], hreq, (step_live g _ _ ⟨true, none, none, none, none⟩ rfl e).1.trans h⟩
  simp only [Sound, Bool.and_eq_false_iff, Bool.or_eq_false_iff] at hs
  rcases hs with (((hv | ⟨hm, hl⟩) | ⟨hf, hp⟩) | ⟨hst, hp⟩) | hg
  · exact ⟨.keyFile .tls Witness.renewed, rfl, by rw [Event.survived, renewed_fatal g hv]; rfl⟩
  · obtain ⟨c, blocks, h⟩ := load_panics g hm
    exact ⟨.keyFile c blocks, rfl, by rw [Event.survived, h]; exact hl⟩
  · obtain ⟨d, h⟩ := loadRuleSet_panics g (Bool.or_eq_false_iff.mpr hf)
    exact ⟨.ruleFile (.doc d), rfl, by rw [Event.survived, ruleFileLoad, h]; exact hp⟩
  · have : ruleFileLoad g Witness.env (.vanished Witness.wellFormed) = .panic := by
      cases g; cases hst; rfl
    exact ⟨.ruleFile (.vanished Witness.wellFormed), rfl, by rw [Event.survived, this]; exact hp⟩
  · exact ⟨.request .grpc .panic, rfl, by simp [Event.survived, serve, hg]⟩

example : Sound Guards.original = false := by decide +kernel

/-- the process survives every history exactly under the sound flag combinations -/
theorem c19_survives_iff_sound (g : Guards) :
    (∀ (env : Env) (keyId : Consumer → String) (s : System) (es : List Event), s.alive = true →
      noFatalRequest es = true → (steps g env keyId s es).alive = true) ↔ Sound g = true := by
  refine iff_check (fun hs env keyId s es ha hreq => (c19_process_survives g hs env keyId s es ha hreq).1)
    fun hs h => ?_
  obtain ⟨es, hreq, hdead⟩ := c19_unsound_crashes g hs
  exact absurd ((h _ _ _ es rfl hreq).symm.trans hdead) nofun

/-! ## the credentials file of the redis cache

`internal/cache/redis/config.go`: `fileCredentials` is read when the configuration is decoded and again, on the
watcher goroutine, whenever the file is written; the redis client asks for the credentials (`get`, through
`AuthCredentialsFn`) on goroutines of its own whenever it connects or re-connects.  The recover layer read off the
source (`Gen/LoaderGuards.lean`) has an entry for the goroutine that reloads (`w.notify`) and — that goroutine being
one of the redis client library — none for the one that asks: there a panic ends the process.  A file is abstracted
to what the YAML decoder finds in it (`CredDoc`): no document, not YAML, a null document (only `---` so far, `---`
and comments, `null`, `~`), a scalar, a sequence, or a mapping with any keys and values in any order.  `byValue` is
the one thing about `load` the guarantees depend on: the document is decoded into a `staticCredentials` value (the
code) and not into a pointer the decoder would have to allocate. -/

/-- **No content of the credentials file panics the reload.** Whatever the decoder finds — for either way of
decoding — `load` returns (new credentials or an error), and so does `OnChanged`. -/
theorem c19_redis_credentials_load_returns (byValue : Bool) (st : Option Creds) (d : CredDoc) :
    (loadCreds byValue d).returns = true ∧ (reloadCreds byValue st d).1.returns = true :=
  ⟨loadCreds_returns byValue d, by
    rw [reloadCreds_eq_commit, ← Out.within_false, commit_outcome, Out.within_false]
    exact loadCreds_returns byValue d⟩

/-- **A rejected reload keeps the previous credentials.** What `c.creds` points to is replaced exactly after a
successful load, by something the file alone determines; after an error it is what it was. The model meets the
judgement the check applies to what it observes (`reloadAdmissible`) on every content. -/
theorem c19_redis_credentials_rejected_reload_keeps (byValue : Bool) (st : Option Creds) (d : CredDoc) :
    (∀ s, loadCreds byValue d = .ok s → reloadCreds byValue st d = (.ok (), s)) ∧
      ((loadCreds byValue d).isOk = false → (reloadCreds byValue st d).2 = st) ∧
      reloadAdmissible (some st) (reloadCreds byValue st d).1 (some (reloadCreds byValue st d).2) = true := by
  rw [reloadCreds_eq_commit]
  exact ⟨fun s h => commit_accepted h id st, fun h => commit_rejected h id st,
    (commit_admissible some ..).trans (loadCreds_returns byValue d)⟩

/-- a complete file, a file with the password only, an empty file, a null document, an
unknown field, a value of the wrong type, a key written twice, something that is not YAML -/
example : loadCreds true (.map [("username", .scalar "foo"), ("password", .scalar "bar")]) =
    .ok (some ⟨"foo", "bar"⟩) := by decide +kernel
example : loadCreds true (.map [("password", .scalar "bar")]) = .ok (some ⟨"", "bar"⟩) := by decide +kernel
example : loadCreds true .none = .err .decodeError ∧ loadCreds true .malformed = .err .unparsable := by decide +kernel
example : loadCreds true .null = .ok (some ⟨"", ""⟩) ∧ loadCreds false .null = .ok none := by decide +kernel
example : loadCreds true (.map [("username", .scalar "a"), ("extra", .scalar "1")]) = .err .decodeError := by decide +kernel
example : loadCreds true (.map [("username", .collection)]) = .err .decodeError := by decide +kernel
example : loadCreds true (.map [("username", .scalar "a"), ("username", .scalar "b")]) = .err .decodeError := by
  decide +kernel
/-- what a reader finds while `---\nusername: foo\npassword: bar\n` is being written: nothing, a sequence (`-`), a
scalar (`--`), a null document (`---`), a scalar (`---\nusern`), a user without name (`---\nusername:`), half a name,
not YAML (`…\npassw`), a user without password, the complete file -/
example : [CredDoc.none, .seq, .scalar, .null, .scalar, .map [("username", .null)], .map [("username", .scalar "fo")],
      .malformed, .map [("username", .scalar "foo"), ("password", .null)],
      .map [("username", .scalar "foo"), ("password", .scalar "bar")]].map
        (fun d => (reloadCreds true (some ⟨"old", "pw"⟩) d).2) =
    [some ⟨"old", "pw"⟩, some ⟨"old", "pw"⟩, some ⟨"old", "pw"⟩, some ⟨"", ""⟩, some ⟨"old", "pw"⟩, some ⟨"", ""⟩,
      some ⟨"fo", ""⟩, some ⟨"old", "pw"⟩, some ⟨"foo", ""⟩, some ⟨"foo", "bar"⟩] := by decide +kernel

/-- **The model accepts exactly what means credentials.** Decoding into a value with `KnownFields(true)`, entry by
entry in file order with the keys seen so far, accepts a document if and only if it is a credentials file in the
sense of the specification (`credsOf`: null, or a mapping with pairwise distinct keys among `username` / `password`
and scalar or null values — any number of entries, any order), and stores exactly the credentials it means. -/
theorem c19_redis_credentials_model_is_spec (d : CredDoc) : credsLoads true d = (credsOf d).map some := by
  cases d with
  | map fs =>
    simp only [credsLoads, loadCreds, credsOf, credFields_spec fs [] _ List.nodup_nil, credsOk, List.append_nil]
    by_cases h : (∀ f ∈ fs, credKeyOk f.1 = true ∧ credValOk f.2 = true) ∧ (fs.map (·.1)).Nodup
    · rw [if_pos h, if_pos h]
      rfl
    · rw [if_neg h, if_neg h]
      rfl
  | _ => rfl

example : credsOf (.map [("password", .scalar "bar"), ("username", .null)]) = some ⟨"", "bar"⟩ := by decide +kernel
example : credsOf (.map [("password", .scalar "a"), ("password", .scalar "b")]) = none := by decide +kernel

/-- **After any history the redis client is handed the last accepted credentials.** Decoding into a value: for
every history of file contents (complete, half-written, null, hostile, in any order and number) reloaded one after
the other, `get` returns — it never panics — and what it returns are the credentials of the last content that was
accepted (= that means credentials, `credsOf`), the initial ones if none was. By induction over the history. -/
theorem c19_redis_credentials_get_after_history (init : Creds) (ds : List CredDoc) :
    ∃ c, credsGet (credsAfter true (some init) ds) = .ok c ∧
      some c = lastGood (credsLoads true) (some init) ds ∧
      some c = lastGood (fun d => (credsOf d).map some) (some init) ds := by
  rw [credsAfter_eq_lastGood, ← funext c19_redis_credentials_model_is_spec]
  obtain ⟨c, hc⟩ := Option.isSome_iff_exists.mp (lastGood_creds_isSome (some init) rfl ds)
  rw [hc]
  exact ⟨c, rfl, rfl, rfl⟩

example : credsGet (credsAfter true (some ⟨"foo", "bar"⟩)
    [.null, .none, .map [("username", .scalar "baz"), ("password", .scalar "zab")], .malformed, .scalar]) =
      .ok ⟨"baz", "zab"⟩ := by decide +kernel

/-- **… exactly when the document is decoded into a value.** Decoding into a pointer, one null document (a writer
that has flushed just the leading `---`) followed by a (re-)connect of the redis client is a nil dereference. -/
theorem c19_redis_credentials_never_panic_iff (byValue : Bool) :
    (∀ (init : Creds) (ds : List CredDoc), (credsGet (credsAfter byValue (some init) ds)).returns = true) ↔
      byValue = true := by
  refine iff_check (fun hb init ds => ?_) fun hb h => ?_
  · subst hb
    obtain ⟨c, hc, _⟩ := c19_redis_credentials_get_after_history init ds
    rw [hc]
    rfl
  · subst hb
    exact absurd (h ⟨"", ""⟩ [.null]) nofun

/-- **The process.** Decoding into a value, for every history of writes of the credentials file and (re-)connects of
the redis client, whether or not the watcher goroutine recovers: the process is alive at the end and the client
works with the credentials of the last accepted content. -/
theorem c19_redis_credentials_process_survives (watcherRecovers : Bool) (init : Creds) (es : List CredsEvent) :
    (credsSteps true watcherRecovers ⟨true, some init⟩ es).alive = true ∧
      (credsSteps true watcherRecovers ⟨true, some init⟩ es).creds =
        lastGood (credsLoads true) (some init) (credFilesOf es) := by
  rw [credsSteps_value watcherRecovers es ⟨true, some init⟩ rfl rfl]
  exact ⟨rfl, rfl⟩

/-- **… and the recover layer cannot stand in for it.** The goroutine that reloads is the watcher's (`w.notify`, below
a `recover` according to the table read off the source), the one that asks for the credentials is the redis
client's: decoding into a pointer, the history "null document, re-connect" ends the process although every
goroutine of heimdall's own recovers; so survival of all histories is equivalent to decoding into a value. -/
theorem c19_redis_credentials_survives_iff (byValue : Bool) :
    (∀ (init : Creds) (es : List CredsEvent),
      (credsSteps byValue (extractedLayer Gen.LoaderGuards.listenerGoroutines Gen.LoaderGuards.providerEventCalls
        Gen.LoaderGuards.processorRecovers Gen.LoaderGuards.decisionChain Gen.LoaderGuards.proxyChain
        Gen.LoaderGuards.grpcUnaryInterceptors).listener ⟨true, some init⟩ es).alive = true) ↔ byValue = true := by
  refine iff_check (fun hb init es => ?_) fun hb h => ?_
  · subst hb
    exact (c19_redis_credentials_process_survives _ init es).1
  · subst hb
    exact absurd (h ⟨"", ""⟩ [.file .null, .connect]) (by decide +kernel)

/-- good credentials, the file observed with only `---` in it, a re-connect, the
rest of the file, another re-connect -/
example : (credsSteps false true ⟨true, some ⟨"foo", "bar"⟩⟩ [.file .null, .connect]).alive = false := by decide +kernel
example : credsSteps true true ⟨true, some ⟨"foo", "bar"⟩⟩
    [.file .null, .connect, .file (.map [("username", .scalar "baz"), ("password", .scalar "zab")]), .connect] =
      ⟨true, some ⟨"baz", "zab"⟩⟩ := by decide +kernel

/-! ## the recover layer, read off the source on every run -/

/-- **The tie for the `recover`s.** What `/verif/extract/guards` finds in the working tree (goroutines started by
`watcher.fireOnChange`, calls handed an event in `Provider.watchFiles`, `ruleSetProcessor.loadRules`, the
middleware chains of the decision and proxy services, the interceptors of the gRPC service) is the recover layer of
`Guards.head`. -/
theorem c19_gen_recover_layer :
    extractedLayer Gen.LoaderGuards.listenerGoroutines Gen.LoaderGuards.providerEventCalls
        Gen.LoaderGuards.processorRecovers Gen.LoaderGuards.decisionChain Gen.LoaderGuards.proxyChain
        Gen.LoaderGuards.grpcUnaryInterceptors = Guards.head.recoverLayer := by decide +kernel

/-- **Defence in depth.** The extracted recover layer alone, together with the bounded certificate walk, is sound:
whatever becomes of the individual type and emptiness checks, no history of inputs ends the process. -/
theorem c19_recover_layer_suffices (g : Guards) (hv : g.chainVisited = true)
    (h : g.recoverLayer = Guards.head.recoverLayer) : Sound g = true := by
  obtain ⟨hl, hp, _, _, hg⟩ := RecoverLayer.mk.inj h
  exact (Sound_iff g).mpr ⟨hv, by rw [hl]; exact Bool.or_true _, by rw [hp]; exact Bool.or_true _,
    by rw [hp]; exact Bool.or_true _, hg⟩

/-- the recover layer and the bounded walk, none of the other checks -/
example : (⟨false, false, false, true, false, false, false, true, true, true, false, true, true⟩ : Guards).recoverLayer =
    Guards.head.recoverLayer := by decide +kernel

/-- the original code and the shortest histories that end it -/
example : (steps Guards.original Witness.env (fun _ => "") ⟨true, none, none, none, none⟩
    [.keyFile .jwt Witness.good, .keyFile .jwt []]).alive = false := by decide +kernel
example : (steps Guards.original Witness.env (fun _ => "") ⟨true, none, none, none, none⟩
    [.ruleFile (.doc Witness.wellFormed), .ruleFile (.doc Witness.confusedReference)]).alive = false := by decide +kernel

/-! ## the watcher over several watched files

`internal/watcher`: ONE goroutine (`startWatching`) serves all watched files — the TLS key stores, the key store of
the JWT signer and of the HTTP message signatures, the redis credentials.  fsnotify binds a watch to the file that is
at the path when it is registered; when that file is removed, replaced by a rename or moved away the watch is gone
and the loop receives a Remove / Rename event.  `WatchLoop` says what the loop does with it: the code ignores it
(`WatchLoop.head`); a loop that registers the path again and `return`s when that fails (the file is still absent:
`rm` then `cp`, a file moved away) has left the loop for good. -/

/-- **No history of file operations stops the watcher, and a change of any other watched file is still delivered.**
For every loop that does not leave on a failed renewal (the code's in particular), every state of the files and every
history of writes, truncations, permission changes, removals, replacements by rename, re-creations and further
registrations: the goroutine is in its loop afterwards; and every file `y` that was watched and is not itself taken
away by the history is still watched, and a change of it is handed to its listener. By induction over the history. -/
theorem c19_watcher_survives_file_removal (l : WatchLoop) (hl : (l.renew && l.returnOnFailedRenewal) = false)
    (w : Watcher) (hw : w.alive = true) (ops : List FileOp) :
    (watchRun l w ops).alive = true ∧
      ∀ y, y ∈ w.watched → y ∈ w.present → (∀ op ∈ ops, op.displaces y = false) →
        y ∈ (watchRun l w ops).watched ∧
          (watchRun l w (ops ++ [.written y])).delivered = (watchRun l w ops).delivered ++ [y] := by
  have ha : (watchRun l w ops).alive = true := (watchRun_alive l hl ops w).trans hw
  refine ⟨ha, fun y hyw hyp hd => ?_⟩
  have hk := watchRun_keeps l ops w y hd ⟨hyw, hyp⟩
  exact ⟨hk.1, (congrArg Watcher.delivered List.foldl_append).trans (watchStep_written l _ y ha hk)⟩

example : (WatchLoop.head.renew && WatchLoop.head.returnOnFailedRenewal) = false := rfl

/-- three watched files; the first is removed and created again, the second replaced by a rename, the third gets new
permissions: changes of the first two are no longer noticed (the watch went with the old file; their previous
contents stay in effect), a change of the third is delivered, the goroutine is alive -/
example : watchRun .head ⟨true, [0, 1, 2], [0, 1, 2], [0, 1, 2], []⟩
    [.fileRemoved 0, .fileBack 0, .written 0, .fileReplaced 1, .written 1, .attrib 2, .written 2] =
      ⟨true, [0, 1, 2], [0, 1, 2], [2], [2]⟩ := by decide +kernel

/-- **A loop that returns on a failed re-registration dies of one removed file.** The watched file `x` is absent
when its Remove / Rename event is handled: the goroutine has ended, and whatever happens afterwards — to `x` or to any
other watched file — no listener is told any more. -/
theorem c19_watcher_returning_loop_dies (w : Watcher) (hw : w.alive = true) (x : Nat) (hx : x ∈ w.watched)
    (later : List FileOp) :
    (watchRun ⟨true, true⟩ w (.fileRemoved x :: later)).alive = false ∧
      (watchRun ⟨true, true⟩ w (.fileRemoved x :: later)).delivered = w.delivered := by
  have hstep : (watchStep ⟨true, true⟩ w (.fileRemoved x)).alive = false ∧
      (watchStep ⟨true, true⟩ w (.fileRemoved x)).delivered = w.delivered := by
    simp [watchStep, hx, hw]
  have := watchRun_dead ⟨true, true⟩ later _ hstep.1
  exact ⟨this.1, this.2.trans hstep.2⟩

/-- key store 1 is removed, key store 2 is written — under the code's loop the
listener of key store 2 is told, under the returning loop nobody is; the same loop does follow a file that is replaced
by a rename (which is why ordinary use does not show the difference) -/
example : (watchRun .head ⟨true, [1, 2], [1, 2], [1, 2], []⟩ [.fileRemoved 1, .written 2]).delivered = [2] ∧
    (watchRun ⟨true, true⟩ ⟨true, [1, 2], [1, 2], [1, 2], []⟩ [.fileRemoved 1, .written 2]).delivered = [] ∧
    (watchRun ⟨true, true⟩ ⟨true, [1, 2], [1, 2], [1, 2], []⟩ [.fileReplaced 1, .written 1, .written 2]).delivered =
      [1, 1, 2] := by decide +kernel

/-- the watcher goroutine survives every history exactly if its loop has no such exit -/
theorem c19_watcher_survives_iff (l : WatchLoop) :
    (∀ (w : Watcher) (ops : List FileOp), w.alive = true → (watchRun l w ops).alive = true) ↔
      (l.renew && l.returnOnFailedRenewal) = false := by
  refine ⟨fun h => ?_, fun hl w ops hw => (watchRun_alive l hl ops w).trans hw⟩
  have := h ⟨true, [0], [0], [0], []⟩ [.fileRemoved 0] rfl
  obtain ⟨_ | _, _ | _⟩ := l <;> first | rfl | cases this

/-- **… and the previous state stays in effect.** Under the code's loop listeners are started by changes of a file's
content only: removals, replacements, re-creations, permission changes and registrations reload nothing, so every
component keeps working with what it loaded last. -/
theorem c19_watcher_removal_reloads_nothing (w : Watcher) (ops : List FileOp)
    (h : ∀ op ∈ ops, op.isWrite = false) : (watchRun .head w ops).delivered = w.delivered :=
  List.foldlRecOn (motive := fun v => v.delivered = w.delivered) ops _ rfl
    fun v hv op hop => (watchStep_head_delivered v op (h op hop)).trans hv

example : ∀ op ∈ [FileOp.fileRemoved 0, .fileBack 0, .fileReplaced 1, .attrib 2, .register 3], op.isWrite = false := by
  decide +kernel

/-- **The tie for the loop.** What `/verif/extract/guards` finds in `startWatching` of the working tree — the
statements that leave the `for { select { … } }` loop other than the two "channel closed" returns — is what the
code's loop of the model has: none. -/
theorem c19_gen_watcher_loop_never_leaves :
    loopLeaves Gen.LoaderGuards.watcherLoopExits =
      (WatchLoop.head.renew && WatchLoop.head.returnOnFailedRenewal) := by decide +kernel

/-! ## rule sets polled from an HTTP endpoint

`internal/rules/provider/httpendpoint`: the provider keeps the rule set it has only when the fetch fails with an
internal or configuration error; every other failure of the fetch means "the rule set is gone" to it.  So the kind of
error a body that breaks off on the way ends in decides whether a PARTIALLY RECEIVED rule set is a rejected reload or
the end of all rules of the endpoint.  The code hands the body to the decoder as it arrives: the failed read is a
decoding error (`FetchErr.internal`). -/

/-- **A rule set that arrives in part is a rejected reload.** Whatever the rules in force from the endpoint and
whatever the bytes that did arrive: the provider leaves everything as it is. -/
theorem c19_partial_response_keeps_rules (st : Option (List String)) (c : EndpointContent) :
    pollEndpoint .internal st (.body .brokenOff c) = (.kept, st) := rfl

/-- **… exactly if the failed read is an internal or configuration error.** Reported as anything else
(a communication error, say) one broken transfer removes the rules loaded before. -/
theorem c19_partial_response_keeps_iff (k : FetchErr) :
    (∀ (st : Option (List String)) (c : EndpointContent), (pollEndpoint k st (.body .brokenOff c)).2 = st) ↔
      (k = .internal ∨ k = .configuration) := by
  constructor
  · intro h
    have := h (some ["r"]) .empty
    cases k <;> first | exact Or.inl rfl | exact Or.inr rfl | cases this
  · rintro (rfl | rfl) st c <;> rfl

example : pollEndpoint .communication (some ["foo", "bar"]) (.body .brokenOff (.ruleSet ["foo", "bar"] true)) =
    (.deleted, none) := by decide +kernel

/-- **After any history of polls** — complete and partial responses, error statuses, an endpoint that does not
answer, rule sets that are refused, in any order and number — the rules in force from the endpoint are those of the
last poll that MEANS something (`endpointLoads`: a complete acceptable rule set, or "no rule set here"); polls whose
body broke off, whose bytes are no rule set or whose rule set is refused leave no trace. In particular any number of
such polls in a row leaves the rules exactly as they were. By induction over the history. -/
theorem c19_endpoint_history (st : Option (List String)) (rs : List Polled) :
    pollRun .internal st rs = lastGood endpointLoads st rs ∧
      ((∀ r ∈ rs, endpointLoads r = none) → pollRun .internal st rs = st) := by
  have h1 : pollRun .internal st rs = lastGood endpointLoads st rs :=
    congrArg (fun f => rs.foldl f st) (funext fun s => funext fun r => pollEndpoint_state s r)
  refine ⟨h1, fun hnone => h1.trans ?_⟩
  exact List.foldlRecOn (motive := (· = st)) rs _ rfl fun s hs r hr => by
    show orKeep (endpointLoads r) s = st
    rw [hnone r hr]
    exact hs

/-- a rule set, then the same endpoint answering with half of the next version three times, with garbage, with a
rule set the factory refuses, and at last with the next version: the first one stays until the last poll -/
example : [[], [Polled.body .complete (.ruleSet ["a"] true)],
      [.body .complete (.ruleSet ["a"] true), .body .brokenOff (.ruleSet ["b"] true), .body .brokenOff .empty,
        .body .brokenOff .unparsable, .body .complete .unparsable, .body .complete (.ruleSet ["x"] false)],
      [.body .complete (.ruleSet ["a"] true), .body .brokenOff (.ruleSet ["b"] true),
        .body .complete (.ruleSet ["b"] true)],
      [.body .complete (.ruleSet ["a"] true), .status 503]].map (pollRun .internal none) =
    [none, some ["a"], some ["a"], some ["b"], none] := by decide +kernel

example : endpointLoads (.body .brokenOff (.ruleSet ["b"] true)) = none ∧
    endpointLoads (.body .complete .unparsable) = none := ⟨rfl, rfl⟩

/-! ## the status of a RuleSet resource (kubernetes provider)

The handlers of the kubernetes provider run on the informer's goroutine; client-go logs a panic there and panics
again (`HandleCrash`), nothing of heimdall recovers: the recover layer read off the source has no entry for it.
Each handler ends with `updateStatus`, which reads `status.activeIn` of the resource — a value anybody with access to
the status subresource (or another version of the controller) may have written — and the error of the PATCH. -/

/-- **The status update returns on every resource and every answer — exactly under the two checks.** For every
number of parts "/" splits `status.activeIn` into and every sequence of answers of the API server (accepted, refused
with any status code, conflicts that make it start over, no usable answer at all). -/
theorem c19_ruleset_status_update_returns_iff (g : StatusGuards) :
    (∀ (parts : Nat) (answers : List PatchAnswer), (updateStatus g parts answers).returns = true) ↔
      (g.splitChecked && g.asChecked) = true := by
  refine iff_check (fun hg => ?_) fun hg h => ?_
  · rw [Bool.and_eq_true] at hg
    exact updateStatus_returns g hg.1 hg.2
  · rw [Bool.and_eq_false_iff] at hg
    rcases hg with hs | ha
    · have := h 1 []
      simp [updateStatus, hs] at this
    · have := h 2 [.noAnswer]
      simp [updateStatus, ha] at this

example : (StatusGuards.head.splitChecked && StatusGuards.head.asChecked) = true := rfl

/-- the inputs of the finding, before and after: `status.activeIn: "x"`; an API server that cannot be reached when the
status is patched — also after a conflict; well-formed values and refusals are no problem for either -/
example : updateStatus .original 1 [.ok] = .panic ∧ updateStatus .head 1 [.ok] = .ok () := by decide +kernel
example : updateStatus .original 2 [.noAnswer] = .panic ∧ updateStatus .head 2 [.noAnswer] = .ok () := by decide +kernel
example : updateStatus .original 2 [.status 409, .noAnswer] = .panic ∧
    updateStatus .head 2 [.status 409, .noAnswer] = .ok () := by decide +kernel
example : updateStatus .original 2 [.status 409, .status 500] = .ok () ∧ updateStatus .original 3 [.ok] = .ok () := by
  decide +kernel

/-! ### The content of a RuleSet resource

`updateStatus` deep-copies the resource (twice) on the informer's goroutine before it patches the status; the copy
walks the `config` of every mechanism reference: an untyped object, any JSON value the API server delivers. -/

/-- **The copy of a mechanism config returns on every value and yields that very value** (the JSON round trip of
`MechanismConfig.DeepCopyInto`): nulls as map values and as list elements at any depth, empty and nested lists and
maps, scalars of every kind. -/
theorem c19_config_copy_is_total (v : Val) : copyVal true v = .ok v := copyVal_id v

/-- **… exactly when a null element of a list is copied as null**: a copy that dereferences every element panics on
`[null]`, so no such copy is acceptable on this goroutine. -/
theorem c19_config_copy_returns_iff (nullElem : Bool) :
    (∀ v : Val, (copyVal nullElem v).returns = true) ↔ nullElem = true := by
  refine iff_check (fun h v => ?_) fun hn h => ?_
  · subst h
    rw [copyVal_id]
    rfl
  · subst hn
    exact absurd (h (.list [.null])) nofun

/-- `audience: [foo, null]` below `assertions` -/
example : copyVal false (.map [("assertions", .map [("audience", .list [.str "foo", .null])])]) = .panic ∧
    copyVal true (.map [("assertions", .map [("audience", .list [.str "foo", .null])])]) =
      .ok (.map [("assertions", .map [("audience", .list [.str "foo", .null])])]) ∧
    copyVal false (.map [("a", .null), ("b", .list []), ("c", .list [.list [], .map []])]) =
      .ok (.map [("a", .null), ("b", .list []), ("c", .list [.list [], .map []])]) :=
  ⟨rfl, copyVal_id _, rfl⟩

/-- **The informer goes on, whatever the resources hold.** For every history of RuleSet events — each with any
mechanism configs (any JSON values), any `status.activeIn` and any answers to its status update — the informer's
goroutine handles every one of them and is alive afterwards. -/
theorem c19_informer_survives_ruleset_contents (evs : List (List Val × Nat × List PatchAnswer)) (p : Proc Nat)
    (hp : p.alive = true) :
    (run false (evs.map fun e => ruleSetEventWith .head true e.1 e.2.1 e.2.2) p).alive = true ∧
      (run false (evs.map fun e => ruleSetEventWith .head true e.1 e.2.1 e.2.2) p).handled =
        p.handled + evs.length := by
  rw [run_of_within false _ p hp, List.length_map]
  · exact ⟨rfl, rfl⟩
  · intro h hh s
    obtain ⟨e, _, rfl⟩ := List.mem_map.mp hh
    simp only [ruleSetEventWith, copyConfigs_ok, Out.bind_ok]
    exact (Out.within_false _).trans (updateStatus_returns _ rfl rfl e.2.1 e.2.2)

/-- without it the first resource with a null list element ends the process -/
example : (run false [ruleSetEventWith .head false [.map [("x", .list [.null])]] 2 [.ok]]
    (⟨true, 0, 0⟩ : Proc Nat)).alive = false ∧
    (run false [ruleSetEventWith .head true [.map [("x", .list [.null])]] 2 [.ok]]
      (⟨true, 0, 0⟩ : Proc Nat)).alive = true :=
  ⟨rfl, rfl⟩

/-- **The informer goes on.** With the two checks, for every history of RuleSet events (each with any `activeIn`
and any answers to its status update) the goroutine of the informer — which nothing recovers on — handles every one
of them and is alive afterwards; without them the first such resource ends the process. (The resources without
mechanism configs of `c19_informer_survives_ruleset_contents`.) -/
theorem c19_informer_survives_status_updates (evs : List (Nat × List PatchAnswer)) (p : Proc Nat)
    (hp : p.alive = true) :
    (run false (evs.map fun e => ruleSetEvent .head e.1 e.2) p).alive = true ∧
      (run false (evs.map fun e => ruleSetEvent .head e.1 e.2) p).handled = p.handled + evs.length := by
  have := c19_informer_survives_ruleset_contents (evs.map fun e => ([], e)) p hp
  rwa [List.map_map, List.length_map] at this

example : (run false [ruleSetEvent .original 2 [.ok], ruleSetEvent .original 1 [.ok], ruleSetEvent .original 2 [.ok]]
    (⟨true, 0, 0⟩ : Proc Nat)).alive = false ∧
    (run false [ruleSetEvent .head 2 [.ok], ruleSetEvent .head 1 [.ok], ruleSetEvent .head 2 [.noAnswer]]
      (⟨true, 0, 0⟩ : Proc Nat)).alive = true ∧
    (run false [ruleSetEvent .head 2 [.ok], ruleSetEvent .head 1 [.ok], ruleSetEvent .head 2 [.noAnswer]]
      (⟨true, 0, 0⟩ : Proc Nat)).handled = 3 := by decide +kernel

end Heimdall.Props.C19
