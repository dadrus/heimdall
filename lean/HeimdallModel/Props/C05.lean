import HeimdallModel.Lemmas.Jwt
import HeimdallModel.Lemmas.JwtRegistered
import HeimdallModel.Lemmas.JwtProcess
import HeimdallModel.Lemmas.AsciiChars
/-!
# C05 — JWT authentication accepts exactly the correctly signed, asserted tokens

Theorems about the model of the JWT authenticator (`Model/Jwt.lean`: `Execute`, `verifyToken`, `getKey` with its
JWK cache, `verifyTokenWithoutKID`, `verifyTokenWithKey`, `oauth2.Expectation`, `oauth2.Claims`, the scope matchers
and `SubjectInfo.CreateSubject`; tied to the Go code by the correspondence check of the `jwt` family, which runs the
very functions `Jwt.authenticate` / `Jwt.step` these theorems are about, and by the algorithm lists of
`Gen/JwtAlgs.lean`, regenerated from the linked code on every run).

The specification (`Spec/Jwt.lean`) is written over the **raw payload** — the members of the JSON object — with its
own readers (`Spec.issuer`, `Spec.audiences`, `Spec.granted`, `Spec.date`, `Spec.wellTyped`), its own rule for the
assertion in force (`Spec.inForce`) and its own scope relations; nothing of the model's decoder occurs in a statement.

All statements hold for every configuration (either endpoint kind, templated or not, any assertions, with or without
rule-level override, cache on or off), every answer of the endpoints, every key set (any length, with / without / with
duplicate `kid`s, with certificates), every token (any header, any JSON payload of any depth and with numbers of any
magnitude, any signature oracle), every instant and every history of earlier requests.

Signature verification itself is the oracle `Token.sigOk` (go-jose / Go crypto): that a modified octet of a signed
token makes `sigOk` false for every key is the contract of the signature schemes, not a theorem here — the property
is *partial* in exactly this respect; the correspondence check evaluates the oracle with an independent verifier.
Known finding `C05-attrs-float64`: numbers in subject attributes are delivered as IEEE doubles; the full statement
"attributes = payload object" is proved for payloads whose integral numbers fit (`c05_attrs_exact_partial`) and
refuted at a witness (`c05_attrs_rounded_witness`).
-/
namespace Heimdall.Props.C05
open Heimdall.Jwt

/-- ASCII lower-casing -/
def lowerAscii (s : String) : String := String.ofList (s.toList.map Char.toLower)

/-- `jwt.ParseSigned` never lets a token through without an algorithm … -/
theorem c05_gen_no_empty_alg : Gen.supported.contains "" = false := by decide +kernel

/-- … nor an unsigned one, however `none` is capitalised -/
theorem c05_gen_no_unsigned_alg : (Gen.supported.all fun a => lowerAscii a != "none" && a != "") = true := by decide +kernel

/-- the payload of the witness token -/
def claims₀ : List (String × Val) :=
  [("iss", .str "https://idp.example.com"), ("sub", .str "alice"), ("aud", .arr [.str "api"]),
   ("scp", .arr [.str "users.*"]), ("exp", .num 1700000300 0), ("nbf", .num 1700000005 0),
   ("user", .obj [("id", .num 4711 0), ("name", .str "Alice")])]

/-- a token naming key `k1`, signed with key material 2 -/
def tok₀ : Token :=
  { alg := "ES256", kid := "k1", payload := some (.obj claims₀), sigOk := fun m => m == 2 }

/-- the same token without `kid` -/
def tok₁ : Token := { tok₀ with kid := "" }

/-- key set: the signing key, another key, and a key with a bad certificate -/
def keys₀ : List Key :=
  [{ kid := "k9", alg := "RS256", mat := 0 }, { kid := "k1", alg := "ES256", mat := 2 },
   { kid := "k7", alg := "ES256", mat := 3, cert := .untrusted }]

def world₀ : World := { jwks := fun _ => some keys₀ }

/-- mechanism level: issuer, audience, wildcard scopes, two allowed algorithms, 5 s leeway; the audience is
overridden at rule level -/
def cfg₀ : Config :=
  { assertions := { issuers := ["https://idp.example.com"], audiences := ["nobody"],
                    scopes := some ⟨.wildcard, ["users.read"]⟩, algs := ["ES256", "PS256"], leeway := 5000 },
    subject := { idPath := [{ key := "user" }, { key := "id" }], attrsPath := some [{ key := "user" }] } }

def rule₀ : Option Expectation := some { audiences := ["api", "web"] }

/-- 2023-11-14T22:13:20Z, in milliseconds -/
def now₀ : Int := 1700000000000

/-- the witness token with other claims -/
def tokWith (kvs : List (String × Val)) : Token := { tok₀ with payload := some (.obj kvs) }

/-! ## Model, executable specification (the oracle of the correspondence check), declarative specification -/

/-- **The executable specification is the model's verdict** (attribute numbers as doubles).  `Spec.authenticate`
— written over the raw payload with the specification's own readers, precedence rule and scope functions, one
conjunction of all clauses over the candidate keys instead of the ladder — is run next to the model on every case. -/
theorem c05_spec_oracle (cfg : Config) (rule : Option Expectation) (w : World) (p : Presented) (nowMs : Int) :
    (authenticate cfg rule w p nowMs).verdict = (Spec.authenticate cfg rule w p nowMs).rounded := by
  have hne : "" ∉ Gen.supported := by simpa using c05_gen_no_empty_alg
  have hbad : (cfg.jwksMode = true ∧ cfg.assertions.issuers = []) ↔ (!cfg.ok) = true := by
    simp [Config.ok]
  unfold Spec.authenticate authenticate
  simp only [hbad, ← Bool.and_eq_true, metadata_eq, ← endpointOf_eq, ← effective_eq_inForce]
  cases cfg.ok with
  | false => rfl
  | true =>
    cases p with
    | absent | garbage => rfl
    | token tok =>
      dsimp only
      cases hs : (Gen.supported.contains tok.alg && tok.canonical) with
      | false => cases tok.payload with
        | none => rfl
        | some pl => cases pl <;> rfl
      | true =>
        cases tok.payload with
        | none => rfl
        | some pl =>
          -- only an object can be entitled: the members of `null` name no issuer
          cases pl with
          | obj kvs =>
            dsimp only [Val.members]
            cases resolveMetadata cfg w with
            | error e => rfl
            | ok md =>
              simp only [Bool.not_true, Bool.false_eq_true, ↓reduceIte, Except.toOption]
              cases w.jwks (endpointOf cfg kvs) with
              | none => rfl
              | some ks =>
                dsimp only
                simp only [Bool.and_eq_true, List.contains_eq_mem, decide_eq_true_eq] at hs
                have hv := verify_ok_iff_any (effective cfg rule md.issuer) cfg.validateJwk ks tok kvs nowMs
                  (ne_of_mem_of_not_mem hs.1 hne)
                cases hany : ks.any (Spec.entitles (effective cfg rule md.issuer) cfg.validateJwk ks tok kvs nowMs) with
                | true => rw [hv.mpr hany]; exact subject_verdict _ _
                | false => exact finish_error_verdict fun h => by rw [hv.mp h] at hany; cases hany
          | null =>
            dsimp only [Val.members]
            cases resolveMetadata cfg w with
            | error e => rfl
            | ok md =>
              simp only [Bool.not_true, Bool.false_eq_true, ↓reduceIte]
              cases w.jwks (endpointOf cfg []) with
              | none => rfl
              | some ks => exact finish_error_verdict verify_nil_not_ok
          | _ => rfl

/-- **Accepted exactly when entitled.**  The authenticator (cold cache) yields the subject `(id, attrs)` if and only
if the configuration is usable, the request carries a parsable, canonically serialised token with a supported
algorithm whose payload is a JSON object, the endpoints answered, and some key `k` of the key set fetched for this
token entitles it under the assertions in force (`Entitled`, all clauses on the raw payload: the key is the one the
`kid` designates — uniquely — if there is a `kid`, its certificate is valid, its declared algorithm equals the
token's `alg` and is allowed, the signature verifies with it, the registered claims are well-typed, the token names a
trusted issuer, an expected audience is present if audiences are configured, the required scopes are covered, and the
instant lies in `[nbf − leeway, exp + leeway)` and not before `iat − leeway`); `id` is the value at the id path of
that payload and `attrs` the object at the attributes path, numbers as doubles. -/
theorem c05_accept_iff (cfg : Config) (rule : Option Expectation) (w : World) (p : Presented) (nowMs : Int)
    (id : String) (attrs : Val) :
    authenticate cfg rule w p nowMs = .accepted id attrs ↔
      ∃ attrs₀, Accepts cfg rule w p nowMs id attrs₀ ∧ attrs = attrs₀.round := by
  rw [← Outcome.verdict_eq_subject, c05_spec_oracle, Verdict.rounded_eq_subject]
  simp only [spec_authenticate_eq_subject_iff]

/-- the same for a request that carries a token, clause by clause -/
theorem acceptedToken_of {cfg : Config} {rule : Option Expectation} {w : World} {tok : Token} {nowMs : Int}
    {id : String} {attrs : Val} (h : authenticate cfg rule w (.token tok) nowMs = .accepted id attrs) :
    ∃ attrs₀ kvs md ks k, AcceptedToken cfg rule w tok nowMs id attrs₀ kvs md ks k ∧ attrs = attrs₀.round := by
  obtain ⟨attrs₀, ⟨_, kvs, md, ks, k, h1, hp, h2, h3, h4, h5, h6, h7, h8⟩, ha⟩ := (c05_accept_iff ..).mp h
  cases hp
  exact ⟨attrs₀, kvs, md, ks, k, ⟨h1, h2, h3, h4, h5, h6, h7, h8⟩, ha⟩

example : authenticate cfg₀ rule₀ world₀ (.token tok₀) now₀ =
    .accepted "4711" (.obj [("id", .num 4711 0), ("name", .str "Alice")]) := by decide +kernel

example : authenticate cfg₀ rule₀ world₀ (.token tok₁) now₀ =
    .accepted "4711" (.obj [("id", .num 4711 0), ("name", .str "Alice")]) := by decide +kernel

/-- **Soundness, in the words of the property.**  A subject is created only if there is a key in the key set
obtained from the endpoint with which the signature verifies, whose declared algorithm is the token's `alg` and is
in the allowed list, the issuer named by the payload is trusted, an expected audience is present when audiences are
configured, the required scopes are matched and the token is inside its validity period within the leeway — every
clause read off the raw payload `kvs`. -/
theorem c05_sound {cfg : Config} {rule : Option Expectation} {w : World} {p : Presented} {nowMs : Int}
    {id : String} {attrs : Val} (h : authenticate cfg rule w p nowMs = .accepted id attrs) :
    ∃ tok kvs md ks k a,
      p = .token tok ∧ tok.payload = some (.obj kvs) ∧ Spec.metadata cfg w = some md ∧
      a = Spec.inForce cfg rule md.issuer ∧ w.jwks (Spec.endpoint cfg kvs) = some ks ∧
      k ∈ ks ∧ tok.sigOk k.mat = true ∧ k.alg = tok.alg ∧ k.alg ∈ a.algs ∧
      (∃ i, Spec.issuer kvs = some i ∧ i ∈ a.issuers) ∧
      (a.audiences = [] ∨ ∃ x ∈ a.audiences, x ∈ Spec.audiences kvs) ∧
      Satisfied a.scopes (Spec.granted kvs) ∧
      (∀ t, Spec.date "nbf" kvs = some t → t - a.leewaySec ≤ nowMs / 1000) ∧
      (∀ t, Spec.date "exp" kvs = some t → nowMs / 1000 < t + a.leewaySec) := by
  obtain ⟨_, ⟨tok, kvs, md, ks, k, _, hp, _, _, hpl, hmd, hjw, e, _⟩, _⟩ := (c05_accept_iff ..).mp h
  refine ⟨tok, kvs, md, ks, k, _, hp, hpl, hmd, rfl, hjw, e.fromKeySet, e.signed.2.2, e.algAgrees,
    e.algAllowed, e.issuerTrusted, e.audienceOk, e.scopesOk, ?_, ?_⟩
  · exact fun t ht => Int.sub_right_le_of_le_add (e.notBefore t ht)
  · exact fun t ht => Int.lt_add_of_sub_right_lt (e.notExpired t ht)

/-! ## Every other token is rejected -/

/-- **Unsigned tokens.**  A token whose header says `none` — in any capitalisation — or names no algorithm is
rejected whatever the key set, the configuration and the claims are. -/
theorem c05_unsigned_rejected (cfg : Config) (rule : Option Expectation) (w : World) (tok : Token) (nowMs : Int)
    (h : lowerAscii tok.alg = "none" ∨ tok.alg = "") :
    ∀ id attrs, authenticate cfg rule w (.token tok) nowMs ≠ .accepted id attrs := by
  intro id attrs hacc
  obtain ⟨_, _, _, _, _, a, _⟩ := acceptedToken_of hacc
  have := List.all_eq_true.mp c05_gen_no_unsigned_alg tok.alg a.supported
  simp only [Bool.and_eq_true, bne_iff_ne, ne_eq] at this
  rcases h with h | h
  · exact this.1 h
  · exact this.2 h

example : ∀ id attrs, authenticate cfg₀ rule₀ world₀ (.token { tok₀ with alg := "nOnE", sigOk := fun _ => true })
    now₀ ≠ .accepted id attrs := c05_unsigned_rejected _ _ _ _ _ (Or.inl (by decide))

/-- **Foreign or broken signatures.**  If the signature verifies with none of the keys of the key set fetched for
the token — it was signed with another key, or header, payload or signature were modified — no subject is created. -/
theorem c05_foreign_signature_rejected (cfg : Config) (rule : Option Expectation) (w : World) (tok : Token)
    (nowMs : Int) (h : ∀ u ks, w.jwks u = some ks → ∀ k ∈ ks, tok.sigOk k.mat = false) :
    ∀ id attrs, authenticate cfg rule w (.token tok) nowMs ≠ .accepted id attrs := by
  intro id attrs hacc
  obtain ⟨_, _, _, ks, k, a, _⟩ := acceptedToken_of hacc
  have := h _ ks a.keySet k a.entitled.fromKeySet
  rw [a.entitled.signed.2.2] at this; cases this

example : ∀ id attrs, authenticate cfg₀ rule₀ world₀ (.token { tok₀ with sigOk := fun m => m == 5 }) now₀ ≠
    .accepted id attrs :=
  c05_foreign_signature_rejected _ _ _ _ _ (by intro u ks h; cases h; decide)

/-- **Algorithm confusion.**  A token is only ever verified under the algorithm the key itself declares: if no key
of the set declares the token's `alg` — e.g. an `HS256` token keyed by the public material of an `RS256` / `ES256`
key, an `RS256` token for a key declared `PS256`, or a key that declares no algorithm at all — it is rejected, even
if `sigOk` holds and whatever the allowed algorithms are. -/
theorem c05_alg_confusion_rejected (cfg : Config) (rule : Option Expectation) (w : World) (tok : Token)
    (nowMs : Int) (h : ∀ u ks, w.jwks u = some ks → ∀ k ∈ ks, k.alg ≠ tok.alg) :
    ∀ id attrs, authenticate cfg rule w (.token tok) nowMs ≠ .accepted id attrs := by
  intro id attrs hacc
  obtain ⟨_, _, _, ks, k, a, _⟩ := acceptedToken_of hacc
  exact h _ ks a.keySet k a.entitled.fromKeySet a.entitled.algAgrees

example : ∀ id attrs,
    authenticate { cfg₀ with assertions := { cfg₀.assertions with algs := ["HS256", "ES256", "RS256"] } } rule₀ world₀
      (.token { tok₀ with alg := "HS256", kid := "", sigOk := fun _ => true }) now₀ ≠ .accepted id attrs :=
  c05_alg_confusion_rejected _ _ _ _ _ (by intro u ks h; cases h; decide)

/-- **Other spellings of a token.**  A serialisation that is not the canonical base64url spelling of its octets
(line breaks, stray trailing bits) is rejected, even if the octets are those of a valid token. -/
theorem c05_noncanonical_rejected (cfg : Config) (rule : Option Expectation) (w : World) (tok : Token) (nowMs : Int)
    (h : tok.canonical = false) : ∀ id attrs, authenticate cfg rule w (.token tok) nowMs ≠ .accepted id attrs := by
  intro id attrs hacc
  obtain ⟨_, _, _, _, _, a, _⟩ := acceptedToken_of hacc
  cases h.symm.trans a.canonical

example : authenticate cfg₀ rule₀ world₀ (.token { tok₀ with canonical := false }) now₀ = .rejected .malformed := by
  decide +kernel

/-- **Assertions, on the raw payload.**  A token whose payload `kvs` violates one of the assertions in force is
rejected: it names no issuer (absent, `null`, empty, not a string) or an untrusted one; audiences are configured
and none of them is present; a required scope is not covered; a registered claim is ill-typed. -/
theorem c05_unasserted_rejected (cfg : Config) (rule : Option Expectation) (w : World) (tok : Token) (nowMs : Int)
    (kvs : List (String × Val)) (md : Metadata)
    (hpl : tok.payload = some (.obj kvs)) (hmd : Spec.metadata cfg w = some md)
    (h : Spec.wellTyped kvs = false ∨
         (∀ i, Spec.issuer kvs = some i → i ∉ (Spec.inForce cfg rule md.issuer).issuers) ∨
         ((Spec.inForce cfg rule md.issuer).audiences ≠ [] ∧
            ∀ x ∈ (Spec.inForce cfg rule md.issuer).audiences, x ∉ Spec.audiences kvs) ∨
         ¬ Satisfied (Spec.inForce cfg rule md.issuer).scopes (Spec.granted kvs)) :
    ∀ id attrs, authenticate cfg rule w (.token tok) nowMs ≠ .accepted id attrs := by
  intro id attrs hacc
  obtain ⟨_, kvs', md', ks, k, a, _⟩ := acceptedToken_of hacc
  cases hpl.symm.trans a.payload
  cases hmd.symm.trans a.metadata
  have e := a.entitled
  rcases h with h | h | ⟨hne, h⟩ | h
  · rw [e.wellTyped] at h; cases h
  · obtain ⟨i, hi, hin⟩ := e.issuerTrusted
    exact h i hi hin
  · rcases e.audienceOk with h0 | ⟨x, hx, hx'⟩
    · exact hne h0
    · exact h x hx hx'
  · exact h e.scopesOk

/-- **Validity period, on the raw payload.**  Whatever number the claim carries — zero, negative, fractional,
beyond `2^63`, `1e308`: a token whose `exp` member denotes an instant at or before `now − leeway` is rejected; so is
one whose `nbf` lies after `now + leeway`, and one issued (`iat`) after `now + leeway`. -/
theorem c05_outside_validity_rejected (cfg : Config) (rule : Option Expectation) (w : World) (tok : Token)
    (nowMs : Int) (kvs : List (String × Val)) (md : Metadata) (m : Int) (e : Nat)
    (hpl : tok.payload = some (.obj kvs)) (hmd : Spec.metadata cfg w = some md)
    (h : (lookup "exp" kvs = some (.num m e) ∧
            truncNum m e ≤ nowMs / 1000 - (Spec.inForce cfg rule md.issuer).leewaySec) ∨
         (lookup "nbf" kvs = some (.num m e) ∧
            nowMs / 1000 + (Spec.inForce cfg rule md.issuer).leewaySec < truncNum m e) ∨
         (lookup "iat" kvs = some (.num m e) ∧
            nowMs + (Spec.inForce cfg rule md.issuer).leewayMs < truncNum m e * 1000)) :
    ∀ id attrs, authenticate cfg rule w (.token tok) nowMs ≠ .accepted id attrs := by
  intro id attrs hacc
  obtain ⟨_, kvs', md', ks, k, a, _⟩ := acceptedToken_of hacc
  cases hpl.symm.trans a.payload
  cases hmd.symm.trans a.metadata
  have en := a.entitled
  have hd : ∀ key, lookup key kvs = some (.num m e) → Spec.date key kvs = some (truncNum m e) := by
    intro key hk
    simp only [Spec.date, member_eq_lookup, hk]
    rfl
  rcases h with ⟨hk, h⟩ | ⟨hk, h⟩ | ⟨hk, h⟩
  · exact Int.lt_irrefl _ (Int.lt_of_lt_of_le (en.notExpired _ (hd _ hk)) h)
  · exact Int.lt_irrefl _ (Int.lt_of_lt_of_le h (en.notBefore _ (hd _ hk)))
  · exact Int.lt_irrefl _ (Int.lt_of_lt_of_le h (en.issued _ (hd _ hk)))

/-- **Dates no clock can reach.**  A numeric `exp`, `nbf` or `iat` outside the years 1–9999 (at or before the zero
time, `≥ 2^63`, `1e30`, …) makes the token ill-typed: rejected, not reinterpreted. -/
theorem c05_date_out_of_range_rejected (cfg : Config) (rule : Option Expectation) (w : World) (tok : Token)
    (nowMs : Int) (kvs : List (String × Val)) (key : String) (m : Int) (e : Nat)
    (hpl : tok.payload = some (.obj kvs)) (hkey : key = "exp" ∨ key = "nbf" ∨ key = "iat")
    (hk : lookup key kvs = some (.num m e)) (h : truncNum m e ≤ -62135596800 ∨ 253402300799 < truncNum m e) :
    ∀ id attrs, authenticate cfg rule w (.token tok) nowMs ≠ .accepted id attrs := by
  intro id attrs hacc
  obtain ⟨_, kvs', _, _, _, a, _⟩ := acceptedToken_of hacc
  cases hpl.symm.trans a.payload
  have hw := a.entitled.wellTyped
  have hbad : Spec.dateOk (Spec.member key kvs) = false := by
    rw [member_eq_lookup, hk]
    simp only [Spec.dateOk, Bool.and_eq_false_iff, decide_eq_false_iff_not, Int.not_lt, Int.not_le]
    exact h
  simp only [Spec.wellTyped, Bool.and_eq_true] at hw
  rcases hkey with rfl | rfl | rfl
  · rw [hw.1.1.2] at hbad; cases hbad
  · rw [hw.1.2] at hbad; cases hbad
  · rw [hw.2] at hbad; cases hbad

/-- one second around `exp + leeway`, before `nbf − leeway`, the mechanism-level audience, `exp = 0`, `exp` at the
zero time of Go, `nbf = 2^63`, `iat = 1e30`, no issuer -/
example : authenticate cfg₀ rule₀ world₀ (.token tok₀) (now₀ + 305000) = .rejected .expired ∧
    authenticate cfg₀ rule₀ world₀ (.token tok₀) (now₀ + 304999) =
      .accepted "4711" (.obj [("id", .num 4711 0), ("name", .str "Alice")]) ∧
    authenticate cfg₀ rule₀ world₀ (.token tok₀) (now₀ - 1) = .rejected .notYetValid ∧
    authenticate cfg₀ none world₀ (.token tok₀) now₀ = .rejected .audience ∧
    authenticate cfg₀ rule₀ world₀ (.token (tokWith (claims₀ ++ [("x", .null)]))) now₀ =
      .accepted "4711" (.obj [("id", .num 4711 0), ("name", .str "Alice")]) ∧
    authenticate cfg₀ rule₀ world₀ (.token (tokWith (("exp", .num 0 0) :: claims₀))) now₀ = .rejected .expired ∧
    authenticate cfg₀ rule₀ world₀ (.token (tokWith (("exp", .num (-62135596800) 0) :: claims₀))) now₀
      = .rejected .claims ∧
    authenticate cfg₀ rule₀ world₀ (.token (tokWith (("nbf", .num 9223372036854775808 0) :: claims₀))) now₀
      = .rejected .claims ∧
    authenticate cfg₀ rule₀ world₀ (.token (tokWith (("iat", .num (10 ^ 30) 0) :: claims₀))) now₀
      = .rejected .claims ∧
    authenticate cfg₀ rule₀ world₀ (.token (tokWith (claims₀.drop 1))) now₀ = .rejected .issuer := by
  decide +kernel

/-- **Once expired, never accepted again.**  If at some instant the token's `exp` lies at or before `now − leeway`,
the same request is rejected at every later instant (same configuration, endpoints and token). -/
theorem c05_expired_forever (cfg : Config) (rule : Option Expectation) (w : World) (tok : Token) (nowMs nowMs' : Int)
    (kvs : List (String × Val)) (md : Metadata) (m : Int) (e : Nat)
    (hpl : tok.payload = some (.obj kvs)) (hmd : Spec.metadata cfg w = some md)
    (hexp : lookup "exp" kvs = some (.num m e))
    (h : truncNum m e ≤ nowMs / 1000 - (Spec.inForce cfg rule md.issuer).leewaySec) (hlater : nowMs ≤ nowMs') :
    ∀ id attrs, authenticate cfg rule w (.token tok) nowMs' ≠ .accepted id attrs :=
  c05_outside_validity_rejected cfg rule w tok nowMs' kvs md m e hpl hmd
    (Or.inl ⟨hexp, Int.le_trans h (Int.sub_le_sub_right (Int.ediv_le_ediv (by decide) hlater) _)⟩)

example : lookup "exp" claims₀ = some (.num 1700000300 0) ∧
    truncNum 1700000300 0 ≤ (now₀ + 305000) / 1000 - (Spec.inForce cfg₀ rule₀ "").leewaySec :=
  by decide +kernel

/-! ## Only the registered claims decide -/

/-- the witness claims without the `aud` member -/
def claimsNoAud : List (String × Val) := claims₀.filter fun kv => kv.1 ≠ "aud"

/-- **The verdict reads the payload under the registered names only** (`iss`, `sub`, `aud`, `scp`, `scope`, `exp`,
`nbf`, `iat`, `jti`).  Take two payloads `kvs`, `kvs'` of any shape that say the same under these names and differ
arbitrarily elsewhere — one names the expected audience in `azp`, `client_id`, `audience`, `Aud` or `ext.aud`, the
trusted issuer in `issuer`, the required scopes in `scopes` / `permissions`, a later instant in `expires_at`, the
other does not — and put them into the same token (same header, same signature oracle), same configuration at both
levels, same endpoints, same instant:
1. every refusal that is not about the subject (`issuer`, `audience`, `expired`, `notYetValid`, `issuedInFuture`,
   `scopes`, `claims`, `signature`, …) is pronounced for both or for neither;
2. if the one is accepted, the other gets exactly what `CreateSubject` makes of its own payload (a subject, or a
   refusal for want of an id / attributes object);
3. if the two payloads yield the same subject, the two requests end alike. -/
theorem c05_only_registered_claims_decide (cfg : Config) (rule : Option Expectation) (w : World) (t : Token)
    (nowMs : Int) (kvs kvs' : List (String × Val)) (h : ∀ n ∈ Spec.registered, lookup n kvs = lookup n kvs') :
    (∀ why, why ≠ .subjectId → why ≠ .attributes →
      (authenticate cfg rule w (.token (t.withPayload kvs)) nowMs = .rejected why ↔
        authenticate cfg rule w (.token (t.withPayload kvs')) nowMs = .rejected why)) ∧
    ((∃ id attrs, authenticate cfg rule w (.token (t.withPayload kvs)) nowMs = .accepted id attrs) →
      authenticate cfg rule w (.token (t.withPayload kvs')) nowMs = subject cfg.subject (.obj kvs')) ∧
    (subject cfg.subject (.obj kvs) = subject cfg.subject (.obj kvs') →
      authenticate cfg rule w (.token (t.withPayload kvs)) nowMs =
        authenticate cfg rule w (.token (t.withPayload kvs')) nowMs) := by
  have hg : gate cfg rule w t kvs nowMs = gate cfg rule w t kvs' nowMs := gate_congr cfg rule w t nowMs h
  rw [authenticate_withPayload, authenticate_withPayload, hg]
  cases gate cfg rule w t kvs' nowMs with
  | error o =>
    refine ⟨fun _ _ _ => Iff.rfl, ?_, fun _ => rfl⟩
    rintro ⟨id, attrs, ha⟩
    cases o with
    | none => cases ha
    | some why => cases ha
  | ok u =>
    cases u
    refine ⟨?_, fun _ => rfl, fun hs => hs⟩
    intro why h1 h2
    constructor <;> intro hs <;> rcases subject_rejected_why hs with e | e <;> contradiction

/-- the hypothesis at a witness: `azp` put in front of the witness claims without `aud` -/
example : ∀ n ∈ Spec.registered, lookup n (("azp", .str "api") :: claimsNoAud) = lookup n claimsNoAud :=
  agree_cons _ _ (by decide)

/-- **A member under an unregistered name is no assertion.**  For every name outside `Spec.registered` and every
value: putting such a member in front of a payload, or removing all members of that name, neither creates nor destroys
an entitlement (specification), and every refusal of the authenticator that is not about the subject stays what it
was. -/
theorem c05_unregistered_member_is_no_assertion (cfg : Config) (rule : Option Expectation) (w : World) (t : Token)
    (nowMs : Int) (kvs : List (String × Val)) (n : String) (v : Val) (hn : n ∉ Spec.registered) :
    (∀ a vj ks k, Entitled a vj ks t ((n, v) :: kvs) nowMs k ↔ Entitled a vj ks t kvs nowMs k) ∧
    (∀ a vj ks k, Entitled a vj ks t (kvs.filter fun kv => kv.1 ≠ n) nowMs k ↔ Entitled a vj ks t kvs nowMs k) ∧
    (∀ why, why ≠ .subjectId → why ≠ .attributes →
      (authenticate cfg rule w (.token (t.withPayload ((n, v) :: kvs))) nowMs = .rejected why ↔
        authenticate cfg rule w (.token (t.withPayload kvs)) nowMs = .rejected why)) :=
  ⟨fun a vj ks k => ⟨entitled_congr a vj ks t nowMs k (agree_cons v kvs hn),
      entitled_congr a vj ks t nowMs k (agree_cons v kvs hn).symm⟩,
   fun a vj ks k => ⟨entitled_congr a vj ks t nowMs k (agree_filter kvs hn),
      entitled_congr a vj ks t nowMs k (agree_filter kvs hn).symm⟩,
   (c05_only_registered_claims_decide cfg rule w t nowMs _ _ (agree_cons v kvs hn)).1⟩

example : "azp" ∉ Spec.registered ∧ "client_id" ∉ Spec.registered ∧ "audience" ∉ Spec.registered ∧
    "Aud" ∉ Spec.registered ∧ "aud " ∉ Spec.registered ∧ "scopes" ∉ Spec.registered ∧
    "expires_at" ∉ Spec.registered ∧ "issuer" ∉ Spec.registered := by decide +kernel

/-- **The audience is read from `aud`, from nowhere else.**  With audiences in force (at rule level, else at
mechanism level), a token whose payload has no `aud` member, or whose `aud` member — whatever its type — denotes none
of the expected audiences (`[]`, `""`, `null`, other parties), is rejected; no other member (`azp`, the party the
token was issued *to*, `client_id`, `cid`, `appid`, `audience`, `resource`, `Aud`, a nested `aud`) can stand in for it:
the statement does not restrict the rest of the payload. -/
theorem c05_audience_only_from_aud (cfg : Config) (rule : Option Expectation) (w : World) (tok : Token)
    (nowMs : Int) (kvs : List (String × Val)) (md : Metadata)
    (hpl : tok.payload = some (.obj kvs)) (hmd : Spec.metadata cfg w = some md)
    (hcfg : (Spec.inForce cfg rule md.issuer).audiences ≠ [])
    (haud : ∀ v, lookup "aud" kvs = some v →
      ∀ x ∈ (Spec.inForce cfg rule md.issuer).audiences, x ∉ Spec.strings (some v)) :
    ∀ id attrs, authenticate cfg rule w (.token tok) nowMs ≠ .accepted id attrs := by
  refine c05_unasserted_rejected cfg rule w tok nowMs kvs md hpl hmd (Or.inr (Or.inr (Or.inl ⟨hcfg, ?_⟩)))
  intro x hx
  simp only [Spec.audiences, member_eq_lookup]
  cases hl : lookup "aud" kvs with
  | none => simp [Spec.strings]
  | some v => exact haud v hl x hx

/-- the hypotheses at a witness: audiences `api`, `web` in force (rule level), no `aud` member, `azp` = `api` -/
example : (tokWith (("azp", .str "api") :: claimsNoAud)).payload = some (.obj (("azp", .str "api") :: claimsNoAud)) ∧
    Spec.metadata cfg₀ world₀ = some { issuer := "", hasJwks := true } ∧
    (Spec.inForce cfg₀ rule₀ "").audiences ≠ [] ∧
    ∀ v, lookup "aud" (("azp", .str "api") :: claimsNoAud) = some v →
      ∀ x ∈ (Spec.inForce cfg₀ rule₀ "").audiences, x ∉ Spec.strings (some v) :=
  ⟨rfl, rfl, by decide, fun v hv => by cases hv⟩

/-- no `aud` but `azp` / `client_id` / `audience` / `Aud` / `aud␠` / a nested `aud` naming the expected audience;
`aud: []`, `aud: ""`, `aud` naming another party next to such a member: refused for the audience.  The same members
next to a satisfying `aud` (the authorised party is somebody else): accepted as before. -/
example :
    authenticate cfg₀ rule₀ world₀ (.token (tokWith (("azp", .str "api") :: claimsNoAud))) now₀ = .rejected .audience ∧
    authenticate cfg₀ rule₀ world₀ (.token (tokWith (("client_id", .str "api") :: claimsNoAud))) now₀
      = .rejected .audience ∧
    authenticate cfg₀ rule₀ world₀ (.token (tokWith (("audience", .arr [.str "api"]) :: claimsNoAud))) now₀
      = .rejected .audience ∧
    authenticate cfg₀ rule₀ world₀ (.token (tokWith (("Aud", .arr [.str "api"]) :: claimsNoAud))) now₀
      = .rejected .audience ∧
    authenticate cfg₀ rule₀ world₀ (.token (tokWith (("aud ", .str "api") :: claimsNoAud))) now₀
      = .rejected .audience ∧
    authenticate cfg₀ rule₀ world₀ (.token (tokWith (("ext", .obj [("aud", .str "api")]) :: claimsNoAud))) now₀
      = .rejected .audience ∧
    authenticate cfg₀ rule₀ world₀ (.token (tokWith (("aud", .arr []) :: ("azp", .str "api") :: claimsNoAud))) now₀
      = .rejected .audience ∧
    authenticate cfg₀ rule₀ world₀ (.token (tokWith (("aud", .str "") :: ("azp", .str "api") :: claimsNoAud))) now₀
      = .rejected .audience ∧
    authenticate cfg₀ rule₀ world₀
      (.token (tokWith (("aud", .arr [.str "someone-else"]) :: ("azp", .str "api") :: claimsNoAud))) now₀
      = .rejected .audience ∧
    authenticate cfg₀ rule₀ world₀ (.token (tokWith (("azp", .str "someone-else") :: claims₀))) now₀ =
      .accepted "4711" (.obj [("id", .num 4711 0), ("name", .str "Alice")]) ∧
    authenticate cfg₀ rule₀ world₀ (.token (tokWith (("azp", .str "api") :: claimsNoAud ++ [("aud", .str "web")]))) now₀ =
      .accepted "4711" (.obj [("id", .num 4711 0), ("name", .str "Alice")]) := by
  decide +kernel

/-- the other clauses likewise: the trusted issuer under `issuer`, the required scope under `scopes`, a later
instant under `expires_at` do not help a token whose `iss` / `scp` / `exp` do not satisfy the assertions -/
example :
    authenticate cfg₀ rule₀ world₀
      (.token (tokWith (("issuer", .str "https://idp.example.com") :: claims₀.drop 1))) now₀ = .rejected .issuer ∧
    authenticate cfg₀ rule₀ world₀
      (.token (tokWith (("scopes", .arr [.str "users.*"]) :: claims₀.filter fun kv => kv.1 ≠ "scp"))) now₀
      = .rejected .scopes ∧
    authenticate cfg₀ rule₀ world₀
      (.token (tokWith (("exp", .num 1699999000 0) :: ("expires_at", .num 1700000300 0) :: claims₀))) now₀
      = .rejected .expired := by
  decide +kernel

/-- **A `kid` designates exactly one key.**  A token that names a key is accepted only if exactly one key of the
set carries that name, and then that key alone decides: duplicates, a missing key or a named key that does not
verify lead to rejection even if another key of the set would verify the token. -/
theorem c05_kid_designates {cfg : Config} {rule : Option Expectation} {w : World} {tok : Token} {nowMs : Int}
    {id : String} {attrs : Val} (hkid : tok.kid ≠ "")
    (h : authenticate cfg rule w (.token tok) nowMs = .accepted id attrs) :
    ∃ u ks k, w.jwks u = some ks ∧ ks.filter (fun k' => k'.kid = tok.kid) = [k] ∧
      tok.sigOk k.mat = true ∧ k.alg = tok.alg := by
  obtain ⟨_, _, _, ks, k, a, _⟩ := acceptedToken_of h
  exact ⟨_, ks, k, a.keySet, a.entitled.designated hkid, a.entitled.signed.2.2, a.entitled.algAgrees⟩

/-- two keys named `k1`: rejected although the first of them verifies the token -/
example : authenticate cfg₀ rule₀ { jwks := fun _ => some (keys₀ ++ [{ kid := "k1", alg := "ES256", mat := 3 }]) }
    (.token tok₀) now₀ = .rejected .ambiguousKey := by decide +kernel

/-- **Acceptance is owed to a single key.**  Whenever a token is accepted against a key set, one key of that set
alone — served as the whole key set — leads to the same subject: no combination of keys can make a token
acceptable that no single key of the endpoint justifies. -/
theorem c05_single_key_suffices {cfg : Config} {rule : Option Expectation} {w : World} {p : Presented}
    {nowMs : Int} {id : String} {attrs : Val} (h : authenticate cfg rule w p nowMs = .accepted id attrs) :
    ∃ u ks k, w.jwks u = some ks ∧ k ∈ ks ∧
      authenticate cfg rule { w with jwks := fun _ => some [k] } p nowMs = .accepted id attrs := by
  obtain ⟨a₀, ⟨tok, kvs, md, ks, k, hcfg, hp, hsup, hcan, hpl, hmd, hjw, e, hs⟩, ha⟩ := (c05_accept_iff ..).mp h
  refine ⟨_, ks, k, hjw, e.fromKeySet, (c05_accept_iff ..).mpr
    ⟨a₀, ⟨tok, kvs, md, [k], k, hcfg, hp, hsup, hcan, hpl, hmd, rfl, ?_, hs⟩, ha⟩⟩
  refine { e with fromKeySet := List.mem_singleton.mpr rfl, designated := ?_ }
  intro hk
  have hmem : k ∈ ks.filter (fun k' => k'.kid = tok.kid) := by rw [e.designated hk]; exact List.mem_singleton.mpr rfl
  have hkk : k.kid = tok.kid := by simpa using (List.mem_filter.mp hmem).2
  simp [List.filter, hkk]

/-- **`Merge` is "first one set wins", field by field**, and therefore associative: rule level over mechanism
level over server metadata is well defined. -/
theorem c05_merge_assoc (a b c : Expectation) : (a.merge b).merge c = a.merge (b.merge c) := by
  simp only [Expectation.merge, Expectation.mk.injEq]
  exact ⟨firstSet_assoc (fun l : List String => l ≠ []) .., firstSet_assoc (fun o : Option ScopesMatcher => o.isSome = true) ..,
    firstSet_assoc (fun l : List String => l ≠ []) .., firstSet_assoc (fun l : List String => l ≠ []) ..,
    firstSet_assoc (fun i : Int => i ≠ 0) ..⟩

/-- **Configured expectations take precedence over metadata, rule level over mechanism level.**  The chain of
`Merge` calls computes, per assertion, the value of the first level that sets one (`Spec.inForce`): rule level, else
mechanism level, else the issuer named by the server metadata / no audience check / no scope requirement / the
default algorithms / 10 s. -/
theorem c05_effective_is_first_set (cfg : Config) (rule : Option Expectation) (metaIssuer : String) :
    effective cfg rule metaIssuer = Spec.inForce cfg rule metaIssuer :=
  effective_eq_inForce cfg rule metaIssuer

/-- trusted issuers configured at the mechanism are never widened by what the metadata document says -/
theorem c05_configured_issuers_win (cfg : Config) (metaIssuer : String) (h : cfg.assertions.issuers ≠ []) :
    (Spec.inForce cfg none metaIssuer).issuers = cfg.assertions.issuers := by
  simp only [Spec.inForce, Spec.levels, List.nil_append, List.map_cons, List.cons_append, firstSet_cons]
  exact if_pos h

example : (Spec.inForce cfg₀ rule₀ "https://evil.example").issuers = ["https://idp.example.com"] ∧
    (Spec.inForce cfg₀ rule₀ "").audiences = ["api", "web"] ∧ (Spec.inForce cfg₀ none "").audiences = ["nobody"] ∧
    (Spec.inForce cfg₀ rule₀ "").algs = ["ES256", "PS256"] ∧ (Spec.inForce cfg₀ rule₀ "").leewaySec = 5 ∧
    (Spec.inForce { cfg₀ with assertions := {} } none "https://meta.example").issuers = ["https://meta.example"] ∧
    (Spec.inForce { cfg₀ with assertions := {} } none "").algs = Gen.defaultAllowed := by
  decide +kernel

/-- **The subject consists of verified claims only.**  The id of an accepted request is the textual form of the value
at the id path of the token's payload — the payload whose signature was verified — and the attributes are the object
at the attributes path with its numbers as doubles; they do not depend on the header, the key set, the endpoints, the
assertions or the instant: any two accepted requests with the same payload and subject configuration yield the same
subject. -/
theorem c05_subject_from_claims {cfg cfg' : Config} {rule rule' : Option Expectation} {w w' : World}
    {tok tok' : Token} {nowMs nowMs' : Int} {id id' : String} {attrs attrs' : Val}
    (h : authenticate cfg rule w (.token tok) nowMs = .accepted id attrs)
    (h' : authenticate cfg' rule' w' (.token tok') nowMs' = .accepted id' attrs')
    (hp : tok.payload = tok'.payload) (hs : cfg.subject = cfg'.subject) :
    (∃ pl attrs₀, tok.payload = some pl ∧ SubjectOf cfg.subject pl id attrs₀ ∧ attrs = attrs₀.round) ∧
      id = id' ∧ attrs = attrs' := by
  obtain ⟨a₁, kvs, _, _, _, a, rfl⟩ := acceptedToken_of h
  obtain ⟨a₂, kvs', _, _, _, a', rfl⟩ := acceptedToken_of h'
  cases a.payload.symm.trans (hp.trans a'.payload)
  refine ⟨⟨_, a₁, a.payload, a.subject, rfl⟩, ?_⟩
  obtain ⟨v, hv, hid, _, o, rfl, hsrc⟩ := a.subject
  obtain ⟨v', hv', hid', _, o', rfl, hsrc'⟩ := hs ▸ a'.subject
  cases hv.symm.trans hv'
  cases hid.symm.trans hid'
  cases hsrc.symm.trans hsrc'
  exact ⟨rfl, rfl⟩

/-- **Attributes are exactly the claims — partial.**  For payloads all of whose integral numbers fit into a double
(`|n| ≤ 2^53`) the attributes of an accepted request are the object of the payload itself.  (Full statement: for
all payloads; it fails, see the witness below — known finding `C05-attrs-float64`.) -/
theorem c05_attrs_exact_partial {cfg : Config} {rule : Option Expectation} {w : World} {tok : Token} {nowMs : Int}
    {id : String} {attrs : Val} (h : authenticate cfg rule w (.token tok) nowMs = .accepted id attrs)
    (hsafe : ∀ pl, tok.payload = some pl → pl.floatSafe = true) :
    ∃ pl, tok.payload = some pl ∧ SubjectOf cfg.subject pl id attrs := by
  obtain ⟨a₀, kvs, _, _, _, a, rfl⟩ := acceptedToken_of h
  refine ⟨_, a.payload, ?_⟩
  have hr := Val.round_of_floatSafe _ (hsafe _ a.payload)
  obtain ⟨v, hv, hid, hne, o, rfl, hsrc⟩ := a.subject
  have : (Val.obj o).round = .obj o := by
    -- the attributes object is the payload, which rounding leaves as it is, or what a path finds in it: then it is
    -- what the path finds in the rounded payload, i.e. its own rounded form
    unfold attrsSource at hsrc
    split at hsrc
    · cases hsrc; exact hr
    · next path _ =>
      have := get_round path (.obj kvs)
      rw [hr, hsrc] at this
      exact (Option.some.inj this).symm
  rw [this]
  exact ⟨v, hv, hid, hne, o, rfl, hsrc⟩

/-- the negation of the full statement at a witness: a verified claim `9007199254740993` arrives in the attributes
as `9007199254740992` (while the id keeps its digits) -/
theorem c05_attrs_rounded_witness :
    authenticate cfg₀ rule₀ world₀
      (.token (tokWith (claims₀.dropLast ++ [("user", .obj [("id", .num 9007199254740993 0)])]))) now₀ =
      .accepted "9007199254740993" (.obj [("id", .num 9007199254740992 0)]) := by decide +kernel

/-! ## The subject id is the claim, octet for octet -/

/-- subject taken from `sub`, attributes = the whole payload (the defaults of the mechanism) -/
def cfgS : Config := { cfg₀ with subject := {} }

/-- subject taken from a nested claim (`subject.id: ctx.user.id`) -/
def cfgN : Config :=
  { cfg₀ with subject := { idPath := [{ key := "ctx" }, { key := "user" }, { key := "id" }],
                           attrsPath := some [{ key := "ctx" }, { key := "user" }] } }

/-- the witness claims with another `sub` and a user name / nested id of the same spelling -/
def claimsFor (s : String) : List (String × Val) :=
  [("iss", .str "https://idp.example.com"), ("sub", .str s), ("preferred_username", .str s),
   ("aud", .arr [.str "api"]), ("scp", .arr [.str "users.*"]), ("exp", .num 1700000300 0),
   ("ctx", .obj [("user", .obj [("id", .str s), ("name", .str s)])])]

/-- **`CreateSubject` takes the identifier as it stands.**  Whatever non-empty string the verified payload carries
at the configured id path — with leading or trailing blanks, tabs, line breaks, no-break or zero-width spaces, in any
case, any Unicode normalisation form, consisting of blanks only, looking like a number, a boolean or a JSON
document — that very string is the subject id: nothing is trimmed, folded, normalised or refused. -/
theorem c05_create_subject_verbatim (sc : SubjectConf) (pl : Val) (s : String) (kvs : List (String × Val))
    (hid : pl.get sc.idPath = some (.str s)) (hne : s ≠ "") (hattrs : attrsSource sc pl = some (.obj kvs)) :
    subject sc pl = .accepted s (Val.obj kvs).round := by
  simp only [subject, hid, idString, hne, ↓reduceIte, hattrs]

example : (Val.obj (claimsFor "admin ")).get cfgN.subject.idPath = some (.str "admin ") ∧ "admin " ≠ "" ∧
    attrsSource cfgN.subject (.obj (claimsFor "admin ")) =
      some (.obj [("id", .str "admin "), ("name", .str "admin ")]) := by decide +kernel

/-- **Subject id verbatim.**  For every accepted token whose verified payload carries a string at the configured id
path (`sub` by default, `preferred_username`, `user.id`, … when configured), the subject id *is* that string — equal
as a string, hence with the same UTF-8 octets and the same number of characters.  For all strings: no trimming, no
case folding, no normalisation. -/
theorem c05_subject_id_verbatim {cfg : Config} {rule : Option Expectation} {w : World} {tok : Token} {nowMs : Int}
    {id : String} {attrs : Val} (h : authenticate cfg rule w (.token tok) nowMs = .accepted id attrs)
    {pl : Val} {s : String} (hpl : tok.payload = some pl) (hs : pl.get cfg.subject.idPath = some (.str s)) :
    id = s ∧ id.toUTF8 = s.toUTF8 ∧ id.length = s.length := by
  obtain ⟨_, kvs, _, _, _, a, _⟩ := acceptedToken_of h
  cases hpl.symm.trans a.payload
  obtain ⟨v, hv, hid, _⟩ := a.subject
  rw [hs] at hv; cases hv
  simp only [idString, Option.some.injEq] at hid
  subst hid
  exact ⟨rfl, rfl, rfl⟩

/-- accepted with trailing blank, leading blank, trailing line break, trailing tab (other claim), no-break space,
zero-width space, blanks only, a decomposed `é`, a Cyrillic `а` — each id exactly as claimed; the attributes carry
the same spelling -/
example :
    authenticate cfgS rule₀ world₀ (.token (tokWith (claimsFor "admin "))) now₀ =
      .accepted "admin " (.obj (claimsFor "admin ")) ∧
    authenticate cfgS rule₀ world₀ (.token (tokWith (claimsFor " admin"))) now₀ =
      .accepted " admin" (.obj (claimsFor " admin")) ∧
    authenticate cfgS rule₀ world₀ (.token (tokWith (claimsFor "admin\n"))) now₀ =
      .accepted "admin\n" (.obj (claimsFor "admin\n")) ∧
    authenticate { cfgS with subject := { idPath := [{ key := "preferred_username" }] } } rule₀ world₀
      (.token (tokWith (claimsFor "admin\t"))) now₀ = .accepted "admin\t" (.obj (claimsFor "admin\t")) ∧
    authenticate cfgN rule₀ world₀ (.token (tokWith (claimsFor "admin\u00a0"))) now₀ =
      .accepted "admin\u00a0" (.obj [("id", .str "admin\u00a0"), ("name", .str "admin\u00a0")]) ∧
    authenticate cfgN rule₀ world₀ (.token (tokWith (claimsFor "admin\u200b"))) now₀ =
      .accepted "admin\u200b" (.obj [("id", .str "admin\u200b"), ("name", .str "admin\u200b")]) ∧
    authenticate cfgS rule₀ world₀ (.token (tokWith (claimsFor "   "))) now₀ =
      .accepted "   " (.obj (claimsFor "   ")) ∧
    authenticate cfgS rule₀ world₀ (.token (tokWith (claimsFor "e\u0301"))) now₀ =
      .accepted "e\u0301" (.obj (claimsFor "e\u0301")) ∧
    authenticate cfgS rule₀ world₀ (.token (tokWith (claimsFor "\u0430dmin"))) now₀ =
      .accepted "\u0430dmin" (.obj (claimsFor "\u0430dmin")) ∧
    authenticate cfgS rule₀ world₀ (.token (tokWith (claimsFor ""))) now₀ = .rejected .subjectId := by
  decide +kernel

/-- the hypotheses of `c05_subject_id_verbatim` at an id with a trailing blank: the conclusion distinguishes it from
the id without the blank -/
example : ∃ id attrs, authenticate cfgS rule₀ world₀ (.token (tokWith (claimsFor "admin "))) now₀ = .accepted id attrs ∧
    (Val.obj (claimsFor "admin ")).get cfgS.subject.idPath = some (.str "admin ") ∧ id ≠ "admin" ∧ id.length = 6 :=
  ⟨"admin ", .obj (claimsFor "admin "), by decide +kernel⟩

/-- **Different identifiers, different subjects.**  Two accepted tokens — under whatever configurations, key sets
and instants — whose id claims differ as strings (equivalently: as sequences of UTF-8 octets) never yield the same
subject id: `admin`, `admin␠`, `␠admin`, `admin\n`, `Admin`, `é` and `e◌́` are all different principals. -/
theorem c05_distinct_ids_distinct_subjects {cfg cfg' : Config} {rule rule' : Option Expectation} {w w' : World}
    {tok tok' : Token} {nowMs nowMs' : Int} {id id' : String} {attrs attrs' : Val}
    (h : authenticate cfg rule w (.token tok) nowMs = .accepted id attrs)
    (h' : authenticate cfg' rule' w' (.token tok') nowMs' = .accepted id' attrs')
    {pl pl' : Val} {s s' : String} (hpl : tok.payload = some pl) (hpl' : tok'.payload = some pl')
    (hs : pl.get cfg.subject.idPath = some (.str s)) (hs' : pl'.get cfg'.subject.idPath = some (.str s')) :
    (s ≠ s' → id ≠ id') ∧ (s.toUTF8 ≠ s'.toUTF8 → id.toUTF8 ≠ id'.toUTF8) := by
  obtain ⟨rfl, _, _⟩ := c05_subject_id_verbatim h hpl hs
  obtain ⟨rfl, _, _⟩ := c05_subject_id_verbatim h' hpl' hs'
  exact ⟨fun hne => hne, fun hne => hne⟩

/-- `admin` and `admin␠` (trailing blank) presented to the same authenticator: both accepted, two subjects -/
example : ∃ id id' attrs attrs',
    authenticate cfgS rule₀ world₀ (.token (tokWith (claimsFor "admin"))) now₀ = .accepted id attrs ∧
    authenticate cfgS rule₀ world₀ (.token (tokWith (claimsFor "admin "))) now₀ = .accepted id' attrs' ∧
    "admin" ≠ "admin " ∧ id ≠ id' :=
  ⟨"admin", "admin ", .obj (claimsFor "admin"), .obj (claimsFor "admin "), by decide +kernel⟩

/-- **Attribute strings verbatim.**  Every string found in the attributes of an accepted request — at any depth —
is, unchanged, the string at the same place of the verified payload's attributes object, and every string of that
object arrives: rounding to doubles (known finding `C05-attrs-float64`) concerns numbers only. -/
theorem c05_attribute_strings_verbatim {cfg : Config} {rule : Option Expectation} {w : World} {tok : Token}
    {nowMs : Int} {id : String} {attrs : Val} (h : authenticate cfg rule w (.token tok) nowMs = .accepted id attrs)
    (path : List Seg) (s : String) :
    attrs.get path = some (.str s) ↔
      ∃ pl src, tok.payload = some pl ∧ attrsSource cfg.subject pl = some src ∧ src.get path = some (.str s) := by
  obtain ⟨_, kvs, _, _, _, a, rfl⟩ := acceptedToken_of h
  have hpl := a.payload
  obtain ⟨_, _, _, _, o, rfl, hsrc⟩ := a.subject
  simp only [get_round, Option.map_eq_some_iff, round_eq_str, exists_eq_right]
  exact ⟨fun hg => ⟨_, _, hpl, hsrc, hg⟩, fun ⟨pl, src, hpl', hsrc', hg⟩ => by
    cases hpl.symm.trans hpl'
    cases hsrc.symm.trans hsrc'
    exact hg⟩

example : ∃ id attrs, authenticate cfgN rule₀ world₀ (.token (tokWith (claimsFor " admin\t"))) now₀ = .accepted id attrs ∧
    attrs.get [{ key := "name" }] = some (.str " admin\t") :=
  ⟨" admin\t", .obj [("id", .str " admin\t"), ("name", .str " admin\t")], by decide +kernel⟩

/-- **The three matching strategies decide the relations of the specification**: exact = equality; hierarchic = the
granted scope equals the required one or is a proper dot-prefix of it; wildcard = part-wise agreement with `*` for
any non-empty part, a shorter granted scope having to end in `*`.  Both the model's transcription of the Go loops and
the executable specification's own functions decide them. -/
theorem c05_scope_strategies (st : Strategy) (granted required : String) :
    (covers1 st granted required = true ↔ Covers st granted required) ∧
    (Spec.covers st granted required = true ↔ Covers st granted required) :=
  ⟨covers1_iff st granted required, spec_covers_iff st granted required⟩

example : Covers .hierarchic "users" "users.read.all" ∧ ¬ Covers .hierarchic "users.read" "users" ∧
    ¬ Covers .hierarchic "user" "users.read" ∧ ¬ Covers .hierarchic "" "users" ∧
    Covers .wildcard "users.*" "users.read.all" ∧
    ¬ Covers .wildcard "users.*" "users" ∧ ¬ Covers .wildcard "*" "" ∧ Covers .wildcard "a.*.c" "a.b.c" ∧
    ¬ Covers .exact "users" "users.read" := by
  simp only [← covers1_iff, covers1, hierCovers1, wildCovers1, parts, splitAtChar, Ascii.toList_lit _ _ rfl]
  decide +kernel

/-- **A cold cache changes nothing.** -/
theorem c05_first_request (cfg : Config) (rule : Option Expectation) (w : World) (p : Presented) (nowMs : Int) :
    (step cfg rule w [] p nowMs).1 = authenticate cfg rule w p nowMs := by
  obtain ⟨w', hw', h⟩ := (step_sound cfg rule w [] [] p nowMs (prov_nil _ _)).2
  cases List.mem_singleton.mp hw'
  exact h

/-- **Every request of a history is decided by a key set the endpoint really served.**  In a sequence of requests
starting with an empty cache — key sets rotating, endpoints failing, any mix of tokens — the outcome of request `i`
is the outcome of the cold-cache authenticator against the metadata of that moment and the key-set endpoint as it
answered at moment `i` or at an earlier moment `j ≤ i`: a key served from the cache was the unique, certificate-valid
key of that name in a key set fetched from the very url the current token renders to, so all theorems above apply
with that key set.  In particular a token is never verified with a key of another (e.g. another issuer's) url. -/
theorem c05_history_sound (cfg : Config) (rule : Option Expectation) (reqs : List (World × Presented × Int))
    (i : Nat) (hi : i < reqs.length) :
    ∃ w' ∈ (reqs.take (i + 1)).map (·.1),
      (run cfg rule reqs [])[i]? =
        some (authenticate cfg rule { metadata := reqs[i].1.metadata, jwks := w'.jwks } reqs[i].2.1 reqs[i].2.2) := by
  obtain ⟨w', hw', h⟩ := run_origin cfg rule reqs [] [] (prov_nil _ _) i hi
  exact ⟨w', by simpa using hw', h⟩

/-- one key set per issuer: the url of the key-set endpoint is a template -/
def cfgT : Config :=
  { cfg₀ with
    templated := true
    assertions := { cfg₀.assertions with issuers := ["https://idp.example.com", "B"], audiences := [] } }

/-- issuer `B` publishes another key under the same `kid` -/
def worldT : World :=
  { jwks := fun u => if u = "B" then some [{ kid := "k1", alg := "ES256", mat := 3 }] else some keys₀ }

/-- issuer B's token signed with issuer A's key, same `kid`, after A's key was cached: rejected, because the cache
is indexed by what the templated url renders to -/
example :
    run cfgT none [(worldT, .token tok₀, now₀), (worldT, .token (tokWith (("iss", .str "B") :: claims₀)), now₀)] [] =
      [.accepted "4711" (.obj [("id", .num 4711 0), ("name", .str "Alice")]), .rejected .signature] := by
  decide +kernel

/-! ## Among the other mechanisms of the process

A process holds many mechanisms: further `jwt` authenticators, `oauth2_introspection` authenticators (the same
`oauth2.Expectation`), rule-level copies.  "The allowed list" of the property is the authenticator's **own** list —
the one configured at rule level, else at mechanism level, else the documented default — whatever lists the
neighbours configure and whenever they are created (`Model/JwtProcess.lean`). -/

/-- **Creating mechanisms leaves the default algorithms alone**: after any number of creations, of any type, with
any configured lists at mechanism and rule level, the next reader of the defaults gets what the first one got. -/
theorem c05_creating_mechanisms_keeps_defaults (ns : List Neighbour) (p : Process) :
    (ns.foldl Process.create p).defaults = p.defaults := by
  induction ns generalizing p with
  | nil => rfl
  | cons n rest ih => exact ih (p.create n)

/-- **Other mechanisms are invisible.**  For every history of the process — neighbours created before the
authenticator, between two of its requests, after them — the requests are answered exactly as by the authenticator
alone (`run`, about which all theorems above speak). -/
theorem c05_other_mechanisms_are_invisible (cfg : Config) (rule : Option Expectation) (events : List Event) :
    runIn cfg rule events {} [] = run cfg rule (requestsOf events) [] :=
  runIn_eq_run cfg rule events {} [] rfl

/-- **The allowed list is the authenticator's own.**  In every history of the process, a request that yields a
subject carried a token whose `alg` is in the list in force for *this* authenticator (rule level, else mechanism
level, else `Gen.defaultAllowed`), and a key of a key set served for it declares that very algorithm and verifies
the signature — no matter which algorithms the neighbours allow. -/
theorem c05_allowed_algorithms_are_ones_own (cfg : Config) (rule : Option Expectation) (events : List Event)
    (i : Nat) (hi : i < (requestsOf events).length) (id : String) (attrs : Val)
    (h : (runIn cfg rule events {} [])[i]? = some (.accepted id attrs)) :
    ∃ (tok : Token) (md : Metadata) (w' : World), (requestsOf events)[i].2.1 = .token tok ∧ w' ∈ ((requestsOf events).take (i + 1)).map (·.1) ∧
      tok.alg ∈ (Spec.inForce cfg rule md.issuer).algs ∧
      ∃ kvs ks k, tok.payload = some (.obj kvs) ∧ w'.jwks (Spec.endpoint cfg kvs) = some ks ∧ k ∈ ks ∧
        k.alg = tok.alg ∧ tok.sigOk k.mat = true := by
  rw [c05_other_mechanisms_are_invisible] at h
  obtain ⟨w', hw', hrun⟩ := c05_history_sound cfg rule (requestsOf events) i hi
  rw [hrun] at h
  obtain ⟨tok, kvs, md, ks, k, a, hp, hpl, _, ha, hjw, hk, hsig, halg, hallowed, _⟩ :=
    c05_sound (Option.some.inj h)
  subst ha
  exact ⟨tok, md, w', hp, hw', halg ▸ hallowed, kvs, ks, k, hpl, hjw, hk, halg, hsig⟩

/-- the list in force when neither level configures one: the documented default, in any process -/
theorem c05_unconfigured_list_is_the_default (cfg : Config) (rule : Option Expectation) (mi : String)
    (hc : cfg.assertions.algs = []) (hr : ∀ r, rule = some r → r.algs = []) :
    (Spec.inForce cfg rule mi).algs = Gen.defaultAllowed := by
  cases rule with
  | none => simp only [Spec.inForce, Spec.levels, List.nil_append, List.map_cons, List.map_nil, List.cons_append, firstSet_cons, hc]; rfl
  | some r => simp only [Spec.inForce, Spec.levels, List.nil_append, List.map_cons, List.map_nil, List.cons_append, firstSet_cons, hc, hr r rfl]; rfl

/-- an authenticator relying on the default list, a key set with an RS256 and an ES256 key -/
def cfgD : Config := { assertions := { issuers := ["https://idp.example.com"] } }

def tokRS : Token :=
  { alg := "RS256", kid := "k9", payload := some (.obj claims₀), sigOk := fun m => m == 0 }

/-- an introspection authenticator of another identity provider which allows RS256 only, one with a rule-level
list, and a further jwt authenticator -/
def neighbours₀ : List Neighbour :=
  [{ kind := .introspection, algs := ["RS256"] },
   { kind := .introspection, algs := ["PS256", "RS256"], ruleAlgs := some ["HS256"] },
   { kind := .jwt, algs := ["EdDSA"] }]

/-- created before, between and after the requests: the RS256 token is refused (RS256 is not in the default list),
the ES256 token is accepted, each time -/
example :
    runIn cfgD none
      ([.create neighbours₀[0], .request world₀ (.token tokRS) now₀, .request world₀ (.token tok₀) now₀] ++
        neighbours₀.map .create ++ [.request world₀ (.token tokRS) now₀, .request world₀ (.token tok₀) now₀]) {} [] =
      [.rejected .algNotAllowed, .accepted "alice" (Val.obj claims₀).round,
       .rejected .algNotAllowed, .accepted "alice" (Val.obj claims₀).round] := by decide +kernel

/-- what the neighbours hold is their own -/
example : (neighbours₀.foldl Process.create {}).held =
    [["RS256"], ["PS256", "RS256"], ["HS256"], ["EdDSA"]] ∧
    (neighbours₀.foldl Process.create {}).defaults = Gen.defaultAllowed := by decide +kernel

example : (Spec.inForce cfgD none "").algs = Gen.defaultAllowed :=
  c05_unconfigured_list_is_the_default cfgD none "" rfl (fun _ h => nomatch h)

end Heimdall.Props.C05
