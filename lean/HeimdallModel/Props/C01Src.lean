import HeimdallModel.Model.PipelineSrc
/-!
# C01 — the pipeline code *as it stands in the source* is the model the C01 theorems speak about

`Gen/CompositeSrc.lean` (namespace `Heimdall.Rules.Src`) is regenerated on every run of the C01 check by the Go → Lean
translator `extract/go2lean` (`cmd/composite`): the whole bodies of `compositeSubjectCreator.Execute`,
`compositeSubjectHandler.Execute`, `compositeErrorHandler.Execute`, `(*conditionalSubjectHandler).Execute`,
`(*conditionalErrorHandler).Execute` and `(*ruleImpl).Execute`, statement by statement; a `for … range` loop is a
structurally recursive function over the list. The theorems below are proof obligations about *that* code, for lists of
**any length** and **every behaviour** of the mechanisms (outcome: subject / error with any sentinels / panic; flags;
conditions that hold, do not hold or cannot be evaluated): each translated function **equals** its counterpart of the
model (`createSubject`, `Handler.execute`, `runHandlers`, `runErrorHandlers`, `Rule.execute`). How the parameters of the
translation are filled is in `Model/PipelineSrc.lean`.

The three `*_loop` theorems are inductions on the list; every script has the same shape — `unfold` once, case distinction
on everything the code can look at in the element (its outcome, its flags), then `simp` — so that semantics-preserving
edits of the Go code (inverted `if`s and early returns, a condition extracted into a helper method or a local variable,
`switch` instead of `if` chains) keep proving.
-/
namespace Heimdall.Props.C01
open Heimdall Heimdall.Pipeline Heimdall.Rules Heimdall.Pipeline.SrcTie

-- the `simp` lists name more than the present translation needs: they have to close the goals of a rewritten source too
set_option linter.unusedSimpArgs false

/-- **The tie holds for this run:** `Gen/CompositeSrc.lean` is the result of translating the current source (when the
source leaves the translatable subset a stub without definitions is written and this module stops building). -/
theorem c01_src_translated : Src.translationOk = true := by decide

/-- The loop of `compositeSubjectCreator.Execute` started at position `idx` of a slice of length `n` with the
authenticators `a :: rest` still to come (`idx + |a :: rest| = n`): it is `createSubject a rest`, whatever `sub` and
`err` hold from earlier iterations. The index guard `idx < len(ca)` holds in every iteration. -/
theorem c01_src_creator_loop (nilV : List Kind) (n : Int) (rest : List Authenticator) :
    ∀ (a : Authenticator) (idx : Int) (sub : Option String) (err : Option Err) (c : Ctx),
      idx + (rest.length + 1 : Nat) = n →
      Src.SubjectCreator.Execute_loop authExec (·.fallback) (·.is .argument) nilV n idx (a :: rest) sub err c
        = (ofRun (createSubject a rest c)).map pairOf := by
  induction rest with
  | nil =>
    intro a idx sub err c h
    have hlt : idx < n := h ▸ Int.lt_add_of_pos_right idx (Int.natCast_pos.mpr (Nat.succ_pos _))
    unfold createSubject
    cases ha : a.out <;>
      simp [Src.SubjectCreator.Execute_loop, Go.bind, Go.pure, Go.panic, Go.cond_app, authExec, ha, ofRun, Go.Res.map,
        pairOf, Err.is, Err.ofKinds, hlt]
  | cons b bs ih =>
    intro a idx sub err c h
    have hlt : idx < n := h ▸ Int.lt_add_of_pos_right idx (Int.natCast_pos.mpr (Nat.succ_pos _))
    have h' : idx + 1 + ((bs.length + 1 : Nat) : Int) = n := by
      rw [← h, Int.add_assoc, Int.add_comm 1, ← Int.natCast_add_one, List.length_cons]
    unfold createSubject Src.SubjectCreator.Execute_loop
    cases ha : a.out with
    | ok s | panic v => simp [Go.bind, Go.pure, Go.panic, Go.cond_app, authExec, ha, ofRun, Go.Res.map, pairOf]
    | err ks =>
      simp only [Go.bind, Go.cond_app, authExec, ha, ih b (idx + 1) _ _ _ h']
      cases hf : a.fallback <;> by_cases hk : Kind.argument ∈ ks <;>
        simp [Go.bind, Go.pure, Go.panic, Go.cond_app, ofRun, Go.Res.map, pairOf, Err.is, Err.ofKinds, hlt, hk]

/-- **`compositeSubjectCreator.Execute` is `createSubject`**: the first subject wins; an error lets the next
authenticator try only if it is an argument error or the authenticator allows fallback; after the last one the last
error is returned; a panic of an authenticator propagates; no nil dereference (`nilV` never shows up). -/
theorem c01_src_subject_creator (a : Authenticator) (rest : List Authenticator) (nilV : List Kind) (c : Ctx) :
    Src.SubjectCreator.Execute authExec (·.fallback) (·.is .argument) nilV (a :: rest) c
      = (ofRun (createSubject a rest c)).map pairOf := by
  unfold Src.SubjectCreator.Execute
  exact c01_src_creator_loop nilV _ rest a 0 none none c (by simp)

/-- **`(*conditionalSubjectHandler).Execute` is `Handler.execute`**, whatever the log level and whatever
`json.Marshal` makes of the subject. -/
theorem c01_src_conditional_subject_handler {Dump : Type} (h : Handler) (s : String) (trace : Bool)
    (marshal : Option String → Option Dump × Option Err) (nilV : List Kind) (c : Ctx) :
    Src.ConditionalSubjectHandler.Execute (condOnSubject h) (stepExec h) trace marshal nilV (some s) c
      = ofRun (h.execute s c) := by
  unfold Src.ConditionalSubjectHandler.Execute Handler.execute
  cases hc : h.cond.onSubject s <;> cases ho : h.out <;>
    simp [Go.bind, Go.pure, Go.panic, Go.cond_app, condOnSubject, stepExec, condPair, hc, ho, ofRun]

/-- the loop of `compositeSubjectHandler.Execute` on the steps still to come is `runHandlers` -/
theorem c01_src_handlers_loop {Dump : Type} (trace : Bool) (marshal : Option String → Option Dump × Option Err)
    (nilV : List Kind) (n : Int) (s : String) (hs : List Handler) :
    ∀ c : Ctx, Src.SubjectHandler.Execute_loop (handlerExec trace marshal nilV) (·.continueOnError) nilV (some s) n hs c
      = ofRun (runHandlers hs s c) := by
  induction hs with
  | nil => intro c; simp [Src.SubjectHandler.Execute_loop, runHandlers, Go.pure, ofRun]
  | cons h hs ih =>
    intro c
    unfold Src.SubjectHandler.Execute_loop runHandlers
    simp only [Go.bind, handlerExec, c01_src_conditional_subject_handler]
    cases hr : h.execute s c with
    | panic v c' => simp [ofRun]
    | done e c' =>
      cases e <;> cases h.continueOnError <;> simp only [ofRun, Go.cond_app, ih] <;> simp [Go.pure, ofRun]

/-- **`compositeSubjectHandler.Execute` over conditional handlers is `runHandlers`.** -/
theorem c01_src_subject_handlers {Dump : Type} (hs : List Handler) (s : String) (trace : Bool)
    (marshal : Option String → Option Dump × Option Err) (nilV : List Kind) (c : Ctx) :
    Src.SubjectHandler.Execute (handlerExec trace marshal nilV) (·.continueOnError) nilV hs (some s) c
      = ofRun (runHandlers hs s c) := by
  unfold Src.SubjectHandler.Execute
  exact c01_src_handlers_loop trace marshal nilV _ s hs c

/-- **`(*conditionalErrorHandler).Execute`**: a condition that cannot be evaluated returns that (foreign) error, a
condition that does not hold returns the not-applicable sentinel, otherwise the handler runs. -/
theorem c01_src_conditional_error_handler (h : ErrorHandler) (cause : Err) (nilV : List Kind) (c : Ctx) :
    errorHandlerExec nilV h (some (.real cause)) c =
      match h.cond.onError cause with
      | .fails => .done (some (.real .foreign)) c
      | .no => .done (some .notApplicable) c
      | .yes => .done ((h.kind.run cause c).1.map .real) (h.kind.run cause c).2 := by
  unfold errorHandlerExec Src.ConditionalErrorHandler.Execute
  cases hc : h.cond.onError cause <;>
    simp [Go.bind, Go.pure, Go.cond_app, condOnError, kindExec, condPair, hc]

/-- the loop of `compositeErrorHandler.Execute` on the handlers still to come is `runErrorHandlers` -/
theorem c01_src_error_handlers_loop (nilV : List Kind) (n : Int) (cause : Err) (ehs : List ErrorHandler) :
    ∀ c : Ctx, Src.ErrorHandler.Execute_loop (errorHandlerExec nilV) EErr.isNotApplicable nilV (some (.real cause)) n ehs c
      = .done ((runErrorHandlers ehs cause c).1.map .real) (runErrorHandlers ehs cause c).2 := by
  induction ehs with
  | nil => intro c; simp [Src.ErrorHandler.Execute_loop, runErrorHandlers, Go.pure]
  | cons h hs ih =>
    intro c
    unfold Src.ErrorHandler.Execute_loop runErrorHandlers
    simp only [Go.bind, c01_src_conditional_error_handler]
    cases hc : h.cond.onError cause <;> simp only [Go.cond_app, ih] <;> cases (h.kind.run cause c).1 <;>
      simp [Go.pure, EErr.isNotApplicable]

/-- **`compositeErrorHandler.Execute` over conditional error handlers is `runErrorHandlers`**: the first applicable
handler decides, with none applicable the error that was handed in comes back; the not-applicable sentinel never
leaves the composite. -/
theorem c01_src_error_handlers (ehs : List ErrorHandler) (cause : Err) (nilV : List Kind) (c : Ctx) :
    Src.ErrorHandler.Execute (errorHandlerExec nilV) EErr.isNotApplicable nilV ehs (some (.real cause)) c
      = .done ((runErrorHandlers ehs cause c).1.map .real) (runErrorHandlers ehs cause c).2 := by
  unfold Src.ErrorHandler.Execute
  exact c01_src_error_handlers_loop nilV _ cause ehs c

theorem c01_src_creator_src (r : Rule) (c : Ctx) :
    creatorSrc r c = (ofRun (createSubject r.auth r.auths c)).map fun x => ((pairOf x).1, (pairOf x).2.map EErr.real) := by
  unfold creatorSrc Go.map Rule.authenticators
  rw [c01_src_subject_creator]
  cases createSubject r.auth r.auths c <;> simp [ofRun, Go.Res.map]

theorem c01_src_handlers_src (trace : Bool) (hs : List Handler) (s : String) (c : Ctx) :
    handlersSrc trace hs (some s) c = (ofRun (runHandlers hs s c)).map (Option.map EErr.real) := by
  unfold handlersSrc Go.map
  rw [c01_src_subject_handlers]

theorem c01_src_on_error (r : Rule) (e : Err) (c : Ctx) :
    errorPipelineSrc r (some (.real e)) c
      = .done ((runErrorHandlers r.errorHandlers e c).1.map .real) (runErrorHandlers r.errorHandlers e c).2 := by
  unfold errorPipelineSrc
  exact c01_src_error_handlers r.errorHandlers e nilPanic c

/-- The setting of `allow_encoded_slashes` only decides whether the request is refused up front: whatever the stages do,
every setting that lets the request in runs the same `ruleImpl.Execute` as "slashes allowed". The stages are variables, so
each case holds by unfolding the conditions alone. That needs the code behind the `switch` to be one piece of Go text —
which the translator copies into every branch, or leaves behind the check when that is an early return (the slash
handling extracted into a helper method) — and nothing else of the shape of the translated body. -/
theorem c01_src_execute_flags {Ctx PV Sub Err Backend : Type} (createSubject : Go.M Ctx PV (Option Sub × Option Err))
    (runHandlers runFinalizers : Option Sub → Go.M Ctx PV (Option Err)) (onError : Option Err → Go.M Ctx PV (Option Err))
    (isDefault slashesOn slashesOff encodedSlash : Bool) (slashError : Err) (hasBackend : Bool) (backend : Backend)
    (nilV : PV) (h : (slashesOff && encodedSlash && !slashesOn) = false) :
    Src.Rule.Execute createSubject runHandlers runFinalizers onError isDefault slashesOn slashesOff encodedSlash
        slashError hasBackend backend nilV =
      Src.Rule.Execute createSubject runHandlers runFinalizers onError isDefault true false false slashError hasBackend
        backend nilV := by
  cases slashesOn with
  | true => rfl
  | false =>
    cases slashesOff with
    | false => rfl
    | true =>
      cases encodedSlash with
      | false => rfl
      | true => cases h

/-- **`ruleImpl.Execute`, as it stands in the source, over the composites as they stand in the source, is
`Rule.execute`** — unless the rule forbids encoded slashes and the path contains one (`c01_src_rule_refuses_encoded_slash`).
What the C01 theorems say about `Rule.execute` they say about the pipeline code of the current tree: authenticators,
then authorizers / contextualizers, then finalizers; the first failing stage hands its error to the error pipeline,
whose result is returned with a nil backend; a backend only after all three stages. `slashesOn` and `slashesOff` are
separate parameters of the translation (the two `case`s of the `switch` on `allow_encoded_slashes`, tried in this order):
where both are set the first wins, hence `!slashesOn` in the hypothesis. -/
theorem c01_src_rule_execute (trace slashesOn slashesOff encodedSlash : Bool) (r : Rule) (c : Ctx)
    (h : (slashesOff && encodedSlash && !slashesOn) = false) :
    executeSrc trace slashesOn slashesOff encodedSlash r c = ofRun (r.execute c) := by
  unfold executeSrc
  rw [c01_src_execute_flags _ _ _ _ _ _ _ _ _ _ _ _ h]
  unfold Src.Rule.Execute Rule.execute Rule.onError
  simp only [cond_true, cond_false, Go.bind, Go.cond_app, c01_src_creator_src]
  cases h1 : createSubject r.auth r.auths c with
  | panic v c1 => rfl
  | done x c1 =>
    cases x with
    | error e => simp [ofRun, Go.Res.map, pairOf, Go.bind, Go.pure, Go.cond_app, c01_src_on_error, execOut_real]
    | ok s =>
      simp only [ofRun, Go.Res.map, pairOf, Go.bind, Go.cond_app, c01_src_handlers_src, Option.map, Option.isSome,
        cond_false]
      cases h2 : runHandlers r.handlers s c1 with
      | panic v c2 => rfl
      | done e2 c2 =>
        cases e2 with
        | some e => simp [ofRun, Go.Res.map, Go.bind, Go.pure, Go.cond_app, c01_src_on_error, execOut_real]
        | none =>
          simp only [ofRun, Go.Res.map, Go.bind, Go.cond_app, c01_src_handlers_src, Option.map, Option.isSome,
            cond_false]
          cases h3 : runHandlers r.finalizers s c2 with
          | panic v c3 => rfl
          | done e3 c3 =>
            cases e3 with
            | some e => simp [ofRun, Go.Res.map, Go.bind, Go.pure, Go.cond_app, c01_src_on_error, execOut_real]
            | none => cases r.hasBackend <;> rfl

/- the hypothesis holds for every rule that allows encoded slashes and for every request without one -/
example : ((false && true && !false) = false) ∧ ((true && false && !false) = false) := by decide

/-- With `allow_encoded_slashes: off` a path that contains an encoded slash is refused with an argument error before
any mechanism runs: nothing is executed, nothing recorded, no backend. -/
theorem c01_src_rule_refuses_encoded_slash (trace : Bool) (r : Rule) (c : Ctx) :
    executeSrc trace false true true r c = .done ⟨false, some (.ofKind .argument)⟩ c := by
  simp [executeSrc, Src.Rule.Execute, Go.pure, Go.cond_app, Go.Res.map, execOut, EErr.toErr]

end Heimdall.Props.C01
