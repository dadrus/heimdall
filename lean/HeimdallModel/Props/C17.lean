import HeimdallModel.Lemmas.Mech
import HeimdallModel.Lemmas.MechTypes
import HeimdallModel.Lemmas.MechHistory
import HeimdallModel.Lemmas.MechTemplate
import HeimdallModel.Lemmas.MechClient
import HeimdallModel.Model.Footprint
import HeimdallModel.Gen.Footprints
/-!
# C17 — mechanisms are immutable once loaded; rule-level overrides stay local

The statements quantify over every configuration reachable in the machine of `Model/Mech.lean`: any number of
threads, each calling a method on some prototype or variant (`Execute`, `ID`, … or `WithConfig(ov)`), every
interleaving of their micro-steps (reads of receiver slots, the slot-by-slot shallow copy of `WithConfig`, the
publication of the new object), any mechanism types, any overrides (`V`, `Ov`, `D` are parameters).  The only
hypothesis is that no method writes its receiver in place (`ReadOnly`).  The first group of theorems discharges
that hypothesis for the *current source*: the write footprints which `/verif/extract/footprint` (go/ssa) reads off
the working tree on every run (`Gen/Footprints.lean`) contain no write to receiver or package-level memory, and
the thread programs derived from them are read-only.
-/
namespace Heimdall.Props.C17
open Heimdall Heimdall.Mech Heimdall.Footprint Heimdall.Spec.Overlay

/-! ## The tie: what the source does to shared memory -/

/-- the mechanism types of the source and their fields are those of the model, as sets (a new type, or a new field
— for instance one that caches something — breaks this obligation; a reordering does not) -/
def coverOk (gen model : List (String × String × List String)) : Bool :=
  (model.all fun m => gen.any fun g => g.1 == m.1 && g.2.1 == m.2.1 && sameSet g.2.2 m.2.2) &&
  (gen.all fun g => model.any fun m => g.2.1 == m.2.1)

/-- … down to the leaves: every leaf field of every mechanism struct (fields of embedded by-value structs
followed), with its being a reference or a plain value, is a slot of the model with the same classification, and
vice versa -/
def leavesOk (gen : List (String × List (String × Bool))) (model : List TypeD) : Bool :=
  model.all fun t => gen.any fun g => g.1 == t.go &&
    (g.2.all fun l => t.slots.any fun s => s.name == l.1 && s.ref == l.2) &&
    (t.slots.all fun s => g.2.any fun l => s.name == l.1 && s.ref == l.2)

/-- Everything that is demanded of the generated tables and of the type table of the model; the theorems below name
its parts. -/
theorem c17_tables_meet_obligations :
    clean Gen.footprints = true ∧ complete Gen.footprints = true ∧ reloadGuarded Gen.footprints = true ∧
    coverOk ((Footprint.types Gen.footprints).filter fun x => x.1 != "factory" && x.1 != "reload")
      (Mech.types.map fun t => (t.kind, t.go, t.fields)) = true ∧
    leavesOk Gen.structLeaves Mech.types = true ∧ tableConsistent = true := by decide +kernel

/-- no method of any mechanism type (closed under all calls inside the module) stores to, updates, appends to or
deletes from memory reachable from its receiver or from a package-level variable; every library call on such
memory is one of the calls trusted to be safe for concurrent use -/
theorem c17_footprints_clean : clean Gen.footprints = true := c17_tables_meet_obligations.1

/-- every mechanism type has a row for every method the pipeline calls -/
theorem c17_footprints_complete : complete Gen.footprints = true := c17_tables_meet_obligations.2.1

theorem c17_footprints_cover_model :
    coverOk ((Footprint.types Gen.footprints).filter fun x => x.1 != "factory" && x.1 != "reload")
      (Mech.types.map fun t => (t.kind, t.go, t.fields)) = true := c17_tables_meet_obligations.2.2.2.1

theorem c17_struct_leaves_match_model : leavesOk Gen.structLeaves Mech.types = true :=
  c17_tables_meet_obligations.2.2.2.2.1

/-- the only writers of loaded state that are meant to exist — the reload callbacks of the key material
(`jwtSigner.OnChanged`, `HTTPMessageSignatures.OnChanged`) — write under the write lock, and the jwt finalizer reads
its signer under the read lock (what a reload does to the tokens issued is C16's subject) -/
theorem c17_reloadable_state_is_lock_guarded : reloadGuarded Gen.footprints = true :=
  c17_tables_meet_obligations.2.2.1

/-- the table `heimdall` looks rules up in is consistent: every slot of every type is found under its Go type and
name -/
theorem c17_table_consistent : tableConsistent = true := c17_tables_meet_obligations.2.2.2.2.2

/-- hence `heimdall` does with a slot exactly what the slot's rule says -/
theorem c17_heimdall_replace_table (t : TypeD) (ht : t ∈ Mech.types) (s : SlotD) (hs : s ∈ t.slots)
    (old : Entries) (ov : Override) :
    heimdall.replace t.go s.name old ov = applyRule s.rule old ov ∧ heimdall.byValue t.go s.name = !s.ref := by
  have h : (typeByGo t.go).bind (·.slot s.name) = some s := by
    simpa using List.all_eq_true.mp (List.all_eq_true.mp c17_table_consistent t ht) s hs
  simp [heimdall, h]

/-- a clean row gives a thread program without in-place writes, however fields are split into slots -/
theorem c17_clean_program_read_only (t : List Row) (hc : clean t = true) (r : Row) (hr : r ∈ t)
    (hk : r.kind ≠ "reload") (slotsOf : String → List String) (s : String) : Op.wr s ∉ r.program slotsOf := by
  have hrow : r.clean = true := List.all_eq_true.mp hc r hr
  have hk' : (r.kind == "reload") = false := by simpa using hk
  simp only [Row.clean, hk', Bool.false_or, Bool.and_eq_true, List.isEmpty_iff] at hrow
  intro hm
  simp only [Row.program, hrow.1.1.1.1, List.flatMap_nil, List.append_nil, List.mem_flatMap, List.mem_map] at hm
  rcases hm with ⟨_, _, _, _, h⟩
  cases h

example : ∃ r ∈ Gen.footprints, r.typ = "jwtAuthenticator" ∧ r.method = "Execute" ∧ r.reads ≠ [] := by
  decide +kernel

theorem c17_current_programs_read_only (r : Row) (hr : r ∈ Gen.footprints) (hk : r.kind ≠ "reload")
    (slotsOf : String → List String) (s : String) : Op.wr s ∉ r.program slotsOf :=
  c17_clean_program_read_only Gen.footprints c17_footprints_clean r hr hk slotsOf s

/-! ## Immutability and race freedom, for every run -/

section machine
variable {V Ov : Type} (D : Desc V Ov)

/-- cells and objects are added, none is ever changed or removed -/
theorem c17_store_only_grows (c₀ c : Config V Ov) (hi : Initial c₀) (hro : ReadOnly c₀) (h : Reach D c₀ c) :
    (∃ t, c.store.cells = c₀.store.cells ++ t) ∧ (∃ u, c.store.insts = c₀.store.insts ++ u) :=
  ⟨List.prefix_iff_exists_eq_append.mp (reach_grows h hro (initial_inv D c₀ hi)).1,
   List.prefix_iff_exists_eq_append.mp (reach_grows h hro (initial_inv D c₀ hi)).2.1⟩

/-- **Executing mechanisms and creating variants changes no mechanism.**  Whatever is observable of a prototype or
variant at some point of a run is observable unchanged ever after: executions of any objects by any number of
threads, creations of any further variants with any overrides, in any interleaving, do not touch it. -/
theorem c17_loaded_mechanisms_never_change (c₀ c : Config V Ov) (hi : Initial c₀) (hro : ReadOnly c₀)
    (h : Reach D c₀ c) : Immutable D c := by
  intro c' h' k hk
  have hinv := reach_inv h hro (initial_inv D c₀ hi)
  cases hik : c.store.insts[k]? with
  | none => simp [Store.view, hik] at hk
  | some inst => exact (reach_grows h' (reach_readOnly h hro) hinv).view hinv.closed hik

example : ∃ (c : Config Nat Unit), Initial c ∧ ReadOnly c ∧ (c.store.view 0).isSome = true :=
  ⟨⟨⟨[7], [⟨"t", [("f", 0)]⟩], [none]⟩, fun _ => ⟨0, [.rd "f"], [.rd "f"], [], .run⟩⟩,
   ⟨⟨by simp, rfl⟩, by simp, fun _ => ⟨rfl, rfl, Or.inl rfl⟩⟩, by intro i s; simp, rfl⟩

/-! A run in which a variant (override `9` for the by-value slot `ttl`, reference slot `e` inherited) is created
while its prototype is being executed: the hypotheses of the theorems below are met by a non-trivial run. -/

def demoD : Desc Nat Nat := ⟨fun _ s => s == "ttl", fun _ s _ ov => if s == "ttl" then some ov else none⟩

def demo₀ : Config Nat Nat :=
  ⟨⟨[5, 7], [⟨"t", [("ttl", 0), ("e", 1)]⟩], [none]⟩,
   fun i => if i = 0 then ⟨0, [], [], [], .create 9⟩ else ⟨0, [.rd "e", .rd "ttl"], [.rd "e", .rd "ttl"], [], .run⟩⟩

def demoRun : Config Nat Nat := runSched demoD demo₀ [0, 1, 0, 1, 0, 0]

example : Initial demo₀ ∧ ReadOnly demo₀ ∧ Reach demoD demo₀ demoRun ∧
    demoRun.store.origin[1]? = some (some (0, 9)) ∧
    demoRun.store.view 1 = some [("ttl", some 9), ("e", some 7)] ∧ demoRun.store.view 0 = demo₀.store.view 0 ∧
    (demoRun.store.insts[1]?).map (·.slots) = some [("ttl", 2), ("e", 1)] ∧
    (demoRun.threads 1).ops = [] ∧ (demoRun.threads 1).seen = [("e", 7), ("ttl", 5)] := by
  refine ⟨⟨⟨by decide, rfl⟩, by decide, ?_⟩, ?_, runSched_reach demoD _ demo₀, by decide, by decide, by decide,
    by decide, by decide, by decide⟩
  · intro i
    by_cases h : i = 0
    · subst h; exact ⟨rfl, rfl, Or.inr ⟨9, rfl⟩⟩
    · simp [demo₀, h]
  · intro i s
    by_cases h : i = 0
    · subst h; simp [demo₀]
    · simp [demo₀, h]

/-- **Overrides stay local and are observed exactly.**  Every variant shows, slot by slot, the view of the
prototype it was created from overlaid with its own override — at every point of every run after its creation. -/
theorem c17_variant_is_prototype_overlaid (c₀ c : Config V Ov) (hi : Initial c₀) (hro : ReadOnly c₀)
    (h : Reach D c₀ c) (k p : Nat) (ov : Ov) (hk : c.store.origin[k]? = some (some (p, ov))) :
    Local D c.store k p ov := by
  rcases (reach_inv h hro (initial_inv D c₀ hi)).orig k p ov hk with ⟨pi, ki, hp, hki, _, hview⟩
  exact ⟨pi, hp, by simp [Store.view, hki, hview]⟩

theorem c17_variant_has_prototype_type (c₀ c : Config V Ov) (hi : Initial c₀) (hro : ReadOnly c₀)
    (h : Reach D c₀ c) (k p : Nat) (ov : Ov) (hk : c.store.origin[k]? = some (some (p, ov))) :
    ∃ pi ki : Inst, c.store.insts[p]? = some pi ∧ c.store.insts[k]? = some ki ∧ ki.typ = pi.typ := by
  rcases (reach_inv h hro (initial_inv D c₀ hi)).orig k p ov hk with ⟨pi, ki, hp, hki, ht, _⟩
  exact ⟨pi, ki, hp, hki, ht⟩

/-- **… regardless of which other rules exist or were loaded before.**  Two variants of one catalogue entry with
the same override look alike in any two runs that start from the same catalogue — whatever else the runs did,
in whatever order (different threads, different other variants, different schedules). -/
theorem c17_variant_independent_of_history (c₀ c₀' c c' : Config V Ov) (hs : c₀'.store = c₀.store)
    (hi : Initial c₀) (hi' : Initial c₀') (hro : ReadOnly c₀) (hro' : ReadOnly c₀')
    (h : Reach D c₀ c) (h' : Reach D c₀' c') (k k' p : Nat) (ov : Ov) (hp : (c₀.store.view p).isSome = true)
    (hk : c.store.origin[k]? = some (some (p, ov))) (hk' : c'.store.origin[k']? = some (some (p, ov))) :
    c.store.view k = c'.store.view k' := by
  cases hp0 : c₀.store.insts[p]? with
  | none => simp [Store.view, hp0] at hp
  | some i0 =>
    rw [variant_of_catalogue hi hro h hp0 hk, variant_of_catalogue hi' hro' h' (hs ▸ hp0) hk', hs]

/-- **An execution observes exactly its own object's configuration, however it is interleaved with others.**
When a method has run to its end, what it has read is what its program reads when run alone — on the store as it
is now, or as it is at any later point of the run. -/
theorem c17_concurrent_execution_equals_solo (c₀ c c' : Config V Ov) (hi : Initial c₀) (hro : ReadOnly c₀)
    (h : Reach D c₀ c) (h' : Reach D c c') (i : Nat) (inst : Inst)
    (hdone : (c.threads i).ops = []) (hr : c.store.insts[(c.threads i).recv]? = some inst) :
    (c.threads i).seen = readAll c.store.cells inst (c.threads i).prog ∧
    (c.threads i).seen = readAll c'.store.cells inst (c.threads i).prog := by
  have hinv := reach_inv h hro (initial_inv D c₀ hi)
  rcases hinv.seen i with ⟨done, hprog, hsome, _⟩
  have hd : (c.threads i).prog = done := by rw [hprog, hdone]; simp
  have e1 : (c.threads i).seen = readAll c.store.cells inst (c.threads i).prog := by rw [hd]; exact hsome inst hr
  refine ⟨e1, ?_⟩
  rcases reach_grows h' (reach_readOnly h hro) hinv with ⟨⟨t, ht⟩, _, _⟩
  rw [← ht, readAll_ext _ _ (closed_slot hinv.closed hr)]; exact e1

/-- **No data race in the model sense**: at no point of any run are two threads about to access the same cell with
one of them writing it. -/
theorem c17_no_conflicting_access (c₀ c : Config V Ov) (hro : ReadOnly c₀) (h : Reach D c₀ c) : RaceFree c := by
  intro i j hc
  rcases hc with ⟨_, s, rest, _, _, hops, _⟩
  exact reach_readOnly h hro i s (by rw [hops]; exact List.mem_cons_self)

/-- the memory `WithConfig` writes is its own until it returns: every address any published object or any copy in
progress refers to exists already, so the cell allocated next is referenced by nobody -/
theorem c17_new_cells_are_private (c₀ c : Config V Ov) (hi : Initial c₀) (hro : ReadOnly c₀) (h : Reach D c₀ c) :
    (∀ inst ∈ c.store.insts, ∀ sa ∈ inst.slots, sa.2 ≠ c.store.cells.length) ∧
    (∀ i ov typ todo acc, (c.threads i).phase = .build ov typ todo acc → ∀ sa ∈ acc, sa.2 ≠ c.store.cells.length) := by
  have hinv := reach_inv h hro (initial_inv D c₀ hi)
  refine ⟨fun inst hm sa hsa => Nat.ne_of_lt (hinv.closed.1 inst hm sa hsa), ?_⟩
  intro i ov typ todo acc hp sa hsa
  rcases hinv.build i ov typ todo acc hp with ⟨_, _, _, _, _, hacc, _⟩
  exact Nat.ne_of_lt (hacc sa hsa)

/-- a copied slot shares the prototype's cell only if it is an inherited reference; a replaced slot and a by-value
slot get a cell nobody else knows -/
theorem c17_shallow_copy_shares_only_inherited_references (typ : String) (ov : Ov) (cells : List V)
    (sa : String × Addr) (h : sa.2 < cells.length) :
    ((buildSlot D typ ov cells sa).2.2 = sa.2 ∧ D.replace typ sa.1 cells[sa.2] ov = none ∧ D.byValue typ sa.1 = false) ∨
    (buildSlot D typ ov cells sa).2.2 = cells.length := by
  rcases buildSlot_eq D typ ov cells sa h with ⟨e, h1, h2⟩ | ⟨e, _⟩ <;> rw [e]
  · exact Or.inl ⟨rfl, h1, h2⟩
  · exact Or.inr rfl

/-- the model the correspondence check executes is the machine: an uninterrupted `WithConfig` … -/
theorem c17_uninterrupted_withConfig_is_a_run (c : Config V Ov) (i : Nat) (ov : Ov) (σ' : Store V Ov) (k : Nat)
    (hops : (c.threads i).ops = []) (hp : (c.threads i).phase = .create ov)
    (h : withConfig D c.store (c.threads i).recv ov = some (σ', k)) :
    Reach D c { store := σ', threads := upd c.threads i ((c.threads i).setPhase (.done k)) } :=
  withConfig_reach D c i ov hops hp h

/-- … and every schedule the driver runs -/
theorem c17_scheduler_runs_the_machine (c : Config V Ov) (sched : List Nat) : Reach D c (runSched D c sched) :=
  runSched_reach D sched c

end machine

/-! ## The hypothesis cannot be dropped: one lazily initialised field is enough

The shape of a lazily initialising `MetadataEndpoint.init()` (what `fixes/C17-1.patch` removes): `Execute` of the
prototype writes a slot the variant shares. -/

def lazyD : Desc Nat Unit := ⟨fun _ _ => false, fun _ _ _ _ => none⟩

def lazy₀ : Config Nat Unit :=
  ⟨⟨[0], [⟨"jwt", [("r", 0)]⟩, ⟨"jwt", [("r", 0)]⟩], [none, none]⟩,
   fun i => if i = 0 then ⟨0, [.wr "r"], [.wr "r"], [], .run⟩ else ⟨1, [.rd "r"], [.rd "r"], [], .run⟩⟩

/-- with an in-place write: executing object 0 changes object 1, and the two executions race -/
theorem c17_in_place_write_breaks_it :
    Initial lazy₀ ∧ Conflict lazy₀ 0 1 ∧
    ∃ c, Reach lazyD lazy₀ c ∧ c.store.view 1 ≠ lazy₀.store.view 1 := by
  refine ⟨⟨⟨by decide, rfl⟩, by decide, ?_⟩, ?_, ?_⟩
  · intro i
    by_cases h : i = 0
    · simp [lazy₀, h]
    · simp [lazy₀, h]
  · exact ⟨by decide, "r", [], ⟨"jwt", [("r", 0)]⟩, 0, rfl, rfl, rfl, rfl⟩
  · refine ⟨_, Reach.single (Step.wr lazy₀ 0 "r" [] ⟨"jwt", [("r", 0)]⟩ 0 1 rfl rfl rfl), ?_⟩
    decide

/-! ## The heimdall instance: what a rule-level `config` does, field by field

The specification (`Spec/Overlay.lean: observed`, `MechTypes.lean: specRule`): the rule's own setting **always**
wins.  The code tells "set" from "not set" by a nil pointer for some fields and by the zero value for the others;
for the latter a rule cannot set the zero value (known finding `C17-zero-override`): the theorems below are
stated where the setting is `Expressible`, the witness shows the failure outside. -/

/-- a field that can be overridden shows the rule's own setting if the rule has one, the catalogue's otherwise —
provided the code can tell the setting from "not set" -/
theorem c17_overridable_field_shows_own_setting_partial (key : Key) (zeroOk : Bool) (cat : Entries)
    (ov : Override) (hx : sets ov key → Expressible ov key zeroOk) :
    (applyRule (.over key zeroOk) cat ov).getD cat = observed key cat ov := by
  by_cases hs : sets ov key
  · have he : (entriesOf ov.entries [key]).isEmpty = false := by simpa [sets] using hs
    have hz : (zeroOk || (entriesOf ov.entries [key]).any fun e => !isZero e.2) = true := by
      rcases hx hs with h | ⟨x, hm, h⟩
      · simp [h]
      · exact Bool.or_eq_true _ _ ▸ Or.inr (List.any_eq_true.mpr ⟨x, hm, by simp [h]⟩)
    simp [applyRule, observed, hs, he, hz]
  · have he : (entriesOf ov.entries [key]).isEmpty = true := by simpa [sets] using hs
    simp [applyRule, observed, hs, he]

example : sets ⟨["forward_headers"], [(("forward_headers", ""), "[\"X-User\"]")], true⟩ ("forward_headers", "") ∧
    Expressible ⟨["forward_headers"], [(("forward_headers", ""), "[\"X-User\"]")], true⟩ ("forward_headers", "") false :=
  ⟨by decide +kernel, Or.inr ⟨(("forward_headers", ""), "[\"X-User\"]"), by decide +kernel, by decide +kernel⟩⟩

/-- **known finding `C17-zero-override`** — outside that hypothesis the property fails: a rule that sets
`forward_headers: []` for a contextualizer whose catalogue entry forwards `X-A` still forwards `X-A`
(`forward_headers`, `forward_cookies`, `payload`, `claims`, `user_id`, `password`, `assertions.issuers | audience |
allowed_algorithms | validity_leeway`, `expressions` and `forward_response_headers_to_upstream` of the remote
authorizer, `header.scheme` of the client credentials finalizer behave alike) -/
theorem c17_zero_override_is_not_observed :
    (heimdall.replace "genericContextualizer" "fwdHeaders" [(("forward_headers", ""), "[\"X-A\"]")]
      ⟨["forward_headers"], [(("forward_headers", ""), "[]")], true⟩).getD [(("forward_headers", ""), "[\"X-A\"]")] ≠
    observed ("forward_headers", "") [(("forward_headers", ""), "[\"X-A\"]")]
      ⟨["forward_headers"], [(("forward_headers", ""), "[]")], true⟩ := by decide +kernel

/-- where the code can tell the rule's setting from "not set", the model's rule is the specification's rule: the
bug-compatible table and the "own setting always wins" table agree on the field -/
theorem c17_rule_is_spec_where_expressible (rule : Rule) (old : Entries) (ov : Override)
    (h : ∀ key, rule = .over key false →
      (entriesOf ov.entries [key]).isEmpty = true ∨ (entriesOf ov.entries [key]).any (fun e => !isZero e.2) = true) :
    applyRule rule old ov = applyRule (specRule rule) old ov := by
  cases rule with
  | over key zeroOk =>
    cases zeroOk with
    | true => rfl
    | false => rcases h key rfl with h1 | h1 <;> simp [specRule, applyRule, h1]
  | _ => rfl

/-- a field that is never overridden shows the catalogue's value -/
theorem c17_fixed_field_shows_catalogue (cat : Entries) (ov : Override) : (applyRule .keep cat ov).getD cat = cat := rfl

/-- `values`: entry by entry the rule's own entry if there is one, the catalogue's otherwise -/
theorem c17_merged_field_is_entrywise_overlay (key : Key) (cat : Entries) (ov : Override) (k : Key) :
    lookupFirst ((applyRule (.merge key) cat ov).getD cat) k =
      (lookupLast (entriesOf ov.entries [key]) k).orElse fun _ => lookupFirst cat k := by
  simp only [applyRule]
  generalize entriesOf ov.entries [key] = x
  cases x with
  | nil => simp [lookupLast]
  | cons e es => simpa using lookupFirst_mergeEntries cat (e :: es) k

/-- any catalogue, loaded by `load` (what the driver does), is the start of a run: closed, all prototypes -/
theorem c17_loaded_catalogue_is_initial (cat : List (TypeD × String × Entries))
    (threads : Nat → Thread Entries Override)
    (hf : ∀ i, (threads i).seen = [] ∧ (threads i).ops = (threads i).prog ∧
      ((threads i).phase = .run ∨ ∃ ov, (threads i).phase = .create ov)) :
    Initial ⟨cat.foldl (fun σ c => load σ c.1 c.2.1 c.2.2) emptyStore, threads⟩ :=
  ⟨(loadAll_closed cat emptyStore emptyStore_closed.1 emptyStore_closed.2).1,
   (loadAll_closed cat emptyStore emptyStore_closed.1 emptyStore_closed.2).2, hf⟩

/-- what the factory hands out for a catalogue entry is the prototype itself … -/
theorem c17_factory_prototype_is_the_catalogue_entry (σ : Store Entries Override) (p h : Nat) (ov : Option Override)
    (hc : create σ (some p) ov = .proto h) : h = p :=
  (Option.some.inj (create_proto hc)).symm

/-- … or the result of `withConfig` on the heimdall table (a run of the machine by
`c17_uninterrupted_withConfig_is_a_run`), for an accepted, non-empty `config` -/
theorem c17_factory_variant_is_withConfig (σ σ' : Store Entries Override) (p h : Nat) (ov : Option Override)
    (hc : create σ (some p) ov = .variant σ' h) :
    ∃ p' o, decision σ (some p) ov = .build p' o ∧ withConfig heimdall σ p' o = some (σ', h) :=
  create_variant_withConfig hc

/-- a `config` whose values the decoder or validator rejects never creates anything -/
theorem c17_rejected_values_create_nothing (σ : Store Entries Override) (p : Option Nat) (ov : Override)
    (hv : ov.valuesOk = false) : ∀ σ' h, create σ p (some ov) ≠ .variant σ' h := by
  intro σ' h hc
  obtain ⟨p', o, hd, _⟩ := create_variant_withConfig hc
  obtain ⟨_, ho, hok⟩ := decision_build hd
  cases ho
  rw [hv] at hok; cases hok

/-- **creation end to end** (what the driver's `create` computes and sends to the implementation side as the
effective configuration): on a closed store the new object stands for the prototype's view overlaid with the
rule's `config` by the heimdall table, and every object that existed before stands for what it stood for -/
theorem c17_create_end_to_end (σ σ' : Store Entries Override) (p h : Nat) (ov : Option Override) (hcl : Closed σ)
    (hc : create σ (some p) ov = .variant σ' h) :
    ∃ p' o inst, decision σ (some p) ov = .build p' o ∧ σ.insts[p']? = some inst ∧
      effective σ' h = effOfView (overlayView heimdall inst.typ o (viewOf σ.cells inst.slots)) ∧
      (∀ k i, σ.insts[k]? = some i → effective σ' k = effective σ k) ∧ Closed σ' := by
  obtain ⟨p', o, hd, hw⟩ := create_variant_withConfig hc
  obtain ⟨inst, hi, _, hv, hcl', hkeep⟩ := withConfig_view heimdall hcl hw
  exact ⟨p', o, inst, hd, hi, by simp [effective, hv], fun k i hk => effective_extends (hkeep.extends hcl hcl') hk, hcl'⟩

/-- witnesses of the two ways the code tells "set" from "not set": `cache_ttl: 0s` on the rule level is observed
(the fields are decoded into pointers), an empty `payload` template is not (nil check) -/
theorem c17_zero_values_on_the_rule_level :
    heimdall.replace "remoteAuthorizer" "ttl" [(("cache_ttl", ""), "\"5s\"")]
      ⟨["cache_ttl"], [(("cache_ttl", ""), "\"0s\"")], true⟩ = some [(("cache_ttl", ""), "\"0s\"")] ∧
    heimdall.replace "genericContextualizer" "ttl" [(("cache_ttl", ""), "\"5s\"")]
      ⟨["cache_ttl"], [(("cache_ttl", ""), "\"0s\"")], true⟩ = some [(("cache_ttl", ""), "\"0s\"")] ∧
    heimdall.replace "genericContextualizer" "payload" [(("payload", ""), "\"x\"")]
      ⟨["payload"], [(("payload", ""), "\"\"")], true⟩ = none ∧
    heimdallSpec.replace "genericContextualizer" "payload" [(("payload", ""), "\"x\"")]
      ⟨["payload"], [(("payload", ""), "\"\"")], true⟩ = some [(("payload", ""), "\"\"")] := by decide +kernel

/-! ## Histories of creations on one factory: every rule gets the catalogue entry overlaid with ITS OWN config

`mechanismsFactory.Create…` keeps nothing between two calls.  Rule-level configs are typed values in this model
(an entry is the canonical JSON text of the value): `"1"` and `1`, `"[a b]"` and `["a","b"]`, `{X-A: "1 X-B:2"}` and
`{X-A: "1", X-B: "2"}` are different overrides however alike they print. -/

/-- **Regardless of which rules were loaded before.**  In every history of `Create…` calls on one factory (any
requests before and after, for the same or other catalogue entries, accepted or refused), the answer to a request
for a catalogue entry — refused / the prototype / a variant — and the configuration the object handed out stands
for at the end of the history are those of the same request put to a factory that has seen nothing else: the
catalogue entry overlaid with the request's own `config` (`c17_create_end_to_end`). -/
theorem c17_history_of_creations_is_local (σ₀ : Store Entries Override) (hcl : Closed σ₀)
    (pre post : List CreateReq) (p : Option Nat) (ov : Option Override)
    (hp : ∀ q, p = some q → ∃ i : Inst, σ₀.insts[q]? = some i) :
    ((createSeq σ₀ (pre ++ (p, ov) :: post)).2[pre.length]?).map
        (Handed.observed (createSeq σ₀ (pre ++ (p, ov) :: post)).1) =
      some (createAlone σ₀ (p, ov)) :=
  createSeq_kth pre σ₀ σ₀ (Extends.refl hcl) hcl post (p, ov) hp

/-- a catalogue with one anonymous authenticator (subject `anon`) and one header finalizer -/
def lookEntries : List (TypeD × String × Entries) :=
  match typeByName "authenticator" "anonymous", typeByName "finalizer" "header" with
  | some a, some h => [(a, "a", [(("subject", ""), "\"anon\"")]), (h, "h", [(("headers", ""), "{\"X-User\":\"u\"}")])]
  | _, _ => []

def lookCat : Store Entries Override := lookEntries.foldl (fun σ c => load σ c.1 c.2.1 c.2.2) emptyStore

/-- `subject: "1"`, `subject: 1` (refused by the decoder: not a string), one header `X-A: 1 X-B:2`, two headers -/
def ovStr : Override := ⟨["subject"], [(("subject", ""), "\"1\"")], true⟩
def ovNum : Override := ⟨["subject"], [(("subject", ""), "1")], false⟩
def ovOne : Override := ⟨["headers"], [(("headers", ""), "{\"X-A\":\"1 X-B:2\"}")], true⟩
def ovTwo : Override := ⟨["headers"], [(("headers", ""), "{\"X-A\":\"1\",\"X-B\":\"2\"}")], true⟩

example : Closed lookCat := (loadAll_closed lookEntries emptyStore emptyStore_closed.1 emptyStore_closed.2).1

/-- the history of the theorem's hypothesis, with look-alike overrides: every answer is the answer alone -/
example : lookCat.insts.length = 2 ∧
    (createSeq lookCat [(some 0, some ovStr), (some 0, some ovNum), (some 1, some ovOne), (some 1, some ovTwo)]).2 =
      [.variant 2, .configError, .variant 3, .variant 4] ∧
    createAlone lookCat (some 0, some ovNum) = .configError ∧
    createAlone lookCat (some 1, some ovTwo) = .shows false [(("headers", ""), "{\"X-A\":\"1\",\"X-B\":\"2\"}")] ∧
    createAlone lookCat (some 1, some ovOne) = .shows false [(("headers", ""), "{\"X-A\":\"1 X-B:2\"}")] := by
  decide +kernel

/-- what `%v` shows of a config: the texts without their quotes (a key that is not injective) -/
def printed (ov : Override) : List (Key × String) :=
  ov.entries.map fun e => (e.1, match e.2 with
    | "\"1\"" => "1"
    | "{\"X-A\":\"1 X-B:2\"}" => "map[X-A:1 X-B:2]"
    | "{\"X-A\":\"1\",\"X-B\":\"2\"}" => "map[X-A:1 X-B:2]"
    | s => s)

/-- **A memo keyed by the printed config breaks it**: the rule with `subject: 1` is handed
the variant of the rule with `subject: "1"` instead of being refused, and the rule that sets two headers is handed
the finalizer of the rule that sets one — the answers are no longer those of the requests alone -/
example : printed ovStr = printed ovNum ∧ ovStr ≠ ovNum ∧ printed ovOne = printed ovTwo ∧ ovOne ≠ ovTwo ∧
    (memoSeq printed lookCat [] [(some 0, some ovStr), (some 0, some ovNum), (some 1, some ovOne), (some 1, some ovTwo)]).2 =
      [.variant 2, .variant 2, .variant 3, .variant 3] ∧
    ((memoSeq printed lookCat [] [(some 1, some ovOne), (some 1, some ovTwo)]).2[1]?).map
        (Handed.observed (memoSeq printed lookCat [] [(some 1, some ovOne), (some 1, some ovTwo)]).1) ≠
      some (createAlone lookCat (some 1, some ovTwo)) := by
  decide +kernel

/-! ## Templates are values: what an object renders depends on its own template text only

The template texts of a mechanism (payload, values, headers, cookies, claims, `to`, endpoint headers) are entries of
its configuration.  `runHist` interleaves `Create…` calls with executions of the objects handed out so far; what an
execution renders is `ρ (configuration the object stands for at that moment) inputs`, for ANY function `ρ` — there is
nothing else a rendering could depend on in the model: no table of named templates outside the template, no memo. -/

/-- **Each object renders exactly its own template text, whatever else was created before or after.**  In every
history of creations and executions on one factory (any requests, for this or other catalogue entries, accepted or
refused, executions of any objects in between), the record of an execution of the k-th object handed out is what the
k-th request renders when it is the only request the factory ever sees: `ρ` of the catalogue entry overlaid with the
request's own `config` (`createAlone`, `c17_create_end_to_end`) and of the inputs. -/
theorem c17_rendering_depends_on_own_template_only {Inp Out : Type} (ρ : Entries → Inp → Out)
    (σ₀ : Store Entries Override) (hcl : Closed σ₀) (pre post : List (HEv Inp)) (k : Nat) (inp : Inp)
    (hcat : ∀ r ∈ reqsOf pre, ∀ q, r.1 = some q → ∃ i : Inst, σ₀.insts[q]? = some i) :
    (runHist ρ σ₀ [] (pre ++ .exec k inp :: post))[(execsOf pre).length]? =
      some (k, inp, ((reqsOf pre)[k]?).bind fun r => aloneOut ρ σ₀ r inp) := by
  have h := runHist_kth ρ σ₀ pre σ₀ [] [] (Answers.nil hcl) hcat post k inp
  simpa using h

/-- the hypothesis at a history over `lookCat` (both header overrides, executions of every earlier object after each
creation, `ρ` = the configuration itself): every record is the object's own configuration -/
example : ((reqsOf (Inp := Nat) [.create (some 1, some ovOne), .exec 0 7, .create (some 1, some ovTwo), .exec 0 7]).all
      fun r => match r.1 with
        | some q => (lookCat.insts[q]?).isSome
        | none => true) = true ∧
    (runHist (fun eff (_ : Nat) => eff) lookCat []
      [.create (some 1, some ovOne), .exec 0 7, .create (some 1, some ovTwo), .exec 0 7, .exec 1 7, .exec 2 7]).map
        (fun x => (x.1, x.2.2)) =
      [(0, some [(("headers", ""), "{\"X-A\":\"1 X-B:2\"}")]), (0, some [(("headers", ""), "{\"X-A\":\"1 X-B:2\"}")]),
       (1, some [(("headers", ""), "{\"X-A\":\"1\",\"X-B\":\"2\"}")]), (2, none)] := by
  decide +kernel

/-- **The template package: every template has its own set of named templates.**  In every process that creates
templates (any texts, declaring any named templates under any names) and renders them in any order, the rendering
of the k-th template is `renderOwn` of its own source — the output of the process that creates this one template
and renders it. -/
theorem c17_template_renders_with_own_definitions (objs : List Tpl.Src) (pre post : List Tpl.TEv) (k : Nat)
    (inp : Tpl.Inputs) :
    (Tpl.runOwn objs (pre ++ .render k inp :: post))[(Tpl.rendersOf pre).length]? =
      some (((objs ++ Tpl.newsOf pre)[k]?).bind fun s => Tpl.renderOwn s inp) ∧
    ∀ src, Tpl.runOwn [] [.new src, .render 0 inp] = [Tpl.renderOwn src inp] := by
  refine ⟨?_, fun _ => rfl⟩
  induction pre generalizing objs with
  | nil => simp [Tpl.runOwn, Tpl.rendersOf, Tpl.newsOf]
  | cons ev pre ih =>
    cases ev with
    | new s =>
      simp only [List.cons_append, Tpl.runOwn, Tpl.rendersOf, Tpl.newsOf]
      rw [ih (objs ++ [s])]; simp
    | render k' inp' =>
      simp only [List.cons_append, Tpl.runOwn, Tpl.rendersOf, Tpl.newsOf, List.length_cons, List.getElem?_cons_succ]
      exact ih objs

/-- `{{ define "scope" }}read{{ end }}{{ template "scope" . }}` and the same with `admin`: the catalogue prototype
and a rule-level override that name their template alike -/
def tplRead : Tpl.Src := [.define "scope" [.lit "read"], .atom (.use "scope")]
def tplAdmin : Tpl.Src := [.define "scope" [.lit "admin"], .atom (.use "scope")]
/-- a template that uses a name it does not define -/
def tplUse : Tpl.Src := [.atom (.lit "s="), .atom (.use "scope")]

/-- the sources are what `parse` reads off the texts -/
example : Tpl.parse "{{ define \"scope\" }}read{{ end }}{{ template \"scope\" . }}" = some tplRead ∧
    Tpl.parse "{{define \"scope\"}}admin{{end}}{{template \"scope\"}}" = some tplAdmin ∧
    Tpl.parse "s={{ template \"scope\" . }}" = some tplUse ∧
    Tpl.parse "{{ block \"b\" . }}x{{ .Subject.ID }}{{ end }}" = some [.block "b" [.lit "x", .field "Subject.ID"]] ∧
    Tpl.parse "{{ define \"a\" }}1{{ end }}{{ define \"a\" }}2{{ end }}" = none ∧
    Tpl.parse "{{ quote .Subject.ID }}" = none := by
  repeat rw [Tpl.parse_ofList]
  decide +kernel

/-- own tables: the prototype renders `read` before and after the override was created, the override `admin`, and
a template that only uses the name fails — whatever else the process has defined -/
example : Tpl.runOwn [] [.new tplRead, .render 0 (fun _ => ""), .new tplAdmin, .new tplUse, .render 0 (fun _ => ""),
      .render 1 (fun _ => ""), .render 2 (fun _ => "")] =
    [some ["read"], some ["read"], some ["admin"], none] := by decide +kernel

/-- **One table of named templates shared by all templates of the process breaks it** (all
templates derived from one base template; the definition parsed last wins): after the override has been created the
prototype renders `admin`, in the other creation order the override renders `read`, and the template that only uses the
name renders whatever was defined last instead of failing — none of them is the rendering of the object alone -/
example :
    Tpl.runShared [] [] [.new tplRead, .render 0 (fun _ => ""), .new tplAdmin, .new tplUse, .render 0 (fun _ => ""),
      .render 1 (fun _ => ""), .render 2 (fun _ => "")] =
      [some ["read"], some ["admin"], some ["admin"], some ["s=", "admin"]] ∧
    (Tpl.runShared [] [] [.new tplAdmin, .new tplRead, .render 0 (fun _ => "")])[0]? ≠
      (Tpl.runOwn [] [.new tplAdmin, .render 0 (fun _ => "")])[0]? ∧
    (Tpl.runShared [] [] [.new tplRead, .new tplAdmin, .render 0 (fun _ => "")])[0]? ≠
      some (Tpl.renderOwn tplRead (fun _ => "")) := by decide +kernel

/-- … and it stays invisible as long as no template declares a named template (why the ordinary templates of the
stream, and the tests of the repository, cannot see such a change): then the shared table and own tables agree on every
history -/
theorem c17_shared_table_invisible_without_definitions (evs : List Tpl.TEv)
    (hn : ∀ s ∈ Tpl.newsOf evs, Tpl.defsOf s = []) : Tpl.runShared [] [] evs = Tpl.runOwn [] evs :=
  Tpl.runShared_eq_runOwn_of_no_defs evs [] (fun _ h => by cases h) hn

example : ∀ s ∈ Tpl.newsOf [.new [.atom (.lit "a"), .atom (.field "Subject.ID")], .render 0 (fun _ => "u")],
    Tpl.defsOf s = [] := by decide +kernel

/-! ## Executions leave something behind — in the object's own corner only

An execution may have an effect that later executions see: the result a mechanism keeps for `cache_ttl`, the response
its endpoint's HTTP cache layer keeps for `http_cache.default_ttl`.  `runHistSt` interleaves `Create…` calls with
executions of the objects handed out so far, every object with a state of its own; an execution is
`step (configuration the object stands for at that moment) inputs (the object's state)` for ANY function `step`.  In
the model there is no other state an execution could read or write: no table of HTTP clients per process, no memo. -/

/-- **What an execution does is decided by the object's own configuration and its own earlier executions, whatever
else was created or executed before.**  In every history of creations and executions on one factory (any requests,
for this or other catalogue entries, accepted or refused, executions of any objects in between), the record of an
execution of the k-th object handed out is: the object `x` the k-th call handed out (`objectOf`: the prototype may be
handed out under several numbers) and the outcome of `step` on the configuration the k-th request stands for when it is
the only request the factory ever sees (`aloneEff`: the catalogue entry overlaid with the request's own `config`), in
the state that the earlier executions OF THE SAME OBJECT — with their inputs, in their order — produce from the initial
state when nothing else happens in the process (`stateAlone`). -/
theorem c17_execution_depends_on_own_configuration_and_own_executions {Inp Out S : Type}
    (step : Entries → Inp → S → Out × S) (σ₀ : Store Entries Override) (hcl : Closed σ₀) (s₀ : S)
    (pre post : List (HEv Inp)) (k : Nat) (inp : Inp)
    (hcat : ∀ r ∈ reqsOf pre, ∀ q, r.1 = some q → ∃ i : Inst, σ₀.insts[q]? = some i) :
    (runHistSt step σ₀ [] (fun _ => s₀) (pre ++ .exec k inp :: post))[(execsOf pre).length]? =
      some (k, inp, (objectOf σ₀ (reqsOf pre) k).bind fun x => ((reqsOf pre)[k]?).bind fun r =>
        (aloneEff σ₀ r).map fun e =>
          (x, (step e inp (stateAlone step e s₀ (inputsOf x (runHistSt step σ₀ [] (fun _ => s₀) pre)))).1)) := by
  have h := runHistSt_kth step σ₀ s₀ pre σ₀ [] [] (fun _ => s₀) (fun _ => []) (Answers.nil hcl)
    ⟨fun _ => rfl, fun _ hx => absurd rfl hx⟩ hcat post k inp
  simpa [expected, objectOf] using h

/-- the hypothesis at a history over `lookCat`: the prototype of the header finalizer is handed out twice (numbers 0
and 2), a variant in between; `step` counts the executions of the object and shows its configuration.  The prototype
is executed under both numbers: one object, one count; the variant has its own -/
example : ((reqsOf (Inp := Unit) [.create (some 1, none), .create (some 1, some ovTwo), .create (some 1, none)]).all
      fun r => match r.1 with
        | some q => (lookCat.insts[q]?).isSome
        | none => true) = true ∧
    (runHistSt (fun eff (_ : Unit) (n : Nat) => ((eff.length, n), n + 1)) lookCat [] (fun _ => 0)
      [.create (some 1, none), .exec 0 (), .create (some 1, some ovTwo), .exec 1 (), .create (some 1, none), .exec 2 (),
       .exec 1 (), .exec 0 (), .exec 3 ()]).map (fun x => (x.1, x.2.2)) =
      [(0, some (1, 1, 0)), (1, some (2, 1, 0)), (2, some (1, 1, 1)), (1, some (2, 1, 1)), (0, some (1, 1, 2)), (3, none)] := by
  decide +kernel

/-- **The endpoint of a mechanism receives what the object's own settings mean.**  In every process that executes
mechanism objects in any order, each request through an HTTP client built from the settings of the object's own
endpoint (the code: `Endpoint.CreateClient` builds a client per request), the number of requests the upstream sees for
an execution of the k-th object is that of its own n-th execution in a process where nothing else is executed, `n` =
the number of its executions so far. -/
theorem c17_upstream_requests_are_those_of_the_object_alone (objs : List Client.Obj) (pre post : List Nat) (k : Nat) :
    (Client.runOwn objs (fun _ => {}) (pre ++ k :: post))[pre.length]? =
      some ((objs[k]?).map fun o => Client.callsAlone o (pre.filter (· = k)).length) := by
  have h := Client.runOwn_kth objs pre (fun _ => 0) (fun _ => {}) (fun _ _ _ => rfl) post k
  simpa using h

/-- what the own settings mean, closed form: on an upstream that answers, the first execution asks once, and the
second one is answered without asking iff the mechanism keeps its result (`cache_ttl`) or the HTTP cache layer of ITS
endpoint is enabled, the request is a GET without payload and ITS `default_ttl` says for how long to keep a response
without freshness information -/
theorem c17_second_execution_reuses_iff_own_settings (o : Client.Obj) (hb : o.busy = false) :
    Client.callsAlone o 0 = 1 ∧
    (Client.callsAlone o 1 = 0 ↔
      (o.mechTtl = true ∨
        (o.client.cache = true ∧ o.get = true ∧ o.body = false ∧ Client.positive o.client.ttl = true))) ∧
    (Client.callsAlone o 1 = 0 ∨ Client.callsAlone o 1 = 1) := by
  refine ⟨by rw [Client.callsAlone, Client.stAfter, Client.exec_first_idle o hb], ?_, ?_⟩ <;>
    rw [Client.callsAlone_one_idle o hb]
  · cases o.mechTtl <;> simp [Client.Obj.cacheable, and_assoc]
  · split <;> simp

/-- … and on an upstream that answers 503 to everything every execution asks once, or six times iff ITS endpoint has
`retry` — nothing is kept -/
theorem c17_busy_upstream_sees_own_retry_setting (o : Client.Obj) (hb : o.busy = true) (n : Nat) :
    Client.callsAlone o n = if o.client.retry.isSome then 6 else 1 := by
  simp only [Client.callsAlone, Client.stAfter_busy o hb n, Client.exec, Client.execWith, Client.roundTrip,
    Client.attempts, hb]
  cases o.mechTtl <;> cases o.client.cache <;> cases o.client.retry <;> simp

/-- **A table of clients per process is invisible iff its key says everything a client is built from.**  A process
that files the client it builds under `key (settings, peer)` and uses the client filed first under a key for everybody
who comes later (NOT the code) yields, on every history, the upstream requests of the process with own clients — as
long as two settings filed under one key build clients that do the same. -/
theorem c17_client_memo_invisible_if_key_determines_client {K : Type} [DecidableEq K]
    (key : Client.Settings × String → K) (objs : List Client.Obj)
    (hk : ∀ a b p q, key (a, p) = key (b, q) → ∀ o st, Client.execWith a o st = Client.execWith b o st)
    (st : Nat → Client.St) (evs : List Nat) :
    Client.runMemo key objs [] st evs = Client.runOwn objs st evs :=
  Client.runMemo_eq_runOwn key objs hk evs [] st (fun _ he => by cases he)

/-- the hypothesis holds for the key that is the settings themselves -/
example : ∀ (a b : Client.Settings) (p q : String), (fun x : Client.Settings × String => x.1) (a, p) =
    (fun x : Client.Settings × String => x.1) (b, q) → ∀ o st, Client.execWith a o st = Client.execWith b o st := by
  intro a b p q h o st
  simp only at h
  rw [h]

/-- two mechanisms on one host: `profile` keeps responses for an hour,
`status` enables the HTTP cache without a default ttl; `patient` retries, `hasty` does not, their upstream is busy -/
def cProfile : Client.Obj := ⟨⟨none, true, "\"1h\""⟩, "SERVER", true, false, false, false⟩
def cStatus : Client.Obj := ⟨⟨none, true, ""⟩, "SERVER", true, false, false, false⟩
def cPatient : Client.Obj := ⟨⟨some "{\"give_up_after\":\"5ms\",\"max_delay\":\"1ms\"}", false, ""⟩, "SERVER", true, false, true, false⟩
def cHasty : Client.Obj := ⟨⟨none, false, ""⟩, "SERVER", true, false, true, false⟩

/-- the hypotheses of the two closed forms at these objects -/
example : cProfile.busy = false ∧ cStatus.busy = false ∧ cPatient.busy = true ∧ cHasty.busy = true ∧
    Client.callsAlone cProfile 1 = 0 ∧ Client.callsAlone cStatus 1 = 1 ∧ Client.callsAlone cPatient 3 = 6 := by
  decide +kernel

/-- own clients: `status` asks every time, `profile` once, in both orders; `patient` six times, `hasty` once -/
example : Client.runOwn [cProfile, cStatus, cPatient, cHasty] (fun _ => {}) [0, 1, 1, 0, 2, 3, 3, 2] =
      [some 1, some 1, some 1, some 0, some 6, some 1, some 1, some 6] ∧
    Client.runOwn [cProfile, cStatus] (fun _ => {}) [1, 0, 0, 1] = [some 1, some 1, some 0, some 1] := by
  decide +kernel

/-- a key that leaves out `default_ttl`: peer name, retry settings, whether the HTTP cache is enabled -/
def seededKey (x : Client.Settings × String) : String × Option String × Bool := (x.2, x.1.retry, x.1.cache)

/-- **A table of clients keyed without `default_ttl` breaks it**: after `profile` has been
executed `status` is answered from the cache for an hour, in the other order `profile` never reuses anything — neither
is what the object does alone; and a key that is the peer name only makes `hasty` as patient as `patient` -/
example : seededKey (cProfile.client, "SERVER") = seededKey (cStatus.client, "SERVER") ∧
    Client.runMemo seededKey [cProfile, cStatus] [] (fun _ => {}) [0, 1, 1, 0] = [some 1, some 1, some 0, some 0] ∧
    Client.runMemo seededKey [cProfile, cStatus] [] (fun _ => {}) [1, 0, 0, 1] = [some 1, some 1, some 1, some 1] ∧
    (Client.runMemo seededKey [cProfile, cStatus] [] (fun _ => {}) [0, 1, 1])[2]? ≠
      some (some (Client.callsAlone cStatus 1)) ∧
    Client.runMemo (fun x => x.2) [cPatient, cHasty] [] (fun _ => {}) [0, 1] = [some 6, some 6] := by
  decide +kernel

end Heimdall.Props.C17
