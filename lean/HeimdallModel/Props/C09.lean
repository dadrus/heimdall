import HeimdallModel.Lemmas.ReqView
import HeimdallModel.Lemmas.AsciiChars
import HeimdallModel.Gen.ReqView
/-!
# C09 — forwarded headers from untrusted peers never influence a decision

Theorems about the request-view model (`Model/NetAddr.lean`, `Model/ReqView.lean`; tied to the decision and proxy
services by the correspondence check and by the header tables measured on them, `Gen/ReqView.lean`).  Every statement
quantifies over all `trusted_proxies` lists (valid, invalid, empty), all `RemoteAddr` strings, all requests, all header
lines (any number, any casing, repeated), and every behaviour of `url.Parse` on `X-Forwarded-Uri` (`parse`).

The model of the entry parser is the code with `fixes/C09-1.patch` (in /repo as commit 7f0f8a0);
`c09_unpatched_trusts_unparsable_peer` states the defect of the unpatched code.
-/
namespace Heimdall.Props.C09
open Heimdall.Fwd

/-! ## the tables of the model are the tables of the running code (measured on every run)

`Gen/ReqView.lean` is written by the check from the current tree: the deleted / influential names are *measured* on the
real decision and proxy services (each candidate name alone and all together from an unlisted peer; each candidate
alone with every kind of value from a listed peer), the inventory of forwarding-like names is syntactic but
shape-independent. -/

/-- one statement for the three comparisons that follow, so that the string tables are evaluated once; the three
    are its parts -/
theorem c09_gen_tables :
    (sameNames Heimdall.Gen.ReqView.stripDecision stripSet ∧ sameNames Heimdall.Gen.ReqView.stripProxy stripSet) ∧
    (sameNames Heimdall.Gen.ReqView.readDecision readKeys ∧ sameNames Heimdall.Gen.ReqView.readProxy readKeys) ∧
    (∀ k ∈ Heimdall.Gen.ReqView.mentioned, k ∈ stripSet) ∧ (∀ k ∈ Heimdall.Gen.ReqView.astReads, k ∈ stripSet) := by
  decide +kernel

/-- the names both services delete for unlisted peers are the model's `stripSet` -/
theorem c09_gen_strip_set :
    sameNames Heimdall.Gen.ReqView.stripDecision stripSet ∧ sameNames Heimdall.Gen.ReqView.stripProxy stripSet :=
  c09_gen_tables.1

/-- the names that influence the view (decision, proxy) or the forwarded headers sent upstream (proxy) for a listed
    peer are the model's `readKeys` -/
theorem c09_gen_read_set :
    sameNames Heimdall.Gen.ReqView.readDecision readKeys ∧ sameNames Heimdall.Gen.ReqView.readProxy readKeys :=
  c09_gen_tables.2.1

/-- no string that looks like a forwarding header occurs in the trusted-proxy, request-context, proxy or decision
    package — as literal or constant, read from a header map or not — without being deleted for unlisted peers -/
theorem c09_gen_every_forwarding_name_is_stripped :
    (∀ k ∈ Heimdall.Gen.ReqView.mentioned, k ∈ stripSet) ∧ (∀ k ∈ Heimdall.Gen.ReqView.astReads, k ∈ stripSet) :=
  c09_gen_tables.2.2

/-! ## who is trusted -/

/-- **Trusted = listed.** The middleware keeps the forwarded headers exactly when the peer has an address and some
entry of `trusted_proxies` is a valid address equal to it or a valid range containing it (IPv4 and IPv4-mapped IPv6
identified, no IPv4 address in an IPv6 range and vice versa).  Invalid entries list nothing; a peer whose address
cannot be parsed is never trusted. -/
theorem c09_trusted_iff_listed (proxies : List String) (remoteAddr : String) :
    trustedPeer proxies remoteAddr = true ↔ Listed proxies remoteAddr :=
  trustedPeer_iff_listed proxies remoteAddr

instance (proxies : List String) (remoteAddr : String) : Decidable (Listed proxies remoteAddr) :=
  decidable_of_iff _ (c09_trusted_iff_listed proxies remoteAddr)

example : Listed ["foo", "10.0.0.0/8"] "10.255.255.255:4711" := by
  rw [← c09_trusted_iff_listed, trustedPeer, ipFromHostPort_ofList]; decide +kernel
example : ¬ Listed ["foo", "10.0.0.0/8"] "11.0.0.0:4711" := by
  rw [← c09_trusted_iff_listed, trustedPeer, ipFromHostPort_ofList]; decide +kernel
example : Listed ["::ffff:192.168.1.0/120"] "192.168.1.77:1" ∧ ¬ Listed ["::/0"] "192.168.1.77:1" := by
  simp only [← c09_trusted_iff_listed, trustedPeer]
  rw [ipFromHostPort_ofList]; decide +kernel
example : Listed ["2001:DB8:0:0::/56"] "[2001:db8:0:ff::1]:443" ∧ ¬ Listed ["2001:db8::/56"] "[2001:db8:0:100::1]:443" := by
  simp only [← c09_trusted_iff_listed, trustedPeer]
  rw [ipFromHostPort_ofList, ipFromHostPort_ofList]; decide +kernel

/-- **Invalid entries list nothing.** A `trusted_proxies` list that is empty or consists only of entries that are
neither an IP address nor a CIDR range trusts nobody. -/
theorem c09_invalid_entries_list_nothing (proxies : List String) (hinv : ∀ s ∈ proxies, parseEntry s = none)
    (remoteAddr : String) : ¬ Listed proxies remoteAddr := by
  intro ⟨_, _, s, hs, e, he, _⟩
  rw [hinv s hs] at he
  cases he

example : ∀ s ∈ ["traefik", "", "10.0.0.256", "10.0.0.0/33", "fe80::1%eth0", "::1/129", "1.2.3.4/", " 10.0.0.1"],
    parseEntry s = none := by
  simp only [List.forall_mem_cons, parseEntry, parseIP, Ascii.toList_lit _ _ rfl]
  decide +kernel

/-- **The defect of the unpatched code** (fixes/C09-1.patch): an entry that is not an IP address is kept as a `nil`
address, which equals the `nil` of a peer address that cannot be parsed (IPv6 with zone): such a peer is trusted
although nothing lists it. -/
theorem c09_unpatched_trusts_unparsable_peer :
    trustedPeerUnpatched ["traefik"] "[fe80::1%eth0]:51234" = true ∧ ¬ Listed ["traefik"] "[fe80::1%eth0]:51234" := by
  decide +kernel

/-! ## header-name casing -/

/-- **Any casing.** A header line is filed under the family name `K` by the HTTP reader exactly when its name equals
`K` up to ASCII case — so the deletion hits every spelling, and only those. -/
theorem c09_casing (K : String) (hK : K ∈ stripSet) (name : String) :
    canonKey name = K ↔ eqIgnoreCase name K = true := by
  obtain ⟨hv, hc⟩ := stripSet_canonical K hK
  exact canonKey_eq_iff K hv hc name

example : canonKey "x-FORWARDED-meThod" = "X-Forwarded-Method" ∧ canonKey "X_Forwarded_Method" ≠ "X-Forwarded-Method" := by
  unfold canonKey
  simp only [Ascii.toList_lit _ _ rfl]
  decide +kernel

/-! ## untrusted peers -/

/-- **Lifting lemma.** Whatever list `names` the first middleware deletes: if it covers every header name the
request context and the proxy read (`readKeys`), then for a peer that is not listed the view is the actual request,
the upstream gets exactly one `Forwarded` element describing the real connection, and no deleted name is shown to
mechanisms. -/
theorem c09_untrusted_of_cover (names : List String) (hcover : ∀ k ∈ readKeys, k ∈ names) (hHost : "Host" ∉ names)
    (parse : UriParse) (proxies : List String) (r : Req) (hu : ¬ Listed proxies r.remoteAddr) :
    (serveWith names parse proxies r).view = actualView r ∧
      (serveWith names parse proxies r).upstream = [("Forwarded", ownForwarded r)] ∧
      ∀ kv ∈ (serveWith names parse proxies r).shown, kv.1 ∉ names := by
  have hno : ∀ k ∈ readKeys, hget (strip names (canonHeaders r.wire)) k = "" :=
    fun k hk => hget_strip_of_mem names _ k (hcover k hk)
  simp only [serveWith, effective_of_not_listed names proxies r hu]
  refine ⟨viewOf_of_no_read parse _ r hno, ?_, mechHeaders_keys names _ r hHost⟩
  simp only [readKeys, List.forall_mem_cons] at hcover hno
  obtain ⟨cFwd, cFor, -⟩ := hcover
  obtain ⟨-, -, nHost, -, nProto, -⟩ := hno
  rw [upstreamFwd_eq, hvalues_strip_of_mem names _ _ cFor, hvalues_strip_of_mem names _ _ cFwd, nHost, nProto]
  rfl

/-- **Untrusted ⇒ only the actual request counts.** For a peer that is not listed in `trusted_proxies`: method,
scheme, host, path, query and the client address list are those of the connection and the request line; the upstream
of the proxy receives no forwarded header but one `Forwarded` element naming the real peer; mechanisms are shown no
header of the family, under whatever spelling they ask for it. -/
theorem c09_untrusted_actual_only (parse : UriParse) (proxies : List String) (r : Req)
    (hu : ¬ Listed proxies r.remoteAddr) :
    (serve parse proxies r).view = actualView r ∧
      (serve parse proxies r).upstream = [("Forwarded", ownForwarded r)] ∧
      (∀ kv ∈ (serve parse proxies r).shown, kv.1 ∉ stripSet) ∧
      ∀ name, isFamilyName name = true → mechHeader (effective stripSet proxies r) r name = "" := by
  have hcover : ∀ k ∈ readKeys, k ∈ stripSet := by
    simp only [readKeys, List.forall_mem_cons]
    simp [stripSet]
  have hHost : "Host" ∉ stripSet := by simp [stripSet]
  obtain ⟨h1, h2, h3⟩ := c09_untrusted_of_cover stripSet hcover hHost parse proxies r hu
  refine ⟨h1, h2, h3, ?_⟩
  intro name hn
  have hmem : canonKey name ∈ stripSet := by
    rw [← stripSet_contains_canonKey] at hn
    exact List.contains_iff_mem.mp hn
  have hne : canonKey name ≠ "Host" := fun h => hHost (h ▸ hmem)
  rw [mechHeader, if_neg hne, effective_of_not_listed stripSet proxies r hu, hvalues_strip_of_mem stripSet _ _ hmem]
  rfl

/-- **Matching sees the actual request only.** Whatever function of the view selects the rule (routes, methods,
scheme, hosts …): for an unlisted peer it selects what it selects for the actual request. -/
theorem c09_untrusted_matching {α : Type} (select : View → α) (parse : UriParse) (proxies : List String) (r : Req)
    (hu : ¬ Listed proxies r.remoteAddr) : select (serve parse proxies r).view = select (actualView r) := by
  rw [(c09_untrusted_actual_only parse proxies r hu).1]

/-- **Non-interference.** Two requests from the same unlisted peer that differ only in header lines of the forwarded
family (any spelling, any number of lines, any values) are indistinguishable: same view (hence the same matched rule
for every matcher), same headers shown to mechanisms, same forwarded headers sent upstream. -/
theorem c09_untrusted_noninterference (parse : UriParse) (proxies : List String) (r : Req) (wire' : Headers)
    (hu : ¬ Listed proxies r.remoteAddr) (hsame : nonFamily r.wire = nonFamily wire') :
    serve parse proxies { r with wire := wire' } = serve parse proxies r := by
  simp only [serve, serveWith, effective_of_not_listed stripSet proxies r hu,
    effective_of_not_listed stripSet proxies { r with wire := wire' } hu, strip_canonHeaders, hsame]
  rfl

/-- the hypotheses are met by a request carrying the whole family, in mixed spellings and repeated -/
example :
    let r : Req := ⟨"GET", "svc.local", "", "/public/x", "a=1", false, "203.0.113.9:40000",
      [("x-forwarded-method", "DELETE"), ("X-FORWARDED-URI", "/admin/x"), ("X-Forwarded-Proto", "https"),
       ("x-Forwarded-Host", "trusted.example.com"), ("Forwarded", "for=10.0.0.1"), ("x-forwarded-for", "10.0.0.1"),
       ("X-Forwarded-For", "10.0.0.2"), ("X-Forwarded-Path", "/admin"), ("Accept", "*/*")]⟩
    ¬ Listed ["10.0.0.0/8", "not-an-ip"] r.remoteAddr ∧
      nonFamily r.wire = nonFamily [("Accept", "*/*")] ∧
      (serve (fun _ => some ⟨"", "/admin/x", ""⟩) ["10.0.0.0/8", "not-an-ip"] r).view =
        ⟨"GET", "http", "svc.local", "/public/x", "a=1", ["203.0.113.9"]⟩ := by
  decide +kernel

/-! ## trusted peers -/

/-- **Trusted ⇒ each present header overrides exactly its component, absent ones fall back.** For a listed peer the
view is `overriddenView`: the method is the first `X-Forwarded-Method` line if non-empty, else the request's; likewise
scheme / `X-Forwarded-Proto`, host / `X-Forwarded-Host`, path and query / those of `X-Forwarded-Uri` **as received**
(path: `escapedPath`, query: `RawQuery` of what `url.Parse` accepts; each falling back separately when empty or not
parsable); the client addresses are those announced by `Forwarded`
(else `X-Forwarded-For`) followed by the real peer.  Lines are found under any spelling; the first line wins. -/
theorem c09_trusted_override (parse : UriParse) (proxies : List String) (r : Req)
    (ht : Listed proxies r.remoteAddr) :
    (serve parse proxies r).view = overriddenView parse r := by
  simp only [serve, serveWith, effective_of_listed stripSet proxies r ht]
  exact viewOf_canonHeaders parse r

/-- **Exactly its component.** Changing, adding or removing the lines of one family header `K` of a trusted request
leaves every component of the view that belongs to another header untouched. -/
theorem c09_trusted_header_touches_only_its_component (parse : UriParse) (proxies : List String) (r : Req)
    (wire' : Headers) (K : String) (ht : Listed proxies r.remoteAddr)
    (hsame : (r.wire.filter fun kv => !eqIgnoreCase kv.1 K) = wire'.filter fun kv => !eqIgnoreCase kv.1 K) :
    let v := (serve parse proxies r).view
    let v' := (serve parse proxies { r with wire := wire' }).view
    (eqIgnoreCase K "X-Forwarded-Method" = false → v'.method = v.method) ∧
    (eqIgnoreCase K "X-Forwarded-Proto" = false → v'.scheme = v.scheme) ∧
    (eqIgnoreCase K "X-Forwarded-Host" = false → v'.host = v.host) ∧
    (eqIgnoreCase K "X-Forwarded-Uri" = false → v'.rawPath = v.rawPath ∧ v'.query = v.query) ∧
    (eqIgnoreCase K "Forwarded" = false → eqIgnoreCase K "X-Forwarded-For" = false → v'.ips = v.ips) := by
  have key : ∀ K', eqIgnoreCase K K' = false → firstCI wire' K' = firstCI r.wire K' := by
    intro K' hne
    rw [← firstCI_filter_other wire' K K' hne, ← firstCI_filter_other r.wire K K' hne, hsame]
  have e1 := c09_trusted_override parse proxies r ht
  have e2 := c09_trusted_override parse proxies { r with wire := wire' } ht
  simp only [e1, e2, overriddenView, specUri, specAnnounced, peerIP, proto, Req.path]
  refine ⟨fun h => by rw [key _ h], fun h => by rw [key _ h], fun h => by rw [key _ h],
    fun h => by rw [key _ h]; exact ⟨rfl, rfl⟩, fun h1 h2 => by rw [key _ h1, key _ h2]⟩

example :
    let r : Req := ⟨"GET", "svc.local", "", "/public/x", "a=1", true, "10.1.2.3:40000",
      [("x-forwarded-method", "DELETE"), ("X-Forwarded-Method", "POST"), ("X-FORWARDED-URI", "/admin/x?z"),
       ("Forwarded", "for=1.1.1.1;proto=http, by=x;for=2.2.2.2"), ("x-forwarded-for", "9.9.9.9")]⟩
    Listed ["10.0.0.0/8"] r.remoteAddr ∧
      (serve (fun v => if v = "/admin/x?z" then some ⟨"", "/admin/x", "z"⟩ else none) ["10.0.0.0/8"] r).view =
        ⟨"DELETE", "https", "svc.local", "/admin/x", "z", ["1.1.1.1", "2.2.2.2", "10.1.2.3"]⟩ := by
  decide +kernel

/-- the path is shown as received — for the request line and for a believed `X-Forwarded-Uri` alike: escapes of the
client are kept (`%2F`, `%41`), only octets that may not stand in a path are encoded; the query of the header is taken
as received (`a=b=c;d`, no re-encoding, nothing dropped) -/
example :
    let r : Req := ⟨"GET", "svc.local", "/p%2Fq/%41 b", "/p%2Fq/%41%20b", "k=v", false, "10.1.2.3:40000",
      [("X-Forwarded-Uri", "/a%2fb/<c>?a=b=c;d")]⟩
    (serve (fun _ => none) [] r).view.rawPath = "/p%2Fq/%41%20b" ∧
      (serve (fun _ => some ⟨"/a%2fb/<c>", "/a%2Fb/%3Cc%3E", "a=b=c;d"⟩) ["10.1.2.3"] r).view =
        ⟨"GET", "http", "svc.local", "/a%2fb/%3Cc%3E", "a=b=c;d", ["10.1.2.3"]⟩ := by
  decide +kernel

/-! ## the upstream of the proxy -/

/-- **Never passed on as received.** For every peer, trusted or not, and every header set: of the forwarded family
the upstream receives only what rewriteRequest creates — `X-Forwarded-For` (all received lines joined, extended by the
real peer), `-Proto`, `-Host` (first line, else the real connection) when one of them arrived, otherwise one
`Forwarded` header (all received lines joined) ending in the element for the real connection.
`X-Forwarded-Method`, `-Uri`, `-Path` are never forwarded. -/
theorem c09_upstream_recreated (h : Headers) (r : Req) :
    upstreamFwd h r =
      if joinList (hvalues h "X-Forwarded-For") ≠ "" ∨ hget h "X-Forwarded-Proto" ≠ "" ∨
          hget h "X-Forwarded-Host" ≠ "" then
        [("X-Forwarded-For", if joinList (hvalues h "X-Forwarded-For") = "" then ipFromHostPort r.remoteAddr
            else joinList (hvalues h "X-Forwarded-For") ++ ", " ++ ipFromHostPort r.remoteAddr),
         ("X-Forwarded-Proto", orElse (hget h "X-Forwarded-Proto") (proto r)),
         ("X-Forwarded-Host", orElse (hget h "X-Forwarded-Host") r.host)]
      else
        [("Forwarded", if joinList (hvalues h "Forwarded") = "" then
            "for=" ++ ipFromHostPort r.remoteAddr ++ ";host=" ++ r.host ++ ";proto=" ++ proto r
          else joinList (hvalues h "Forwarded") ++ ", " ++
            ("for=" ++ ipFromHostPort r.remoteAddr ++ ";host=" ++ r.host ++ ";proto=" ++ proto r))] :=
  upstreamFwd_eq h r

/-- **Trusted ⇒ the received lists are extended by the peer.** For a listed peer the upstream receives
`extendedUpstream`: every `X-Forwarded-For` line (any spelling, in order of arrival, joined with `", "`) followed by
the real peer address, together with `X-Forwarded-Proto` / `-Host` (first line, else the real connection) — or, when
none of the three arrived, every `Forwarded` line followed by the element for the real connection. -/
theorem c09_trusted_upstream_extended (parse : UriParse) (proxies : List String) (r : Req)
    (ht : Listed proxies r.remoteAddr) :
    (serve parse proxies r).upstream = extendedUpstream r := by
  simp only [serve, serveWith, effective_of_listed stripSet proxies r ht]
  exact upstreamFwd_canonHeaders r

example :
    let r : Req := ⟨"GET", "svc.local", "", "/x", "", false, "10.1.2.3:40000",
      [("x-forwarded-for", "9.9.9.9, 8.8.8.8"), ("Accept", "*/*"), ("X-FORWARDED-FOR", "1.1.1.1"),
       ("Forwarded", "for=7.7.7.7")]⟩
    Listed ["10.1.2.3"] r.remoteAddr ∧
      (serve (fun _ => none) ["10.1.2.3"] r).upstream =
        [("X-Forwarded-For", "9.9.9.9, 8.8.8.8, 1.1.1.1, 10.1.2.3"), ("X-Forwarded-Proto", "http"),
         ("X-Forwarded-Host", "svc.local")] ∧
      (serve (fun _ => none) ["10.1.2.3"] { r with wire := [("forwarded", "for=7.7.7.7"), ("Forwarded", "for=6.6.6.6")] }).upstream =
        [("Forwarded", "for=7.7.7.7, for=6.6.6.6, for=10.1.2.3;host=svc.local;proto=http")] := by
  decide +kernel

end Heimdall.Props.C09
