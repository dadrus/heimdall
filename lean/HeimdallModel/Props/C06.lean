import HeimdallModel.Lemmas.RepoInv
/-!
# C06 — after any rule-set history, matching equals a fresh load of the current rule sets

Statements about the repository model (`Model/Repo.lean`, tied to `internal/rules/repository_impl.go` and the
routing tree by the correspondence check on rule-set histories).  Histories are arbitrary lists of
add / update / delete operations over arbitrary sources and rule sets; a rejected operation leaves the state
unchanged (`Repo.step`).
-/
namespace Heimdall.Props.C06
open Heimdall

/-- **Invariant of every history**: the index holds exactly the routes of the rules known after the history
(node by node: same values in rule-set order, same wildcard names, backtracking flag of the last rule), no two nodes
share an expression, and routes sharing an expression agree on wildcard names and rule set. -/
theorem c06_inv_run (ops : List RepoOp) : RepoInv (Repo.run ops) := inv_run ops

/-- **C06, main statement.** After any sequence of rule-set creations, updates and deletions, loading the rules
known at that point into an empty repository succeeds, and every request is served exactly alike by the repository
with that history and by the freshly loaded one (same rule, same captured values, same precondition outcome) -/
theorem c06_history_eq_fresh (ops : List RepoOp) :
    ∃ t, addRules [] (Repo.run ops).known = some t ∧
      ∀ (hasDefault : Bool) (q : ReqView),
        (⟨(Repo.run ops).known, t⟩ : Repo).serve hasDefault q = (Repo.run ops).serve hasDefault q := by
  obtain ⟨t, ht, hn⟩ := fresh_of_inv _ (c06_inv_run ops)
  refine ⟨t, ht, ?_⟩
  intro d q
  unfold Repo.serve Repo.findRule lookup
  simp only
  rw [find_congr (repoMatcher q) t (Repo.run ops).index hn]

/-- **Rejected changes are atomic.** -/
theorem c06_atomic_reject (s : Repo) (op : RepoOp) (h : s.apply op = none) : s.step op = s := by
  simp [Repo.step, h]

/-- what the repository knows after an applied update: the rules of the new version in their order, and the
rules of all other rule sets untouched -/
theorem c06_known_after_update (s s' : Repo) (src : String) (rules : List RuleCfg)
    (h : s.apply (.upd src rules) = some s') :
    s'.known.filter (·.src == src) = rules.map (Rule.mk src) ∧
    s'.known.filter (·.src != src) = s.known.filter (·.src != src) := by
  obtain ⟨s₁, h₁, h₂⟩ := updateRuleSet_eq_some.mp h
  refine ⟨by rw [known_addRuleSet h₂, known_deleteRuleSet h₁, if_pos rfl, if_pos rfl]; rfl, ?_⟩
  obtain ⟨t₁, _, rfl⟩ := deleteRuleSet_eq_some.mp h₁
  obtain ⟨t₂, _, rfl⟩ := addRuleSet_eq_some.mp h₂
  rw [List.filter_append, filter_map_mk (· != src), bne_self_eq_false, List.filter_filter]
  rw [if_neg Bool.false_ne_true, List.append_nil]
  exact List.filter_congr fun a _ => Bool.and_self _

/-- **Deleted rule sets never match again.** After an applied `deleteRuleSet src` no request is served by a rule of
that rule set -/
theorem c06_deleted_never_match (s s' : Repo) (src : String) (hinv : RepoInv s)
    (h : s.apply (.del src) = some s') (hsrc : src ≠ "config") (hasDefault : Bool) (q : ReqView) (rid : String) :
    (s'.serve hasDefault q).rule ≠ some (src, rid) := by
  obtain ⟨-, hgone⟩ := inv_deleteRuleSet hinv h
  unfold Repo.serve
  cases hf : s'.findRule hasDefault q with
  | none => nofun
  | default => exact fun e => hsrc (Prod.mk.inj (Option.some.inj e)).1.symm  -- the default rule belongs to "config"
  | rule v ps =>
    -- the value found stands in a node of the index, where no entry of `src` is left
    obtain ⟨n, hn, hv⟩ := lookup_value_mem (findRule_eq_rule.mp hf)
    exact fun e => hgone n hn v hv (Prod.mk.inj (Option.some.inj e)).1

/-- **Deleting a rule set always takes effect.** After any history, `deleteRuleSet` is applied (never rejected),
provided that two route expressions of one rule id that denote the same tree node are written identically — the only
way to violate this is the redundant backslash alias `/\\c` ≡ `/\c`. -/
theorem c06_delete_succeeds (ops : List RepoOp) (src : String)
    (hna : NoAlias (targets ((Repo.run ops).known.filter (·.src == src)))) :
    ∃ s', (Repo.run ops).apply (.del src) = some s' := by
  obtain ⟨t', ht'⟩ := removeRules_succeeds src _ (c06_inv_run ops) hna
  exact ⟨_, (Repo.apply_del ..).trans (deleteRuleSet_eq_some.mpr ⟨t', ht', rfl⟩)⟩

/-- **A deleted rule set never matches again.** After any history followed by the deletion of a rule set (which is
applied, `c06_delete_succeeds`), no request is served by a rule of that rule set -/
theorem c06_delete_effective (ops : List RepoOp) (src : String) (hsrc : src ≠ "config")
    (hna : NoAlias (targets ((Repo.run ops).known.filter (·.src == src))))
    (hasDefault : Bool) (q : ReqView) (rid : String) :
    ((Repo.run (ops ++ [.del src])).serve hasDefault q).rule ≠ some (src, rid) := by
  obtain ⟨s', hs'⟩ := c06_delete_succeeds ops src hna
  have hrun : Repo.run (ops ++ [.del src]) = s' := by rw [run_concat, Repo.step, hs']; rfl
  rw [hrun]
  exact c06_deleted_never_match _ s' src (c06_inv_run ops) hs' hsrc hasDefault q rid

/-- an update is rejected only because of its *new* rules (conflicting or invalid expressions), never because the
old version could not be removed -/
theorem c06_update_removal_succeeds (ops : List RepoOp) (src : String)
    (hna : NoAlias (targets ((Repo.run ops).known.filter (·.src == src)))) :
    ∃ t', removeRules (Repo.run ops).index [] ((Repo.run ops).known.filter (·.src == src)) = some t' :=
  removeRules_succeeds src _ (c06_inv_run ops) hna

example : NoAlias [("r1", "/a/:x"), ("r1", "/a/:x"), ("r1", "/b"), ("r2", "/a/:x")] := by
  unfold NoAlias; decide +kernel

/-- **Acceptance does not depend on the history** (creation of a rule set): after any history the new rule set is
accepted iff loading the current rule sets followed by the new one into an empty instance succeeds — stale state of
earlier versions can neither block a valid rule set nor admit an invalid one. -/
theorem c06_add_accept_iff_fresh (ops : List RepoOp) (src : String) (rules : List RuleCfg) :
    ((Repo.run ops).apply (.add src rules)).isSome =
      (addRules [] ((Repo.run ops).known ++ rules.map (Rule.mk src))).isSome := by
  rw [Repo.apply_add, addRuleSet_isSome]
  exact add_accept_iff_fresh_of_inv _ (c06_inv_run ops) src rules

/-- **Acceptance of an update does not depend on the history either**: the new version is accepted iff the rule sets of the OTHER sources
followed by the new version load into an empty instance (the version being replaced plays no part; `NoAlias` as for
deletion). -/
theorem c06_update_accept_iff_fresh (ops : List RepoOp) (src : String) (rules : List RuleCfg)
    (hna : NoAlias (targets ((Repo.run ops).known.filter (·.src == src)))) :
    ((Repo.run ops).apply (.upd src rules)).isSome =
      (addRules [] ((Repo.run ops).known.filter (·.src != src) ++ rules.map (Rule.mk src))).isSome := by
  obtain ⟨t₁, ht₁⟩ := removeRules_succeeds src _ (c06_inv_run ops) hna
  have h₁ := deleteRuleSet_eq_some.mpr ⟨t₁, ht₁, rfl⟩
  rw [Repo.apply_upd, updateRuleSet_eq, h₁, Option.bind_some, addRuleSet_isSome]
  exact add_accept_iff_fresh_of_inv _ (inv_deleteRuleSet (c06_inv_run ops) h₁).1 src rules

/-- what a source's rule set should be after a history, told from the operations alone: an accepted creation
appends, an accepted update replaces, an accepted deletion empties, a rejected change and changes of other sources
leave it as it is -/
def trackStep (src : String) (st : Repo × List RuleCfg) (op : RepoOp) : Repo × List RuleCfg :=
  let cur :=
    if (st.1.apply op).isSome then
      match op with
      | .add x rs => if x = src then st.2 ++ rs else st.2
      | .upd x rs => if x = src then rs else st.2
      | .del x => if x = src then [] else st.2
    else st.2
  (st.1.step op, cur)

def currentRules (src : String) (ops : List RepoOp) : List RuleCfg :=
  (ops.foldl (trackStep src) (Repo.empty, [])).2

theorem track_fst (src : String) (ops : List RepoOp) (st : Repo × List RuleCfg) :
    (ops.foldl (trackStep src) st).1 = ops.foldl Repo.step st.1 := by
  induction ops generalizing st with
  | nil => rfl
  | cons op rest ih => simp only [List.foldl_cons]; rw [ih]; rfl

theorem track_inv (src : String) (ops : List RepoOp) (st : Repo × List RuleCfg)
    (h : st.1.known.filter (·.src == src) = st.2.map (Rule.mk src)) :
    (ops.foldl (trackStep src) st).1.known.filter (·.src == src) =
      (ops.foldl (trackStep src) st).2.map (Rule.mk src) := by
  induction ops generalizing st with
  | nil => exact h
  | cons op rest ih =>
    refine ih _ ?_
    simp only [trackStep, Repo.step]
    cases ha : st.1.apply op with
    | none => exact h
    | some s' =>
      simp only [Option.isSome_some, if_true, Option.getD_some]
      cases op with
      | add x rs =>
        by_cases hx : x = src <;>
          simp only [known_addRuleSet ha, h, hx, if_true, if_false, List.map_append, List.append_nil]
      | upd x rs =>
        obtain ⟨s₁, h₁, h₂⟩ := updateRuleSet_eq_some.mp ha
        by_cases hx : x = src <;>
          simp only [known_addRuleSet h₂, known_deleteRuleSet h₁, h, hx, if_true, if_false, List.nil_append,
            List.append_nil]
      | del x =>
        by_cases hx : x = src <;> simp only [known_deleteRuleSet ha, h, hx, if_true, if_false, List.map_nil]

/-- **The rule set in force is the one the history says**: after any history the rules of a source known to the
repository are, in order, the accepted creations appended to / replaced by the last accepted update / emptied by an
accepted deletion — the order of rules inside a rule set is the order of its current version. -/
theorem c06_known_is_current (ops : List RepoOp) (src : String) :
    (Repo.run ops).known.filter (·.src == src) = (currentRules src ops).map (Rule.mk src) := by
  have := track_inv src ops (Repo.empty, []) rfl
  rw [track_fst] at this
  exact this

end Heimdall.Props.C06
