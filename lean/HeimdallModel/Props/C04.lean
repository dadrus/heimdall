import HeimdallModel.Lemmas.Authn
import HeimdallModel.Lemmas.AsciiChars
import HeimdallModel.Gen.AuthnSites
/-!
# C04 — authenticators fall back only on missing credentials or explicit opt-in

*Authenticators are tried in the configured order and the subject is the one produced by the first that succeeds; a
later authenticator is consulted only if every earlier one either found no usable credentials of its kind in the
request or explicitly allows fallback on error. If an authenticator found credentials and rejected them and does not
allow fallback, authentication fails even when a later authenticator such as `anonymous` would have succeeded.*

`Model/Authn.lean` says what the code does (error chains, extractors, the ladders of the six authenticators, the loop
of the composite); `Spec/Authn.lean` says what the property demands in terms of *credentials* (`usable`, `passesOn`,
`authenticate`, `judge`). The theorems hold for chains of any length over all six authenticator types, all source
lists, all fallback settings (definition and rule-level override), all requests and all worlds (what lies outside
heimdall: which strings are JWTs, what signature / assertion / introspection / identity checks say).

Hypotheses, all decidable, all with a witness below:
* `w.wf` — the verdicts of the world name places of the source reached after a credential was found, and the run-time
  errors of other packages handed to `CausedBy` there contain no argument error (extracted fact behind it:
  `Gen.argumentMentionsElsewhere = 0`);
* `chain.all Authn.wf` — no authenticator has an empty list of sources (the Go code panics on those).
-/
namespace Heimdall.Props.C04
open Heimdall.Authn Heimdall.Authn.Spec

/-- a typical chain: JWT, then Basic, then anonymous -/
def wChain : List Authn :=
  [ { id := "jwt", typ := .jwt defaultSources },
    { id := "basic", typ := .basic "user" "secret" },
    { id := "anon", typ := .anonymous "" } ]

/-- the same chain with fallback allowed for the JWT authenticator by the rule -/
def wChainOptIn : List Authn :=
  [ { id := "jwt", typ := .jwt defaultSources, override := some true },
    { id := "basic", typ := .basic "user" "secret" },
    { id := "anon", typ := .anonymous "" } ]

/-- `head.body.sign` is a JWT (ES256) with a bad signature, `dXNlcjpwdw==` is `user:pw` -/
def wWorld : World :=
  { basic := [("dXNlcjpwdw==", ["user", "pw"]), ("dXNlcjpzZWNyZXQ=", ["user", "secret"])],
    headerAlg := [("head.body.sign", .ES256)],
    jwt := [(("jwt", "head.body.sign"), .fail .signature .foreign)] }

def wReqBadJwt : Req := { headers := [("authorization", "Bearer head.body.sign")] }
def wReqOpaque : Req := { headers := [("Authorization", "Bearer opaque")] }
def wReqNone : Req := {}
def wReqWrongPassword : Req := { headers := [("Authorization", "Basic dXNlcjpwdw==")] }
def wReqGoodPassword : Req := { headers := [("Authorization", "Basic dXNlcjpzZWNyZXQ=")] }

example : wWorld.wf = true ∧ wChain.all Authn.wf = true ∧ wChainOptIn.all Authn.wf = true := by decide +kernel

/-! What the witness requests carry at the sources the witness chains read. The examples rewrite with these
(`execute_eq`, `usable_eq` state `Execute` and `usable` on what `credential` finds) and evaluate the ladder, the
world's verdict and the loop. -/

theorem wReqBadJwt_carries : credential defaultSources wReqBadJwt = some "head.body.sign" ∧
    credential [basicSource] wReqBadJwt = none := by decide +kernel

theorem wReqOpaque_carries : credential defaultSources wReqOpaque = some "opaque" ∧
    credential [basicSource] wReqOpaque = none := by decide +kernel

theorem wReqNone_carries : credential defaultSources wReqNone = none ∧
    credential [basicSource] wReqNone = none := by decide +kernel

theorem wReqWrongPassword_carries : credential defaultSources wReqWrongPassword = none ∧
    credential [basicSource] wReqWrongPassword = some "dXNlcjpwdw==" := by decide +kernel

/-- The source of today, file by file: `Execute` of each authenticator constructs exactly the error values of the
model, in the model's order (missing credentials: the extractor's error attached to an authentication error; JWT
parse failure: authentication + argument error; …); whatever the rest of each authenticator file constructs — any
number of expressions, in any order — writes no argument error; every error the four extractors construct is
exactly the argument error; the composite extractor reports nothing but the collected errors (and argument errors). -/
theorem c04_gen_sites :
    Gen.anonymous.authenticatorOk [] = true ∧ Gen.unauthorized.authenticatorOk Facts.unauthorizedEntry = true ∧
    Gen.basic.authenticatorOk Facts.basicEntry = true ∧ Gen.jwt.authenticatorOk Facts.jwtEntry = true ∧
    Gen.introspection.authenticatorOk Facts.introspectionEntry = true ∧
    Gen.generic.authenticatorOk Facts.genericEntry = true ∧
    Gen.headerExtractor.extractorOk = true ∧ Gen.queryExtractor.extractorOk = true ∧
    Gen.cookieExtractor.extractorOk = true ∧ Gen.bodyExtractor.extractorOk = true ∧
    Gen.compositeExtractor.compositeExtractorOk = true := by decide +kernel

/-- a file like today's introspection authenticator (the witnesses below do not depend on the generated facts) -/
def wFile : FileFacts :=
  { entry := Facts.introspectionEntry,
    others := [[.k .configuration], [.k .authentication, .dyn], [.k .authentication, .dyn], [.k .communication]],
    loose := [] }

/-- the obligations are not vacuous: they hold for such a file, in whatever order its helpers stand; an argument
error written into a verification helper breaks them, and so does an `Execute` that no longer attaches the
extractor's error -/
example : wFile.authenticatorOk Facts.introspectionEntry = true ∧
    ({ wFile with others := wFile.others.reverse } : FileFacts).authenticatorOk Facts.introspectionEntry = true ∧
    ({ wFile with others := [.k .authentication, .k .argument, .dyn] :: wFile.others } :
      FileFacts).authenticatorOk Facts.introspectionEntry = false ∧
    ({ wFile with entry := [.k .authentication] :: wFile.entry.drop 1 } :
      FileFacts).authenticatorOk Facts.introspectionEntry = false := by decide +kernel

/-- an additional guard in `Execute` that writes no argument error (e.g. a length limit answering with an
authentication error) does not disturb the obligation; a guard with a run-time cause in front of the extraction, or
one that writes an argument error, does -/
example : ({ wFile with entry := wFile.entry ++ [[.k .authentication]] } :
      FileFacts).authenticatorOk Facts.introspectionEntry = true ∧
    ({ wFile with entry := [.k .internal, .dyn] :: wFile.entry } :
      FileFacts).authenticatorOk Facts.introspectionEntry = false ∧
    ({ wFile with entry := wFile.entry ++ [[.k .authentication, .k .argument]] } :
      FileFacts).authenticatorOk Facts.introspectionEntry = false := by decide +kernel

/-- the composite extractor: today's shape passes, also with a guard that fails closed; masking the collected
errors with another sentinel does not -/
example : (⟨[[.dyn]], [], [.dyn]⟩ : FileFacts).compositeExtractorOk = true ∧
    (⟨[[.k .configuration], [.dyn]], [], [.dyn]⟩ : FileFacts).compositeExtractorOk = true ∧
    (⟨[[.k .authentication]], [], []⟩ : FileFacts).compositeExtractorOk = false ∧
    (⟨[[.k .authentication, .dyn]], [], []⟩ : FileFacts).compositeExtractorOk = false ∧
    (⟨[[.dyn]], [], [.k .internal]⟩ : FileFacts).compositeExtractorOk = false := by decide +kernel

/-- the extractors: any number of argument errors, nothing else -/
example : (⟨[[.k .argument], [.k .argument]], [], []⟩ : FileFacts).extractorOk = true ∧
    (⟨[[.k .argument], [.k .authentication]], [], []⟩ : FileFacts).extractorOk = false ∧
    (⟨[], [], []⟩ : FileFacts).extractorOk = false := by decide +kernel

/-- **Every error value that the authenticator files of today's source construct outside `Execute`** (signature,
key, assertion, introspection — fresh or served from the cache —, session, endpoint, response, … failures; however
many there are and wherever they stand) **is no argument error**, whatever argument-free run-time error is attached
to it. -/
theorem c04_source_rejection_sites_are_argument_free (c : Err) (hc : c.is .argument = false) :
    ∀ s ∈ Gen.basic.others ++ Gen.jwt.others ++ Gen.introspection.others ++ Gen.generic.others ++
        Gen.unauthorized.others ++ Gen.anonymous.others,
      (s.build c).is .argument = false := by
  obtain ⟨h0, h1, h2, h3, h4, h5, _⟩ := c04_gen_sites
  intro s hs
  refine argFree_build s (List.all_eq_true.1 ?_ s hs) c hc
  simp only [List.all_append, FileFacts.others_argFree h0, FileFacts.others_argFree h1, FileFacts.others_argFree h2,
    FileFacts.others_argFree h3, FileFacts.others_argFree h4, FileFacts.others_argFree h5, Bool.and_self]

/-- `jwt.ParseSigned` is told to accept exactly the signature algorithms the model knows as supported (as sets): a
token naming one of them is a credential of the `jwt` authenticator, whatever happens to it afterwards. -/
theorem c04_gen_supported_algorithms :
    Gen.supportedAlgorithms.all supportedAlgs.contains = true ∧
    supportedAlgs.all Gen.supportedAlgorithms.contains = true := by decide +kernel

/-- The loop of the composite goes on exactly on `errors.Is(err, ErrArgument) || IsFallbackOnErrorAllowed()`, and no
other file of the packages the authenticators call into mentions `heimdall.ErrArgument`. -/
theorem c04_gen_composite_guard :
    Gen.compositeGuard = compositeGuard ∧ Gen.argumentMentionsElsewhere = 0 := by decide +kernel

/-- `errors.Is(err, sentinel)` holds exactly if the sentinel occurs somewhere in the error value, however deeply
error chains are nested in it ("an argument error anywhere in the chain" is what drives the fallback). -/
theorem c04_is_iff_leaf (e : Err) (k : Kind) : e.is k = true ↔ k ∈ leaves e :=
  is_iff_leaf e k

example : leaves (.chain [.kind .authentication, .chain [.chain [.kind .argument], .foreign]]) =
    [.authentication, .argument] := by decide +kernel

/-- If none of an authenticator's sources (any non-empty list, in any order) carries a value, the error of the
composite extractor matches `ErrArgument` and no other sentinel; otherwise the value is the credential of the
specification. -/
theorem c04_extraction (ss : List Strategy) (r : Req) (hne : ss ≠ []) :
    (∃ v, extract ss r = .ok v ∧ credential ss r = some v) ∨
    (∃ e, extract ss r = .error e ∧ credential ss r = none ∧ ∀ k, e.is k = (k == .argument)) := by
  rw [extract_eq]
  cases credential ss r with
  | some v => exact .inl ⟨v, rfl, rfl⟩
  | none => exact .inr ⟨_, rfl, rfl, fun k => by simp [List.any_replicate, hne]⟩

example : extract defaultSources wReqNone = .error (.chain [argErr, argErr, argErr]) := by
  rw [extract_eq, wReqNone_carries.1]; rfl
example : extract defaultSources wReqBadJwt = .ok "head.body.sign" := by rw [extract_eq, wReqBadJwt_carries.1]

/-- No error value of the model's vocabulary constructed after a credential was found (bad signature, unknown key, failed assertion, inactive
token, wrong password, undecodable Basic value, unreachable endpoint, unusable response, missing subject, …) is an
argument error, whatever argument-free run-time error is attached to it. -/
theorem c04_rejection_is_never_an_argument_error (c : Err) (hc : c.is .argument = false) :
    (∀ s : JwtSite, s.verifies = true → (s.shape.build c).is .argument = false) ∧
    (∀ s : IntroSite, s.verifies = true → (s.shape.build c).is .argument = false) ∧
    (∀ s : GenSite, s.verifies = true → (s.shape.build c).is .argument = false) ∧
    (∀ s : BasicSite, s ≠ .noHeader → (s.shape.build c).is .argument = false) ∧
    (unauthorizedShape.build c).is .argument = false :=
  ⟨fun s hs => argFree_build _ (jwtSite_argFree s hs) c hc, fun s hs => argFree_build _ (introSite_argFree s) c hc,
   fun s hs => argFree_build _ (genSite_argFree s) c hc,
   fun s hs => argFree_build _ (by cases s <;> first | rfl | exact absurd rfl hs) c hc,
   argFree_build _ rfl c hc⟩

example : (Err.chain [.kind .communication, .foreign]).is .argument = false := by decide +kernel

/-- **An authenticator's error is an argument error exactly if it found no usable credentials of its kind** — for
every authenticator type, source list, request and world. -/
theorem c04_argument_error_iff_no_usable_credentials (w : World) (a : Authn) (r : Req) (e : Err)
    (hw : w.wf = true) (ha : a.wf = true) (h : a.execute w r = .error e) :
    e.is .argument = true ↔ usable w a r = false := by
  rw [execute_error_argument w a r e hw ha h]
  cases usable w a r <;> simp

example : ∃ e, wChain[0].execute wWorld wReqBadJwt = .error e ∧ e.is .argument = false ∧
    usable wWorld wChain[0] wReqBadJwt = true :=
  ⟨.chain [.kind .authentication, .foreign], by
    simp only [wChain, List.getElem_cons_zero, execute_eq, usable_eq, Typ.found, wReqBadJwt_carries]; decide +kernel⟩

example : ∃ e, wChain[0].execute wWorld wReqOpaque = .error e ∧ e.is .argument = true ∧
    usable wWorld wChain[0] wReqOpaque = false :=
  ⟨.chain [.kind .authentication, .kind .argument, .foreign], by
    simp only [wChain, List.getElem_cons_zero, execute_eq, usable_eq, Typ.found, wReqOpaque_carries]; decide +kernel⟩

/-- An authenticator succeeds only on usable credentials of its kind. -/
theorem c04_success_needs_usable_credentials (w : World) (a : Authn) (r : Req) (s : String)
    (ha : a.wf = true) (h : a.execute w r = .ok s) : usable w a r = true := by
  rw [execute_eq] at h
  rw [usable_eq, check_ok_accepts w a _ s h]

/-- **Fallback on error is an opt-in**: without `allow_fallback_on_error` in the mechanism definition and in the
rule's step there is none; a setting of the rule's step overrides the definition in both directions; otherwise the
definition decides. -/
theorem c04_fallback_is_opt_in (a : Authn) :
    (a.allowFallback = none → a.override = none → a.fallback = false) ∧
    (∀ b, a.override = some b → a.fallback = true → b = true) ∧
    (∀ b, a.override = none → a.allowFallback = some b → a.fallback = true → b = true) ∧
    (a.fallback = true → a.override = some true ∨ (a.override = none ∧ a.allowFallback = some true)) := by
  -- whatever the type, fallback is allowed at most where the step's setting, else the definition's, says so
  have key : a.fallback = true → a.override.getD (a.allowFallback.getD false) = true := by
    unfold Authn.fallback; split <;> simp
  refine ⟨fun h1 h2 => ?_, fun b hb hf => ?_, fun b ho hb hf => ?_, fun hf => ?_⟩
  · cases hf : a.fallback
    · rfl
    · simpa [h1, h2] using key hf
  · simpa [hb] using key hf
  · simpa [ho, hb] using key hf
  · have := key hf
    cases ho : a.override with
    | none => cases ha : a.allowFallback <;> simp_all
    | some b => simp_all

example : ({ id := "a", typ := .jwt defaultSources } : Authn).fallback = false ∧
    ({ id := "a", typ := .jwt defaultSources, allowFallback := some true } : Authn).fallback = true ∧
    ({ id := "a", typ := .jwt defaultSources, allowFallback := some true, override := some false } : Authn).fallback
      = false ∧
    ({ id := "a", typ := .unauthorized, allowFallback := some true, override := some true } : Authn).fallback
      = false := by decide +kernel

/-- **What a JWT is**: the `jwt` authenticator found usable credentials exactly if the value at the first of its
sources carrying one is a *canonically spelled* JWS compact serialisation (three parts separated by dots, each the
one and only base64url encoding of its octets: URL-safe alphabet, no padding, no line breaks, unused bits zero) whose
header names a supported signature algorithm — whoever signed it, whatever it claims. Anything else (opaque tokens,
`alg: none`, unknown algorithms, a respelling of a valid JWT with a line break or with unused bits set) is no
credential of its kind and is passed on like an opaque token. -/
theorem c04_what_a_jwt_is (w : World) (a : Authn) (r : Req) (ss : List Strategy) (h : a.typ = .jwt ss) :
    usable w a r = true ↔
      ∃ tok, credential ss r = some tok ∧ isCompactJWS tok = true ∧
        ∃ p, w.headerAlg.find? (fun p => p.1 == tok) = some p ∧ p.2 ∈ supportedAlgs := by
  rw [usable_eq, h]
  simp only [Typ.found]
  cases credential ss r with
  | none => simp [Typ.accepts]
  | some tok =>
    simp only [Typ.accepts, World.parsesJWT, Option.some.injEq, exists_eq_left', Bool.and_eq_true]
    cases w.headerAlg.find? (fun p => p.1 == tok) <;> simp

example : isCompactJWS "head.body.sign" = true ∧ isCompactJWS "opaque" = false ∧ isCompactJWS "a.b" = false ∧
    isCompactJWS "a.b.c.d" = false ∧ isCompactJWS "he+d.body.sign" = false ∧ isCompactJWS "h.body.sign" = false ∧
    isCompactJWS "eyJhbGciOiJub25lIn0.e30." = true := by
  repeat rw [isCompactJWS_ofList]
  decide +kernel

/-- other spellings of the same octets are no JWTs: unused bits of the last character of a segment set (`sg` and
`sh` decode to the same octet), line breaks inside a segment -/
example : isCompactJWS "head.body.sg" = true ∧ isCompactJWS "head.body.sh" = false ∧
    isCompactJWS "head.body.sigA" = true ∧ isCompactJWS "head.body.sig" = true ∧ isCompactJWS "head.body.sih" = false ∧
    isCompactJWS "head.bo\r\ndy.sign" = false ∧ isCompactJWS "head.body.sign\n" = false := by
  repeat rw [isCompactJWS_ofList]
  decide +kernel

/-- `alg: none`: of JWS form, but no supported algorithm — no credential of the `jwt` kind -/
example : wWorld.parsesJWT "eyJhbGciOiJub25lIn0.e30." = false ∧ wWorld.parsesJWT "head.body.sign" = true := by
  simp only [World.parsesJWT]
  repeat rw [isCompactJWS_ofList]
  decide +kernel

/-- `anonymous` never fails; `unauthorized` always fails with an authentication error that is no argument error;
neither ever allows fallback, whatever the configuration says. -/
theorem c04_builtin_authenticators (w : World) (r : Req) (a : Authn) :
    (∀ s, a.typ = .anonymous s → (∃ sub, a.execute w r = .ok sub) ∧ a.fallback = false) ∧
    (a.typ = .unauthorized →
      (∃ e, a.execute w r = .error e ∧ e.is .authentication = true ∧ e.is .argument = false) ∧
      a.fallback = false) := by
  obtain ⟨id, typ, af, ov, key⟩ := a
  constructor
  · intro s h; subst h; exact ⟨⟨_, rfl⟩, rfl⟩
  · intro h; subst h
    exact ⟨⟨_, rfl, by simp [unauthorizedShape, build_is], by simp [unauthorizedShape, build_is]⟩, rfl⟩

/-- **The loop of the composite is the reference semantics of the specification**: the answer is that of the first
authenticator that succeeds or finally rejects, the failure of the last one if none does, and exactly the
authenticators up to that one are consulted. -/
theorem c04_model_meets_spec (w : World) (r : Req) (chain : List Authn) (hw : w.wf = true)
    (hc : chain.all Authn.wf = true) :
    run w r chain = authenticate w r chain ∧ runConsulted w r chain = Spec.consulted w r chain := by
  have hg := step_goesOn_of_all w r chain hw hc
  constructor
  · simp only [run, composite, compositeFrom_eq, authenticate, List.find?_map, List.getLast?_map]
    rw [find?_congr_mem chain (q := decisive w r) fun a ha => by simp [decisive, hg a ha]]
    cases chain.find? (decisive w r) <;> cases chain.getLast? <;> simp [step_result]
  · simp only [runConsulted, consulted_eq, Spec.consulted, List.length_map]
    rw [takeWhile_map_congr_mem chain hg]

/-- **A later authenticator is consulted only if — and, there being one, if — every earlier one failed and either
found no usable credentials of its kind or allows fallback on error.** The authenticators consulted are always the
first `runConsulted` ones, in the configured order. -/
theorem c04_consulted_iff (w : World) (r : Req) (chain : List Authn) (k : Nat) (hw : w.wf = true)
    (hc : chain.all Authn.wf = true) :
    k < runConsulted w r chain ↔
      k < chain.length ∧ ∀ j, j < k → ∀ a, chain[j]? = some a →
        fails w r a = true ∧ (usable w a r = false ∨ a.fallback = true) := by
  have hg := step_goesOn_of_all w r chain hw hc
  simp only [runConsulted, lt_consulted_iff, List.length_map, List.getElem?_map, Option.map_eq_some_iff]
  refine and_congr_right fun _ => forall_congr' fun j => forall_congr' fun _ => ⟨fun h a ha => ?_, ?_⟩
  · simpa [passesOn, hg a (List.mem_of_getElem? ha)] using h _ ⟨a, ha, rfl⟩
  · rintro h _ ⟨a, ha, rfl⟩
    simpa [passesOn, hg a (List.mem_of_getElem? ha)] using h a ha

example : runConsulted wWorld wReqNone wChain = 3 ∧ runConsulted wWorld wReqBadJwt wChain = 1 ∧
    runConsulted wWorld wReqBadJwt wChainOptIn = 3 ∧ runConsulted wWorld wReqWrongPassword wChain = 2 := by
  simp only [runConsulted, wChain, wChainOptIn, List.map, step_eq, Typ.found, wReqNone_carries,
    wReqBadJwt_carries, wReqWrongPassword_carries]
  decide +kernel

/-- **The subject is the one produced by the first authenticator that succeeds**, and it is produced exactly if
every authenticator before that one failed and passed the request on. -/
theorem c04_first_success (w : World) (r : Req) (chain : List Authn) (s : String) (hw : w.wf = true)
    (hc : chain.all Authn.wf = true) :
    run w r chain = .subject s ↔
      ∃ pre a post, chain = pre ++ a :: post ∧ a.execute w r = .ok s ∧
        ∀ b ∈ pre, fails w r b = true ∧ (usable w b r = false ∨ b.fallback = true) := by
  constructor
  · intro h
    rw [(c04_model_meets_spec w r chain hw hc).1, authenticate] at h
    have hres : ∀ a, resultOf w r a = .subject s → a.execute w r = .ok s := by
      intro a ha
      unfold resultOf at ha
      split at ha <;> simp_all
    cases hf : chain.find? (decisive w r) with
    | some a =>
      obtain ⟨pre, post, hsplit, hpre⟩ := (List.find?_eq_some_iff_append.1 hf).2
      simp only [hf] at h
      exact ⟨pre, a, post, hsplit, hres a h, fun b hb => by simpa [decisive, passesOn] using hpre b hb⟩
    | none =>
      cases hl : chain.getLast? with
      | none => simp [hf, hl] at h
      | some a =>
        simp only [hf, hl] at h
        -- the last authenticator succeeds, so it is decisive: `find?` would have found it
        have := List.find?_eq_none.1 hf a (List.mem_of_getLast? hl)
        simp [decisive, passesOn, fails, hres a h] at this
  · rintro ⟨pre, a, post, rfl, hx, hpre⟩
    rw [(run_decisive w r pre post a hw hc hpre (by simp [passesOn, fails, hx])).1]
    simp [resultOf, hx]

example : run wWorld wReqNone wChain = .subject "anonymous" ∧
    run wWorld wReqGoodPassword wChain = .subject "user" ∧
    run wWorld wReqOpaque wChain = .subject "anonymous" := by
  simp only [run, wChain, List.map, step_eq, Typ.found, wReqNone_carries, wReqOpaque_carries]
  decide +kernel

/-- **If an authenticator found usable credentials, rejected them and does not allow fallback, authentication fails
with its error, whatever authenticators follow** (e.g. `anonymous`), and none of them is consulted. -/
theorem c04_rejected_is_final (w : World) (r : Req) (pre post : List Authn) (a : Authn) (e : Err)
    (hw : w.wf = true) (hc : (pre ++ a :: post).all Authn.wf = true)
    (hpre : ∀ b ∈ pre, fails w r b = true ∧ (usable w b r = false ∨ b.fallback = true))
    (hx : a.execute w r = .error e) (hu : usable w a r = true) (hf : a.fallback = false) :
    run w r (pre ++ a :: post) = .failure e ∧ runConsulted w r (pre ++ a :: post) = pre.length + 1 :=
  (rejected_is_final w r pre post a e hw hc hpre hx hu hf).2

example : run wWorld wReqBadJwt wChain = .failure (.chain [.kind .authentication, .foreign]) ∧
    run wWorld wReqBadJwt [wChain[2]] = .subject "anonymous" ∧
    run wWorld wReqWrongPassword wChain = .failure (.chain [.kind .authentication]) := by
  simp only [run, wChain, List.getElem_cons_zero, List.getElem_cons_succ, List.map, step_eq, Typ.found,
    wReqBadJwt_carries, wReqWrongPassword_carries]
  decide +kernel

/-- with the opt-in, the same rejected JWT lets the request fall through to `anonymous` -/
example : run wWorld wReqBadJwt wChainOptIn = .subject "anonymous" := by
  simp only [run, wChainOptIn, List.map, step_eq, Typ.found, wReqBadJwt_carries]
  decide +kernel

/-! ### found, verified, and rejected while the claims are decoded

A JWT signed by its issuer whose `exp` / `nbf` / `iat` lies outside of the years 1..9999 (an expiry in microseconds,
`1e300`), or an introspection response carrying such a date or an `aud` / `scope` of a wrong JSON type: the claim types
of `internal/rules/mechanisms/oauth2` (`NumericDate`, `Audience`, `Scopes`) report a *configuration* error, which the
`jwt` authenticator attaches to "failed to verify JWT signature" (`JwtSite.signature`) and the introspection
authenticator to "failed to unmarshal received introspection response" (`IntroSite.unmarshal`). -/

/-- the world of such credentials -/
def wWorldClaims : World :=
  { headerAlg := [("head.body.sign", .ES256)],
    jwt := [(("jwt", "head.body.sign"), .fail .signature (.chain [.kind .configuration]))],
    intro := [(("intro", "opaque"), .fail .unmarshal (.chain [.kind .configuration, .foreign]))] }

def wChainIntro : List Authn :=
  [ { id := "intro", typ := .introspection defaultSources }, { id := "anon", typ := .anonymous "" } ]

/-- they are within the hypotheses of the theorems, so `c04_rejected_is_final` applies: the rejection is no argument
error, it is final, `anonymous` is not consulted -/
example : wWorldClaims.wf = true ∧
    run wWorldClaims wReqBadJwt [wChain[0], wChain[2]] =
      .failure (.chain [.kind .authentication, .chain [.kind .configuration]]) ∧
    runConsulted wWorldClaims wReqBadJwt [wChain[0], wChain[2]] = 1 ∧
    run wWorldClaims wReqOpaque wChainIntro =
      .failure (.chain [.kind .internal, .chain [.kind .configuration, .foreign]]) ∧
    runConsulted wWorldClaims wReqOpaque wChainIntro = 1 := by
  simp only [run, runConsulted, wChain, wChainIntro, List.getElem_cons_zero, List.getElem_cons_succ, List.map,
    step_eq, Typ.found, wReqBadJwt_carries, wReqOpaque_carries]
  decide +kernel

/-- The hypothesis `World.wf` is what carries this: were the claim decoder to report an *argument* error for a date
out of range (`errors.Is` walks the whole chain), the world would be outside the hypotheses and the very same loop
would hand the rejected token over to `anonymous` — `Gen.argumentMentionsElsewhere = 0` excludes it for today's
source, the correspondence run for the running code. -/
def wWorldArgumentCause : World :=
  { wWorldClaims with jwt := [(("jwt", "head.body.sign"), .fail .signature (.chain [.kind .argument]))] }

example : wWorldArgumentCause.wf = false ∧
    run wWorldArgumentCause wReqBadJwt [wChain[0], wChain[2]] = .subject "anonymous" := by
  simp only [run, wChain, List.getElem_cons_zero, List.getElem_cons_succ, List.map, step_eq, Typ.found,
    wReqBadJwt_carries]
  decide +kernel

/-! ### found — and no request to the endpoint can be created for it

The URL of the identity / JWKS / introspection / metadata endpoint may be a template over the credential
(`…/sessions/{{ .AuthenticationData }}`) resp. over the issuer the token names (`…/realms/{{ .TokenIssuer }}/jwks`).
A session cookie `%zz`, an issuer `tenant-a%` or one containing a control character is *found* (and, for a token,
parsed), but `http.NewRequestWithContext` refuses the rendered URL: `endpoint.CreateRequest` reports an internal error
("failed to create a request instance"), which the authenticators attach to "failed creating request"
(`GenSite.requestFailed`, `JwtSite.requestFailed`, `IntroSite.requestFailed`; behind a metadata endpoint
`metadataFailed`). These sites are reached after the credential was found (`verifies`), so all theorems above cover
them. -/

/-- the world of such credentials -/
def wWorldUnmakable : World :=
  { headerAlg := [("head.body.sign", .ES256)],
    jwt := [(("jwt", "head.body.sign"), .fail .requestFailed (.chain [.kind .internal, .foreign]))],
    intro := [(("intro", "opaque"), .fail .metadataFailed (.chain [.kind .internal, .chain [.kind .internal, .foreign]]))],
    gen := [(("gen", "%zz"), .fail .requestFailed (.chain [.kind .internal, .foreign]))] }

def wChainGen : List Authn :=
  [ { id := "gen", typ := .generic [.cookie "session"] }, { id := "anon", typ := .anonymous "" } ]

def wReqBadSession : Req := { cookies := [("session", "%zz")] }

/-- the cookie is a credential of the `generic` kind, the failure is no argument error, it is final and `anonymous`
is not consulted; likewise for the token at the `jwt` and the `oauth2_introspection` authenticator -/
example : wWorldUnmakable.wf = true ∧ usable wWorldUnmakable wChainGen[0] wReqBadSession = true ∧
    run wWorldUnmakable wReqBadSession wChainGen =
      .failure (.chain [.kind .internal, .chain [.kind .internal, .foreign]]) ∧
    runConsulted wWorldUnmakable wReqBadSession wChainGen = 1 ∧
    runConsulted wWorldUnmakable wReqBadJwt [wChain[0], wChain[2]] = 1 ∧
    runConsulted wWorldUnmakable wReqOpaque wChainIntro = 1 ∧
    run wWorldUnmakable wReqNone wChainGen = .subject "anonymous" := by
  simp only [run, runConsulted, wChain, wChainIntro, List.getElem_cons_zero, List.getElem_cons_succ, List.map,
    step_eq, Typ.found, wReqBadJwt_carries, wReqOpaque_carries]
  decide +kernel

/-- the judgement rejects a run that hands such a request over to `anonymous`, whatever sentinels the error of the
authenticator matches, and accepts the final rejection -/
example : judge wWorldUnmakable wReqBadSession wChainGen
    [("gen", .err [.argument, .internal]), ("anon", .ok "anonymous")] (some (.ok "anonymous")) = false ∧
    judge wWorldUnmakable wReqBadJwt [wChain[0], wChain[2]]
    [("jwt", .err [.argument, .internal]), ("anon", .ok "anonymous")] (some (.ok "anonymous")) = false ∧
    judge wWorldUnmakable wReqBadSession wChainGen [("gen", .err [.internal])] (some (.err [.internal])) = true := by
  simp only [judge, wChain, List.getElem_cons_zero, execute_eq, usable_eq, Typ.found, wReqBadJwt_carries]
  decide +kernel

/-- were the endpoint helper to type "the rendered URL is unusable" as an *argument* error (a client error, HTTP 400
rather than 500 — which looks reasonable in that package), the world would be outside `World.wf` and the unchanged
loop of the composite would hand the request with the found, unverifiable credential over to `anonymous` -/
def wWorldUnmakableAsArgument : World :=
  { wWorldUnmakable with gen := [(("gen", "%zz"), .fail .requestFailed (.chain [.kind .argument, .foreign]))] }

example : wWorldUnmakableAsArgument.wf = false ∧
    run wWorldUnmakableAsArgument wReqBadSession wChainGen = .subject "anonymous" := by decide +kernel

/-- The observable answer of the model (who was consulted, what each returned, what the composite returned) passes
the judgement by which the answers of the real code are judged. -/
theorem c04_model_answer_accepted (w : World) (r : Req) (chain : List Authn) (hw : w.wf = true)
    (hc : chain.all Authn.wf = true) :
    judge w r chain (answer w r chain).trace (answer w r chain).final = true := by
  induction chain with
  | nil => rfl
  | cons a as ih =>
    simp only [List.all_cons, Bool.and_eq_true] at hc
    have ih := ih hc.2
    rw [answer_trace_cons, answer_final_cons, step_goesOn w r a hw hc.1]
    cases hx : a.execute w r with
    | ok s => simp [judge, passesOn, fails, hx, obsOf, obsOfResult, resultOf, sameOutcome]
    | error e =>
      cases hp : passesOn w r a with
      | false =>
        have : (usable w a r && !a.fallback) = true := by simpa [passesOn, fails, hx] using hp
        simp [judge, hx, obsOf, obsOfResult, resultOf, sameOutcome, this]
      | true =>
        have : (!usable w a r || a.fallback) = true := by simpa [passesOn, fails, hx] using hp
        cases as with
        | nil => simp [judge, answer, hx, obsOf, obsOfResult, resultOf, sameOutcome]
        | cons b bs =>
          rw [answer_trace_cons] at ih ⊢
          simpa [judge, this, hx, sameOutcome, obsOf] using ih

/-- the judgement is not vacuous: it rejects a run that goes on to `anonymous` after a rejected JWT … -/
example : judge wWorld wReqBadJwt wChain
    [("jwt", .err [.authentication]), ("basic", .err [.argument, .authentication]), ("anon", .ok "anonymous")]
    (some (.ok "anonymous")) = false := by
  simp only [judge, wChain, execute_eq, usable_eq, Typ.found, wReqBadJwt_carries]
  decide +kernel

/-- … likewise after a token whose claims cannot be decoded, whatever the error looks like … -/
example : judge wWorldClaims wReqBadJwt [wChain[0], wChain[2]]
    [("jwt", .err [.argument, .authentication]), ("anon", .ok "anonymous")] (some (.ok "anonymous")) = false ∧
    judge wWorldClaims wReqOpaque wChainIntro
    [("intro", .err [.argument, .internal]), ("anon", .ok "anonymous")] (some (.ok "anonymous")) = false ∧
    judge wWorldClaims wReqBadJwt [wChain[0], wChain[2]]
    [("jwt", .err [.authentication, .configuration])] (some (.err [.authentication, .configuration])) = true := by
  simp only [judge, wChain, wChainIntro, List.getElem_cons_zero, execute_eq, usable_eq, Typ.found,
    wReqBadJwt_carries, wReqOpaque_carries]
  decide +kernel

/-- … and one that stops at the JWT authenticator although no token was sent -/
example : judge wWorld wReqNone wChain [("jwt", .err [.argument, .authentication])]
    (some (.err [.argument, .authentication])) = false := by
  simp only [judge, wChain, execute_eq, usable_eq, Typ.found, wReqNone_carries]
  decide +kernel

/-- **Which decoder reads the body of a request** — for every value of the `Content-Type` header (all its lines
joined by `,`): the JSON decoder exactly if the value contains `json` *anywhere* (so with parameters, with a
structured syntax suffix such as `application/vnd.api+json`, as one of several media types), else the form decoder
exactly if it contains `application/x-www-form-urlencoded`, else the YAML decoder exactly if it contains `yaml`, and
none otherwise. -/
theorem c04_body_decoder_by_media_type (ct : String) :
    (decoderFor ct = some .json ↔ ∃ p s : String, ct = p ++ "json" ++ s) ∧
    (decoderFor ct = some .form ↔
      (¬ ∃ p s : String, ct = p ++ "json" ++ s) ∧ ∃ p s : String, ct = p ++ "application/x-www-form-urlencoded" ++ s) ∧
    (decoderFor ct = some .yaml ↔
      (¬ ∃ p s : String, ct = p ++ "json" ++ s) ∧
      (¬ ∃ p s : String, ct = p ++ "application/x-www-form-urlencoded" ++ s) ∧ ∃ p s : String, ct = p ++ "yaml" ++ s) := by
  simp only [← contains_iff, decoderFor]
  cases contains ct "json" <;> cases contains ct "application/x-www-form-urlencoded" <;>
    cases contains ct "yaml" <;> decide

example : decoderFor "application/vnd.api+json; charset=utf-8" = some .json ∧
    decoderFor "application/problem+json" = some .json ∧ decoderFor "text/plain,application/json" = some .json ∧
    decoderFor "application/x-www-form-urlencoded;charset=UTF-8" = some .form ∧
    decoderFor "application/vnd.oai.openapi+yaml" = some .yaml ∧ decoderFor "application/yaml+json" = some .json ∧
    decoderFor "APPLICATION/JSON" = none ∧ decoderFor "text/plain" = none ∧ decoderFor "" = none := by
  dsimp only [decoderFor, contains]
  simp only [Ascii.toList_lit _ _ rfl]
  decide +kernel

/-- **A credential in a body parameter is a credential that was found, however the media type is spelled**: if the
decoder named by the `Content-Type` of the request reads the body as a map that holds one string under `name`, the
request carries authentication data at the source `body_parameter: name` — that string without surrounding space. If
the `Content-Type` names no decoder, or the decoder fails, the request carries none there. -/
theorem c04_body_credential_is_found (r : Req) (name : String) :
    (∀ f m v s, decoderFor (r.header "Content-Type") = some f → r.payload.readBy f = some m →
      m.find? (fun p => p.1 == name) = some (name, v) → single v = some s →
      present (.body name) r = true ∧ value (.body name) r = trimSpace s ∧
      (Strategy.body name).get r = .ok (trimSpace s)) ∧
    (decoderFor (r.header "Content-Type") = none → present (.body name) r = false) ∧
    (∀ f, decoderFor (r.header "Content-Type") = some f → r.payload.readBy f = none →
      present (.body name) r = false) := by
  refine ⟨fun f m v s hd hp hm hs => ?_, fun hd => ?_, fun f hd hp => ?_⟩
  · have hb : r.bodyParam name = some v := by simp [Req.bodyParam, Req.body, hd, hp, hm]
    have h1 : present (.body name) r = true := by simp [present, hb, hs]
    have h2 : value (.body name) r = trimSpace s := by simp [value, hb, hs]
    exact ⟨h1, h2, by rw [get_eq, h1, h2]; rfl⟩
  · simp [present, Req.bodyParam, Req.body, hd]
  · simp [present, Req.bodyParam, Req.body, hd, hp]

/-- a token in a JSON body announced as `application/vnd.api+json` (a structured syntax suffix, a parameter) -/
def wReqBodyToken : Req :=
  { headers := [("content-type", "application/vnd.api+json; charset=utf-8")],
    payload := { json := some [("data", .other), ("access_token", .str " head.body.sign ")] } }

/-- the first of the default sources that carries a value is the body parameter, the value is the token without
the surrounding space -/
theorem wReqBodyToken_carries :
    wReqBodyToken.header "Content-Type" = "application/vnd.api+json; charset=utf-8" ∧
    defaultSources.find? (present · wReqBodyToken) = some (.body "access_token") ∧
    present (.body "access_token") wReqBodyToken = true ∧
    credential defaultSources wReqBodyToken = some "head.body.sign" := by decide +kernel

example : present (.body "access_token") wReqBodyToken = true ∧
    credential defaultSources wReqBodyToken = some "head.body.sign" ∧
    usable wWorld wChain[0] wReqBodyToken = true ∧
    run wWorld wReqBodyToken [wChain[0], wChain[2]] = .failure (.chain [.kind .authentication, .foreign]) ∧
    runConsulted wWorld wReqBodyToken [wChain[0], wChain[2]] = 1 := by
  refine ⟨wReqBodyToken_carries.2.2.1, wReqBodyToken_carries.2.2.2, ?_⟩
  simp only [run, runConsulted, wChain, List.getElem_cons_zero, List.getElem_cons_succ, List.map, Authn.step,
    execute_eq, usable_eq, Typ.found, wReqBodyToken_carries]
  decide +kernel

/-- **A rejected credential from the body is final**: the authenticator's first source carrying a value is a body
parameter, the media type of the request names JSON *anywhere* in the `Content-Type` value (`p ++ "json" ++ s`: any
parameters, any structured syntax suffix, any further media types), the JSON decoder reads one string under that
name — then the authenticator found credentials of its kind (`jwt`: if the string is a JWT); if it fails on them and
does not allow fallback, authentication fails with its error whatever follows, the error is no argument error and no
later authenticator is consulted. -/
theorem c04_body_credential_rejected_is_final (w : World) (r : Req) (pre post : List Authn) (a : Authn) (e : Err)
    (ss : List Strategy) (name p sfx s : String) (m : List (String × BVal)) (v : BVal)
    (hw : w.wf = true) (hc : (pre ++ a :: post).all Authn.wf = true)
    (hpre : ∀ b ∈ pre, fails w r b = true ∧ (usable w b r = false ∨ b.fallback = true))
    (hct : r.header "Content-Type" = p ++ "json" ++ sfx) (hp : r.payload.json = some m)
    (hm : m.find? (fun q => q.1 == name) = some (name, v)) (hs : single v = some s)
    (hfirst : ss.find? (present · r) = some (.body name))
    (ht : a.typ = .introspection ss ∨ a.typ = .generic ss ∨ (a.typ = .jwt ss ∧ w.parsesJWT (trimSpace s) = true))
    (hx : a.execute w r = .error e) (hf : a.fallback = false) :
    usable w a r = true ∧ e.is .argument = false ∧
    run w r (pre ++ a :: post) = .failure e ∧ runConsulted w r (pre ++ a :: post) = pre.length + 1 := by
  have hd : decoderFor (r.header "Content-Type") = some .json :=
    (c04_body_decoder_by_media_type _).1.2 ⟨p, sfx, hct⟩
  have hval := ((c04_body_credential_is_found r name).1 .json m v s hd hp hm hs).2.1
  have hcred : credential ss r = some (trimSpace s) := by simp [credential, hfirst, hval]
  have hu := usable_of_credential w r a ss _ hcred ht
  exact ⟨hu, rejected_is_final w r pre post a e hw hc hpre hx hu hf⟩

/-- the hypotheses are satisfiable: the request above at the chain `jwt, anonymous` -/
example : ∃ e, (wChain[0].execute wWorld wReqBodyToken = .error e) ∧
    wReqBodyToken.header "Content-Type" = "application/vnd.api+" ++ "json" ++ "; charset=utf-8" ∧
    defaultSources.find? (present · wReqBodyToken) = some (.body "access_token") ∧
    wWorld.parsesJWT (trimSpace " head.body.sign ") = true := by
  refine ⟨.chain [.kind .authentication, .foreign], ?_, ?_, wReqBodyToken_carries.2.1, ?_⟩
  · simp only [wChain, List.getElem_cons_zero, execute_eq, Typ.found, wReqBodyToken_carries]; decide +kernel
  · rw [wReqBodyToken_carries.1]; decide +kernel
  · have h : trimSpace " head.body.sign " = "head.body.sign" := by
      simp only [trimSpace, Ascii.toList_lit _ _ rfl]; decide +kernel
    rw [h, World.parsesJWT, isCompactJWS_ofList]; decide +kernel

/-- the judgement rejects a run that takes such a request for one without credentials and hands it to `anonymous`
(what a decoder selection by exact media type would do to `application/vnd.api+json`) -/
example : judge wWorld wReqBodyToken [wChain[0], wChain[2]]
    [("jwt", .err [.argument, .authentication]), ("anon", .ok "anonymous")] (some (.ok "anonymous")) = false ∧
    judge wWorld wReqBodyToken [wChain[0], wChain[2]] [("jwt", .err [.authentication])]
      (some (.err [.authentication])) = true := by
  simp only [judge, wChain, List.getElem_cons_zero, execute_eq, usable_eq, Typ.found, wReqBodyToken_carries]
  decide +kernel

/-- a `Content-Type` that names no decoder (the comparison is case-sensitive): the body is a string for the
extractors, the request carries no credentials and reaches `anonymous` -/
example : run wWorld { wReqBodyToken with headers := [("Content-Type", "APPLICATION/JSON")] } [wChain[0], wChain[2]] =
    .subject "anonymous" := by decide +kernel

/-- **Whatever the authorization server answers to heimdall's own token request** (`oauth2_client_credentials` of the
identity / JWKS / introspection / metadata endpoint: any status code, any error code of RFC 6749 or other, any body,
no answer at all) **the failure to authenticate the request to the endpoint is no argument error** — neither as
`Endpoint.CreateRequest` reports it, nor wrapped by `MetadataEndpoint.Get`, nor attached to the "failed creating
request" / "failed retrieving oauth2 server metadata" errors of the three authenticators. `api_key` and `basic_auth`
cannot fail at request time. -/
theorem c04_endpoint_authentication_failure_is_no_argument_error (auth : EndpointAuth) (e : Err)
    (h : auth.failure = some e) :
    (authenticationFailed e).is .argument = false ∧
    (metadataRequestFailed (authenticationFailed e)).is .argument = false ∧
    (Verdict.fail GenSite.requestFailed (authenticationFailed e)).wf GenSite.verifies = true ∧
    (Verdict.fail JwtSite.requestFailed (authenticationFailed e)).wf JwtSite.verifies = true ∧
    (Verdict.fail IntroSite.requestFailed (authenticationFailed e)).wf IntroSite.verifies = true ∧
    (Verdict.fail JwtSite.metadataFailed (metadataRequestFailed (authenticationFailed e))).wf JwtSite.verifies = true ∧
    (Verdict.fail IntroSite.metadataFailed (metadataRequestFailed (authenticationFailed e))).wf IntroSite.verifies
      = true ∧
    (auth = .apiKey ∨ auth = .basicAuth ∨ auth = .noAuth → False) := by
  have he := endpointAuth_failure_arg_free auth e h
  refine ⟨?_, ?_, ?_, ?_, ?_, ?_, ?_, ?_⟩ <;>
    first
    | (rintro (rfl | rfl | rfl) <;> simp [EndpointAuth.failure] at h)
    | simp [authenticationFailed, metadataRequestFailed, Verdict.wf, GenSite.verifies, JwtSite.verifies,
        IntroSite.verifies, he]

example : (EndpointAuth.clientCredentials (.badRequest (some "invalid_scope"))).failure =
      some (.chain [.kind .communication, .foreign]) ∧
    (EndpointAuth.clientCredentials (.status 503)).failure = some (.chain [.kind .communication]) ∧
    (EndpointAuth.clientCredentials .token).failure = none ∧ EndpointAuth.apiKey.failure = none := by decide +kernel

/-- **A credential that was found stays found when heimdall cannot authenticate its own request to the endpoint**:
the authenticator (`generic`, `oauth2_introspection`, `jwt`; directly or behind a metadata endpoint) found a
credential, the endpoint's `oauth2_client_credentials` strategy fails — for every answer of the authorization server
— and the authenticator does not allow fallback: authentication fails with "failed creating request", no argument
error, whatever follows (e.g. `anonymous`), and no later authenticator is consulted. -/
theorem c04_failed_endpoint_authentication_is_final (w : World) (r : Req) (pre post : List Authn) (a : Authn)
    (ss : List Strategy) (tok : String) (auth : EndpointAuth) (c : Err)
    (hw : w.wf = true) (hc : (pre ++ a :: post).all Authn.wf = true)
    (hpre : ∀ b ∈ pre, fails w r b = true ∧ (usable w b r = false ∨ b.fallback = true))
    (hauth : auth.failure = some c) (hcred : credential ss r = some tok)
    (ht : (a.typ = .generic ss ∧ w.genVerdict a.key tok = .fail .requestFailed (authenticationFailed c)) ∨
          (a.typ = .introspection ss ∧
            (w.introVerdict a.key tok = .fail .requestFailed (authenticationFailed c) ∨
             w.introVerdict a.key tok = .fail .metadataFailed (metadataRequestFailed (authenticationFailed c)))) ∨
          (a.typ = .jwt ss ∧ w.parsesJWT tok = true ∧
            (w.jwtVerdict a.key tok = .fail .requestFailed (authenticationFailed c) ∨
             w.jwtVerdict a.key tok = .fail .metadataFailed (metadataRequestFailed (authenticationFailed c)))))
    (hf : a.fallback = false) :
    ∃ e, a.execute w r = .error e ∧ e.is .internal = true ∧ e.is .argument = false ∧
      run w r (pre ++ a :: post) = .failure e ∧ runConsulted w r (pre ++ a :: post) = pre.length + 1 := by
  -- the credential is of the authenticator's kind, and all five sites construct "internal error, caused by …"
  have key : usable w a r = true ∧
      ∃ cause, a.execute w r = .error (Shape.build [.k .internal, .dyn] cause) := by
    rw [usable_eq, execute_eq]
    rcases ht with ⟨h, hv⟩ | ⟨h, hv⟩ | ⟨h, hj, hv⟩
    · simp only [h, Typ.found, hcred, Typ.accepts, Authn.check, hv]
      exact ⟨rfl, _, rfl⟩
    · rcases hv with hv | hv <;> simp only [h, Typ.found, hcred, Typ.accepts, Authn.check, hv] <;>
        exact ⟨rfl, _, rfl⟩
    · rcases hv with hv | hv <;> simp only [h, Typ.found, hcred, Typ.accepts, Authn.check, hj, if_true, hv] <;>
        exact ⟨trivial, _, rfl⟩
  obtain ⟨hu, cause, hx⟩ := key
  exact ⟨_, hx, by simp [build_is], rejected_is_final w r pre post a _ hw hc hpre hx hu hf⟩

/-- a session the identity endpoint would know — but heimdall's own token request to the authorization server is
answered with `400 invalid_scope` -/
def wWorldEndpointAuth : World :=
  { gen := [(("gen", "stolen-session"),
      .fail .requestFailed (authenticationFailed (.chain [.kind .communication, .foreign])))] }

def wReqStolenSession : Req := { cookies := [("session", "stolen-session")] }

/-- the hypotheses of the theorem are satisfiable; the failure is final, `anonymous` is not consulted, and the
judgement rejects a run that hands the request to `anonymous` -/
example : wWorldEndpointAuth.wf = true ∧
    (EndpointAuth.clientCredentials (.badRequest (some "invalid_scope"))).failure =
      some (.chain [.kind .communication, .foreign]) ∧
    credential [.cookie "session"] wReqStolenSession = some "stolen-session" ∧
    run wWorldEndpointAuth wReqStolenSession wChainGen =
      .failure (.chain [.kind .internal, .chain [.kind .internal, .chain [.kind .communication, .foreign]]]) ∧
    runConsulted wWorldEndpointAuth wReqStolenSession wChainGen = 1 ∧
    judge wWorldEndpointAuth wReqStolenSession wChainGen
      [("gen", .err [.argument, .communication, .internal]), ("anon", .ok "anonymous")] (some (.ok "anonymous")) = false ∧
    judge wWorldEndpointAuth wReqStolenSession wChainGen
      [("gen", .err [.communication, .internal])] (some (.err [.communication, .internal])) = true := by decide +kernel

/-- were the error document of the authorization server to *match* `ErrArgument` for the codes that blame the request
(`invalid_request`, `invalid_scope`, `unsupported_grant_type` — an `Is` method on that error type, written for the
benefit of error handlers), the model's assumption "it matches no heimdall sentinel" would be wrong, the world outside
`World.wf`, and the unchanged loop would serve the request with the stolen session as `anonymous` -/
def wWorldEndpointAuthAsArgument : World :=
  { gen := [(("gen", "stolen-session"),
      .fail .requestFailed (authenticationFailed (.chain [.kind .communication, .kind .argument])))] }

example : wWorldEndpointAuthAsArgument.wf = false ∧
    run wWorldEndpointAuthAsArgument wReqStolenSession wChainGen = .subject "anonymous" := by decide +kernel

end Heimdall.Props.C04
