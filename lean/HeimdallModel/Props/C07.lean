import HeimdallModel.Lemmas.Conc
import HeimdallModel.Lemmas.ConcLive
import HeimdallModel.Lemmas.ConcOwn
import HeimdallModel.Lemmas.ConcLeak
import HeimdallModel.Lemmas.AsciiChars
import HeimdallModel.Model.RepoProtocol
import HeimdallModel.Gen.RepoProtocol
import HeimdallModel.Model.Repo
/-!
# C07 — rule-set changes are atomic for concurrent requests and never lost

The statements quantify over every reachable configuration of the machine of `Model/Conc.lean`: any number of
concurrently running writers (`AddRuleSet` / `UpdateRuleSet` / `DeleteRuleSet`) and readers (`FindRule`), every
interleaving of their steps — including executions in which any number of lookups panic during the search (a route
matcher) and any number of changes panic while cloning or computing on the private clone; the panicking goroutine
ends (it is recovered far above the repository), the process goes on.  The machine runs the locking protocol that `/verif/extract/proto` reads off the
current `internal/rules/repository_impl.go` (`Gen/RepoProtocol.lean`, regenerated on every run): the first group
of theorems are the obligations tying the two together.
-/
namespace Heimdall.Props.C07
open Heimdall Heimdall.Conc

/-! ## The tie: the source runs the protocol the machine runs -/

/-- The obligations on the extracted event lists: the canonical event list of every writer method is
`writerProtocol`, that of `FindRule` is `readerProtocol`, and the locks are released by deferred unlocks.  Stated as
one conjunction and evaluated as a whole; the obligations named below are its projections.  `Ascii.chars` stands in
for `String.toList`, which the kernel could only run as a UTF-8 decoder (`Lemmas/AsciiChars.lean`). -/
theorem c07_protocol : (∀ m ∈ writerMethods, canon (lookupMethod Gen.repoProtocol m) = writerProtocol) ∧
    canonReader (lookupMethod Gen.repoProtocol "FindRule") = readerProtocol ∧
    disciplineOf Gen.repoProtocol = Discipline.deferred := by
  unfold canon canonReader abstract abstractEv hasPrefix hasSuffix
  simp only [← Ascii.chars_eq]
  decide +kernel

theorem c07_protocol_add : canon (lookupMethod Gen.repoProtocol "AddRuleSet") = writerProtocol :=
  c07_protocol.1 _ (by simp [writerMethods])
theorem c07_protocol_update : canon (lookupMethod Gen.repoProtocol "UpdateRuleSet") = writerProtocol :=
  c07_protocol.1 _ (by simp [writerMethods])
theorem c07_protocol_delete : canon (lookupMethod Gen.repoProtocol "DeleteRuleSet") = writerProtocol :=
  c07_protocol.1 _ (by simp [writerMethods])
theorem c07_protocol_find : canonReader (lookupMethod Gen.repoProtocol "FindRule") = readerProtocol :=
  c07_protocol.2.1
theorem c07_protocol_mutexes : Gen.repoProtocolMutexes = ["$K", "$T"] := by decide
/-- no other exported method of the repository, no helper referenced from elsewhere and no function of the package
touches the shared state: the four methods above are the only way to it -/
theorem c07_protocol_no_foreign_access : Gen.repoProtocolForeign = [] := by decide

/-- **The release discipline of the source is the deferred one**: the read lock of `FindRule` and `knownRulesMutex`
of every writer method are released by a `defer` registered directly after the lock was taken, there is no explicit
unlock of either.  Why this is demanded: `c07_explicit_runlock_deadlocks`, `c07_explicit_unlock_ends_all_changes`. -/
theorem c07_discipline : disciplineOf Gen.repoProtocol = Discipline.deferred := c07_protocol.2.2

/-- the transitions of the machine, read as source-level events, are that protocol -/
theorem c07_edges_are_protocol : edgesAsProtocol = writerProtocol ∧ readerEdgesAsProtocol = readerProtocol := by
  decide +kernel

/-- every step moves the stepping writer along an edge of `writerEdges`, keeps its operation, and leaves every
other thread alone -/
theorem c07_step_follows_edges {K T Op Req Ans : Type} (d : Discipline) (s : Seq K T Op Req Ans)
    (c c' : Config K T Op Req Ans) (h : Step d s c c') (i : Nat) (op : Op) (pc : WPc) (loc : K × T) (hi : c.threads i = .writer op pc loc) :
    ∃ pc' loc', c'.threads i = .writer op pc' loc' ∧ (pc' = pc ∨ ∃ ev, (pc, ev, pc') ∈ writerEdges) := by
  have other : ∀ {j t}, i ≠ j → c'.threads = upd c.threads j t →
      ∃ pc' loc', c'.threads i = .writer op pc' loc' ∧ (pc' = pc ∨ ∃ ev, (pc, ev, pc') ∈ writerEdges) :=
    fun e ht => ⟨pc, loc, by rw [ht, upd_other _ _ _ _ e, hi], .inl rfl⟩
  cases step_move h with
  | @writer j op' pc₀ loc₀ pc' loc' ev hj ht he =>
    by_cases e : i = j
    · subst e; rw [hi] at hj; cases hj
      exact ⟨pc', loc', by rw [ht, upd_same], .inr ⟨ev, he⟩⟩
    · exact other e ht
  | @reader j rq pc₀ a st n pc' a' st' n' ev hj ht =>
    exact other (fun e => by subst e; rw [hi] at hj; cases hj) ht

/-! ## Atomic snapshots and no lost updates, for every interleaving -/

variable {K T Op Req Ans : Type} (s : Seq K T Op Req Ans)

/-- **Atomic snapshot.** Whatever a concurrent lookup answers is the answer of the sequential lookup in the index
reached by a *prefix of the commit order*: complete changes only, never a partially applied one; and that prefix
contains every change that was committed before the lookup took the read lock. -/
theorem c07_snapshot (c : Config K T Op Req Ans) (hr : Reachable .deferred s c) (j : Nat) (rq : Req) (pc : RPc) (a : Ans)
    (start n : Nat) (h : c.threads j = .reader rq pc (some a) start n) :
    start ≤ n ∧ n ≤ c.log.length ∧ a = s.look (run s (c.log.take n)).2 rq :=
  (inv_reachable s c hr).answers j rq pc a start n h

/-- **The published index is the sequential result of the committed changes**, in commit order: no change is lost
or half overwritten, whatever the interleaving of writers from different providers. -/
theorem c07_index_sequential (c : Config K T Op Req Ans) (hr : Reachable .deferred s c) :
    c.index = (run s c.log).2 ∧ (c.wlock = none → (c.known, c.index) = run s c.log) :=
  ⟨(inv_reachable s c hr).index, (inv_reachable s c hr).free⟩

/-- **Writers exclude each other** for the whole read-compute-publish section: a writer that is between taking and
releasing `knownRulesMutex` is the holder of that mutex. -/
theorem c07_writers_exclusive (c : Config K T Op Req Ans) (hr : Reachable .deferred s c) (i j : Nat)
    (hi : inCS (c.threads i)) (hj : inCS (c.threads j)) : i = j := by
  have h1 := holder_of_inCS s c (inv_reachable s c hr) i hi
  have h2 := holder_of_inCS s c (inv_reachable s c hr) j hj
  rw [h1] at h2; exact Option.some.inj h2

/-- **The holder computes on the current state**: the change a writer is about to publish is the sequential
application of its operation to the state after all changes committed so far (no lost update). -/
theorem c07_no_lost_update (c : Config K T Op Req Ans) (hr : Reachable .deferred s c) (i : Nat) (op : Op) (st' : K × T)
    (h : c.threads i = .writer op .rwHeld st') : s.apply (run s c.log) op = some st' :=
  ((inv_reachable s c hr).holderOk_at h (by simp [inCS])).2.2

/-- **A rejection is justified by the sequential semantics**: a writer that is about to report failure computed on
the state after all changes committed so far, and the sequential repository rejects its operation in that state —
no change is refused because of a stale or half-updated view. -/
theorem c07_rejection_justified (c : Config K T Op Req Ans) (hr : Reachable .deferred s c) (i : Nat) (op : Op) (loc : K × T)
    (h : c.threads i = .writer op .failed loc) :
    s.apply (run s c.log) op = none ∧ (c.known, c.index) = run s c.log :=
  ((inv_reachable s c hr).holderOk_at h (by simp [inCS])).symm

/-- **Readers and the publishing writer exclude each other**: while a writer holds `rulesTreeMutex` no lookup is
inside its read section, so a lookup never observes the pointer swap half-way. -/
theorem c07_swap_excludes_readers (c : Config K T Op Req Ans) (hr : Reachable .deferred s c) (i j : Nat)
    (hi : rwHolder (c.threads i)) (hj : activeReader (c.threads j)) : False := by
  have hl := linv_reachable s c hr
  have h3 := (hl.rd_mem j).mpr hj
  rw [hl.rw_excl i hi] at h3; cases h3

/-- **No conflicting access to the shared state** (the model-level content of "no data race"): a writer inside the
section in which the known rules and the pointer to the index are read and written is the only such writer, and the
pointer is swapped only while no lookup is inside its read section. -/
theorem c07_no_conflicting_access (c : Config K T Op Req Ans) (hr : Reachable .deferred s c) (i j : Nat) :
    (inCS (c.threads i) → inCS (c.threads j) → i = j) ∧
      (rwHolder (c.threads i) → ¬ activeReader (c.threads j)) :=
  ⟨c07_writers_exclusive s c hr i j, c07_swap_excludes_readers s c hr i j⟩

/-- **No change is lost, none is applied twice.** The commit log consists of exactly the operations of the writers
that have published their change, each once, in commit order (`owners` lists the committing threads without
repetition; a thread is listed iff it got as far as publishing; the k-th log entry is the operation of the k-th
owner) — together with `c07_index_sequential`: the published index is the sequential result of all of them. -/
theorem c07_every_change_exactly_once (d : Discipline) (c : Config K T Op Req Ans) (hr : Reachable d s c) :
    c.owners.Nodup ∧ (∀ j, j ∈ c.owners ↔ committed (c.threads j)) ∧
      c.owners.map (fun j => opOf (c.threads j)) = c.log.map some :=
  ⟨(oinv_reachable d s c hr).nodup, (oinv_reachable d s c hr).mem, (oinv_reachable d s c hr).ops⟩

/-- **Deadlock freedom, panics included.** In every reachable configuration in which some thread (writer or reader)
has not finished, some thread can take a step: no interleaving of requests and changes gets stuck — whatever number of
lookups have panicked during their search and whatever number of changes have panicked on their private clone before
(`Step` contains these transitions for any reader and any writer at any time; under the deferred discipline the
unwinding panic releases what the goroutine holds).  A writer waiting in `rulesTreeMutex.Lock()` blocks new readers
(Go's writer preference, `wRWRequest`); the readers it waits for can always move on. -/
theorem c07_deadlock_free (c : Config K T Op Req Ans) (hr : Reachable .deferred s c) (i : Nat)
    (hnf : ¬ finished (c.threads i)) : ∃ c', Step .deferred s c c' :=
  progress s c (inv_reachable s c hr) (linv_reachable s c hr) i hnf

/-- the same for the machine run with the discipline read off the current source -/
theorem c07_deadlock_free_source (c : Config K T Op Req Ans) (hr : Reachable (disciplineOf Gen.repoProtocol) s c)
    (i : Nat) (hnf : ¬ finished (c.threads i)) : ∃ c', Step (disciplineOf Gen.repoProtocol) s c c' := by
  rw [c07_discipline] at hr ⊢
  exact c07_deadlock_free s c hr i hnf

/-- **A goroutine that has returned or panicked holds nothing**: neither `knownRulesMutex`, nor `rulesTreeMutex` as
a (pending) writer, nor a read lock — and every read lock that is counted belongs to a lookup that is still running. -/
theorem c07_finished_holds_nothing (c : Config K T Op Req Ans) (hr : Reachable .deferred s c) (i : Nat)
    (hf : finished (c.threads i)) :
    c.wlock ≠ some i ∧ c.rww ≠ some i ∧ i ∉ c.rset ∧ c.readers = c.rset.length := by
  have hl := linv_reachable s c hr
  have ⟨h1, h2, h3⟩ := finished_outside (s := s) (c := c) hf
  exact ⟨fun h => h1 ((inv_reachable s c hr).held i h), fun h => h2 ((hl.rww_iff i).mp h),
    fun h => h3 ((hl.rd_mem i).mp h), hl.rd_len⟩

/-! ### Why the unlocks have to be deferred -/

/-- **With an explicit `RUnlock()` after the search, one panicking lookup followed by one change is a complete
deadlock.**  For every discipline with `readerDeferred = false` and every initial configuration — any number of other
threads — with a reader `r` and a writer `w` whose change the sequential repository accepts, a configuration is
reachable (`r`: read-lock, search panics; `w`: up to `rulesTreeMutex.Lock()`) in which
* no thread can take a step, now or ever (`Steps … c c' → c' = c`): `w` waits for a read lock nobody will release
  while holding `knownRulesMutex`, so no writer ever completes; a writer is pending, so no reader that has not yet
  started ever completes;
* the writer `w` has not finished, every thread other than `r` and `w` still stands at its start, nothing was committed. -/
theorem c07_explicit_runlock_deadlocks (d : Discipline) (hd : d.readerDeferred = false)
    (c0 : Config K T Op Req Ans) (h0 : Initial s c0) (r w : Nat) (rq : Req) (op : Op) (loc st' : K × T)
    (hr : c0.threads r = .reader rq .idle none 0 0) (hw : c0.threads w = .writer op .idle loc)
    (happ : s.apply s.init op = some st') :
    ∃ c, Reachable d s c ∧ (∀ c', ¬ Step d s c c') ∧ (∀ c', Steps d s c c' → c' = c) ∧
      ¬ finished (c.threads w) ∧ c.log = [] ∧
      (∀ j, j ≠ w → j ≠ r → ¬ finished (c.threads j)) := by
  obtain ⟨c, hreach, hwedged, hcr, hlog, hsame⟩ := reader_leak_wedges d hd s c0 h0 r w rq op loc st' hr hw happ
  refine ⟨c, hreach, fun c' => wedged_stuck d s c c' w hwedged, fun c' => wedged_steps d s c c' w hwedged, ?_, hlog, ?_⟩
  · obtain ⟨o, st, e⟩ := hwedged.tw
    rw [e]; simp [finished]
  · intro j hjw hjr hf
    rw [hsame j hjw hjr] at hf
    rcases h0.threads j with ⟨o, l, e⟩ | ⟨q, e⟩ <;> (rw [e] at hf; simp [finished] at hf)

/-- **With an explicit `Unlock()` of `knownRulesMutex`, one panicking change ends all changes.**  For every discipline
with `writerDeferred = false` and every initial configuration with a writer `w`, a configuration is reachable (`w`:
lock, read the known rules, `Clone()` panics) from which, along every continuation, no writer thread ever takes a step
again — in particular every other change waits for ever — and nothing is ever committed. -/
theorem c07_explicit_unlock_ends_all_changes (d : Discipline) (hd : d.writerDeferred = false)
    (c0 : Config K T Op Req Ans) (h0 : Initial s c0) (w : Nat) (op : Op) (loc : K × T)
    (hw : c0.threads w = .writer op .idle loc) :
    ∃ c, Reachable d s c ∧ ∀ c', Steps d s c c' → c'.log = [] ∧
      ∀ j op' loc', j ≠ w → c0.threads j = .writer op' .idle loc' → c'.threads j = .writer op' .idle loc' := by
  obtain ⟨c, hreach, hk, hlog, hsame⟩ := writer_leak_blocks d hd s c0 h0 w op loc hw
  refine ⟨c, hreach, fun c' hs => ?_⟩
  obtain ⟨_, hl, hthr⟩ := kleaked_steps d s c c' w hk hs
  refine ⟨by rw [hl, hlog], fun j op' loc' hj h0j => ?_⟩
  have hcj : c.threads j = .writer op' .idle loc' := by rw [hsame j hj]; exact h0j
  rw [hthr j op' .idle loc' hcj, hcj]

/-! ### Non-vacuity: a concrete machine with one lookup (thread 0) and changes (every other thread) -/

/-- a tiny sequential semantics: known rules and index count what the accepted changes added -/
def tinySeq : Seq Nat Nat Nat Unit Nat where
  apply st op := some (st.1 + op, st.2 + op)
  look t _ := t
  init := (0, 0)

def tinyInit : Config Nat Nat Nat Unit Nat :=
  { known := 0, index := 0, wlock := none, rww := none, readers := 0, log := [], owners := [], rset := [],
    threads := fun i => if i = 0 then .reader () .idle none 0 0 else .writer 1 .idle (0, 0) }

theorem c07_tiny_initial : Initial tinySeq tinyInit := by
  refine ⟨rfl, rfl, rfl, rfl, rfl, rfl, rfl, fun i => ?_⟩
  by_cases e : i = 0
  · exact Or.inr ⟨(), by simp [tinyInit, e]⟩
  · exact Or.inl ⟨1, (0, 0), by simp [tinyInit, e]⟩

/-- the hypotheses of `c07_explicit_runlock_deadlocks` are satisfiable: explicit `RUnlock()`, lookup 0 panics,
change 1 follows — nothing moves any more although change 1 (and every other change) has not finished -/
example : ∃ c, Reachable ⟨false, true⟩ tinySeq c ∧ (∀ c', ¬ Step ⟨false, true⟩ tinySeq c c') ∧
    ¬ finished (c.threads 1) ∧ ¬ finished (c.threads 2) := by
  obtain ⟨c, h1, h2, _, h4, _, h6⟩ := c07_explicit_runlock_deadlocks tinySeq ⟨false, true⟩ rfl tinyInit c07_tiny_initial
    0 1 () 1 (0, 0) (1, 1) rfl rfl rfl
  exact ⟨c, h1, h2, h4, h6 2 (by decide) (by decide)⟩

/-- the hypotheses of `c07_explicit_unlock_ends_all_changes` are satisfiable: explicit `Unlock()`, change 1 panics —
change 2 stands at its start for ever -/
example : ∃ c, Reachable ⟨true, false⟩ tinySeq c ∧
    ∀ c', Steps ⟨true, false⟩ tinySeq c c' → c'.log = [] ∧ c'.threads 2 = .writer 1 .idle (0, 0) := by
  obtain ⟨c, h1, h2⟩ := c07_explicit_unlock_ends_all_changes tinySeq ⟨true, false⟩ rfl tinyInit c07_tiny_initial
    1 1 (0, 0) rfl
  exact ⟨c, h1, fun c' hs => ⟨(h2 c' hs).1, (h2 c' hs).2 2 1 (0, 0) (by decide) rfl⟩⟩

/-- the deferred discipline on the same machine: lookup 0 panics during its search (the executions the theorems above
quantify over do contain panicking lookups), the read lock is released, and change 1 runs to completion and is
committed -/
example : ∃ c, Reachable .deferred tinySeq c ∧ c.threads 0 = .reader () .crashed none 0 0 ∧
    c.threads 1 = .writer 1 .doneOk (1, 1) ∧ c.log = [1] ∧ c.index = 1 ∧ c.readers = 0 ∧ c.wlock = none := by
  have R0 := Reachable.init (d := .deferred) tinyInit c07_tiny_initial
  have R1 := Reachable.step _ _ R0 (Step.rLock _ 0 () (by simp [tinyInit]) rfl)
  have R2 := Reachable.step _ _ R1 (Step.rPanicReleased rfl _ 0 () 0 (by simp [tinyInit]))
  have R3 := writer_runs_to_request (w := 1) (op := 1) (loc := (0, 0)) (st' := (1, 1)) R2 (by simp [tinyInit, upd])
    rfl rfl rfl
  have R4 := Reachable.step _ _ R3 (Step.wRWAcquire _ 1 1 (1, 1) (by simp) rfl (by simp [tinyInit]))
  have R5 := Reachable.step _ _ R4 (Step.wIndex _ 1 1 (1, 1) (by simp) rfl)
  have R6 := Reachable.step _ _ R5 (Step.wRWUnlock _ 1 1 (1, 1) (by simp) rfl)
  have R7 := Reachable.step _ _ R6 (Step.wUnlock _ 1 1 (1, 1) (by simp) rfl)
  exact ⟨_, R7, by simp [upd], by simp, by simp [tinyInit], rfl, by simp [tinyInit], rfl⟩

/-- `c07_deadlock_free` at a configuration with a crashed lookup: after the panic of lookup 0 the next change can start -/
example : ∃ c, Reachable .deferred tinySeq c ∧ c.threads 0 = .reader () .crashed none 0 0 ∧
    ∃ c', Step .deferred tinySeq c c' := by
  have R0 := Reachable.init (d := .deferred) tinyInit c07_tiny_initial
  have R1 := Reachable.step _ _ R0 (Step.rLock _ 0 () (by simp [tinyInit]) rfl)
  have R2 := Reachable.step _ _ R1 (Step.rPanicReleased rfl _ 0 () 0 (by simp [tinyInit]))
  exact ⟨_, R2, by simp [tinyInit], c07_deadlock_free tinySeq _ R2 1 (by simp [tinyInit, upd, finished])⟩

/-! ## Instantiation with the repository model of C06 -/

/-- the sequential semantics the machine is instantiated with: `Repo.apply` and `Repo.serve` -/
def repoSeq : Seq (List Rule) (Table RVal) RepoOp (Bool × ReqView) Served where
  apply st op := ((⟨st.1, st.2⟩ : Repo).apply op).map (fun r => (r.known, r.index))
  look t rq := (⟨[], t⟩ : Repo).serve rq.1 rq.2
  init := ([], [])

theorem run_repoSeq (ops : List RepoOp) : run repoSeq ops = ((Repo.run ops).known, (Repo.run ops).index) := by
  unfold run Repo.run
  suffices ∀ (r : Repo), List.foldl (fun st o => (repoSeq.apply st o).getD st) (r.known, r.index) ops =
      ((ops.foldl Repo.step r).known, (ops.foldl Repo.step r).index) from this Repo.empty
  induction ops with
  | nil => intro r; rfl
  | cons op rest ih =>
    intro r
    simp only [List.foldl_cons]
    have : (repoSeq.apply (r.known, r.index) op).getD (r.known, r.index) =
        ((r.step op).known, (r.step op).index) := by
      unfold Repo.step repoSeq
      simp only
      cases r.apply op <;> rfl
    rw [this]
    exact ih (r.step op)

/-- the lookup of the machine is `Repo.serve`, which reads nothing but the index -/
theorem repoSeq_look (r : Repo) (d : Bool) (q : ReqView) : repoSeq.look r.index (d, q) = r.serve d q := by
  simp only [repoSeq, Repo.serve, Repo.findRule]

/-- **C07 for the repository**: every answer given to a concurrent request is what the *sequential* repository
(the model of C06) answers after some prefix of the committed rule-set changes -/
theorem c07_repository_snapshot (c : Config (List Rule) (Table RVal) RepoOp (Bool × ReqView) Served)
    (hr : Reachable .deferred repoSeq c) (j : Nat) (d : Bool) (q : ReqView) (pc : RPc) (a : Served) (start n : Nat)
    (h : c.threads j = .reader (d, q) pc (some a) start n) :
    start ≤ n ∧ n ≤ c.log.length ∧ a = (Repo.run (c.log.take n)).serve d q := by
  have := c07_snapshot repoSeq c hr j (d, q) pc a start n h
  rwa [run_repoSeq, repoSeq_look] at this

end Heimdall.Props.C07
