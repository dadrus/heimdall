import HeimdallModel.Base.UrlEscape
/-!
# Route matching conditions (`internal/rules/route_matcher.go`, `typed_matcher.go`)

Scheme, method, host and path-parameter conditions of a route.  The expression languages (gobwas/glob, Go regexp)
are trusted libraries; the model knows the fragments of them whose meaning does not depend on those libraries'
internals, and the correspondence check generates exactly these: `exact`; globs made of literals, `?`, `*` and `**`
(compiled with a separator: `?` and `*` do not cross it, `**` does; the whole value has to match); regular
expressions made of literals and `.`, optionally anchored with `^` and `$` (unanchored ends match anywhere, as
`MatchString` does).
-/
namespace Heimdall

/-- glob tokens -/
inductive GTok where
  | lit (c : Char) | any1 | star | dstar
deriving Repr, DecidableEq

/-- regex atoms -/
inductive RAtom where
  | lit (c : Char) | dot
deriving Repr, DecidableEq

inductive TM where
  | exact (s : String)
  | glob (toks : List GTok) (sep : Char)                       -- compiled with separator `sep`
  | regex (atoms : List RAtom) (anchoredStart anchoredEnd : Bool)
deriving Repr, DecidableEq

/-- Values are byte strings (one `Char` per octet); `?`, `*` of globs and `.` of regular expressions consume one UTF-8
    encoded code point, or one byte where the bytes are not valid UTF-8 (`utf8.DecodeRuneInString`).  Length of the
    encoding that starts the list (1 for ASCII and for an invalid byte). -/
def runeLen : List Char → Nat
  | [] => 0
  | b0 :: rest =>
    let n0 := b0.toNat
    let cont (lo hi : Nat) (c : Char) : Bool := lo ≤ c.toNat && c.toNat ≤ hi
    if n0 < 0x80 then 1
    else if 0xC2 ≤ n0 && n0 ≤ 0xDF then
      (match rest with | b1 :: _ => if cont 0x80 0xBF b1 then 2 else 1 | _ => 1)
    else if 0xE0 ≤ n0 && n0 ≤ 0xEF then
      let lo := if n0 = 0xE0 then 0xA0 else 0x80
      let hi := if n0 = 0xED then 0x9F else 0xBF
      (match rest with | b1 :: b2 :: _ => if cont lo hi b1 && cont 0x80 0xBF b2 then 3 else 1 | _ => 1)
    else if 0xF0 ≤ n0 && n0 ≤ 0xF4 then
      let lo := if n0 = 0xF0 then 0x90 else 0x80
      let hi := if n0 = 0xF4 then 0x8F else 0xBF
      (match rest with
       | b1 :: b2 :: b3 :: _ => if cont lo hi b1 && cont 0x80 0xBF b2 && cont 0x80 0xBF b3 then 4 else 1
       | _ => 1)
    else 1

private theorem pos_ite {c : Prop} [Decidable c] {a b : Nat} (ha : 0 < a) (hb : 0 < b) : 0 < if c then a else b := by
  split <;> assumption

/-- every branch of `runeLen` on a non-empty list ends in a length from 1 to 4 -/
theorem runeLen_pos (x : Char) (v : List Char) : 0 < runeLen (x :: v) := by
  unfold runeLen
  refine pos_ite Nat.one_pos (pos_ite ?_ (pos_ite ?_ (pos_ite ?_ Nat.one_pos)))
  · split
    · exact pos_ite Nat.two_pos Nat.one_pos
    · exact Nat.one_pos
  · extract_lets lo hi
    split
    · exact pos_ite (Nat.succ_pos 2) Nat.one_pos
    · exact Nat.one_pos
  · extract_lets lo hi
    split
    · exact pos_ite (Nat.succ_pos 3) Nat.one_pos
    · exact Nat.one_pos

def globMatch (sep : Char) : List GTok → List Char → Bool
  | [], v => v.isEmpty
  | .lit c :: ps, x :: v => c == x && globMatch sep ps v
  | .lit _ :: _, [] => false
  | .any1 :: ps, x :: v => x != sep && globMatch sep ps ((x :: v).drop (runeLen (x :: v)))
  | .any1 :: _, [] => false
  | .star :: ps, [] => globMatch sep ps []
  | .star :: ps, x :: v =>
      globMatch sep ps (x :: v) || (x != sep && globMatch sep (.star :: ps) ((x :: v).drop (runeLen (x :: v))))
  | .dstar :: ps, [] => globMatch sep ps []
  | .dstar :: ps, x :: v => globMatch sep ps (x :: v) || globMatch sep (.dstar :: ps) v
termination_by ps v => (ps.length, v.length)
decreasing_by
  all_goals simp_wf
  all_goals first
    | (apply Prod.Lex.left; omega)
    | (apply Prod.Lex.right; have := runeLen_pos x v; omega)
    | (apply Prod.Lex.right; omega)

/-- the atoms match a prefix of the value; what is left -/
def atomsMatch : List RAtom → List Char → Option (List Char)
  | [], v => some v
  | _ :: _, [] => none
  | .lit c :: as, x :: v => if c == x then atomsMatch as v else none
  | .dot :: as, x :: v => if x == '\n' then none else atomsMatch as ((x :: v).drop (runeLen (x :: v)))

def regexFrom (atoms : List RAtom) (anchoredEnd : Bool) (v : List Char) : Bool :=
  match atomsMatch atoms v with
  | some rest => !anchoredEnd || rest.isEmpty
  | none => false

def suffixes : List Char → List (List Char)
  | [] => [[]]
  | x :: v => (x :: v) :: suffixes v

def TM.matches : TM → String → Bool
  | .exact s, v => s == v
  | .glob toks sep, v => globMatch sep toks v.toList
  | .regex atoms aS aE, v =>
      if aS then regexFrom atoms aE v.toList else (suffixes v.toList).any (regexFrom atoms aE)

def stdMethods : List String :=
  ["GET", "HEAD", "POST", "PUT", "PATCH", "DELETE", "CONNECT", "OPTIONS", "TRACE"]

def isNeg (s : String) : Bool := s.toList.head? == some '!'

def dropBang (s : String) : String := if isNeg s then String.ofList (s.toList.drop 1) else s

/-- `slices.Compact` -/
def compact : List String → List String
  | a :: b :: rest => if a = b then compact (b :: rest) else a :: compact (b :: rest)
  | l => l

def insertSorted (x : String) : List String → List String
  | [] => [x]
  | y :: ys => if x ≤ y then x :: y :: ys else y :: insertSorted x ys

def sortStrs (l : List String) : List String := l.foldr insertSorted []

/-- `ALL` stands for the nine standard methods -/
def expandAll (l : List String) : List String :=
  if l.contains "ALL" then l.filter (· ≠ "ALL") ++ stdMethods else l

/-- `createMethodMatcher`: `none` is the configuration error (an empty entry, a list allowing no method) -/
def mkMethods (l : List String) : Option (List String) :=
  if l.isEmpty then some [] else
  let l2 := compact (sortStrs (expandAll l))
  if l2.any (·.isEmpty) then none else
  let tbr := l2.filter isNeg
  let l3 := l2.filter (fun s => !tbr.contains s)
  let tbr' := tbr.map dropBang
  let res := l3.filter (fun s => !tbr'.contains s)
  -- a list that allows no method at all (only exclusions, or everything excluded again) is a configuration error:
  -- an empty matcher would stand for "any method"
  if res.isEmpty then none else some res

structure RouteM where
  scheme  : String
  methods : List String          -- effective method list (result of `mkMethods`)
  hosts   : List TM
  pps     : List (String × TM)
  esh     : SlashHandling
deriving Repr

structure ReqView where
  method  : String
  scheme  : String
  host    : String
  rawPath : String
  path    : String
deriving Repr

def schemeOk (r : RouteM) (q : ReqView) : Bool := r.scheme.isEmpty || r.scheme == q.scheme

def methodOk (r : RouteM) (q : ReqView) : Bool := r.methods.isEmpty || r.methods.contains q.method

/-- the request host satisfies any one of the host expressions (none configured: any host) -/
def hostOk (r : RouteM) (q : ReqView) : Bool := r.hosts.isEmpty || r.hosts.any (·.matches q.host)

def lookupKey (keys caps : List String) (name : String) : Option String :=
  match keys, caps with
  | k :: ks, c :: cs => if k = name then some c else lookupKey ks cs name
  | _, _ => none

/-- `pathParamMatcher.Matches` -/
def ppOk (esh : SlashHandling) (q : ReqView) (keys caps : List String) (pp : String × TM) : Bool :=
  match lookupKey keys caps pp.1 with
  | none => false
  | some v =>
    if q.rawPath.isEmpty then pp.2.matches v
    else if esh = .off && containsEncodedSlash q.rawPath then false
    else pp.2.matches (unescapeCapture esh v)

/-- `compositeMatcher{scheme, methods, hosts, path_params}.Matches` -/
def routeMatches (r : RouteM) (q : ReqView) (keys caps : List String) : Bool :=
  schemeOk r q && methodOk r q && hostOk r q && r.pps.all (ppOk r.esh q keys caps)

end Heimdall
