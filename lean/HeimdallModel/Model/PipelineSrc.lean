import HeimdallModel.Gen.CompositeSrc
import HeimdallModel.Model.Pipeline
/-!
# The translated pipeline kernels instantiated with the mechanisms of the C01 model

`Gen/CompositeSrc.lean` (regenerated from the Go source on every run) is generic: the elements a composite ranges over
and what a conditional handler wraps are parameters. Here those parameters are filled with the mechanisms of
`Model/Pipeline.lean` — an authenticator / step / error handler *is* its scripted outcome — so that the translated
functions can be compared with `createSubject`, `Handler.execute`, `runHandlers`, `runErrorHandlers`
(`Props/C01Src.lean`, for all lists) and evaluated on concrete rules (`Rule.executeSrc`, used by the replay search of
`tools/props/c01.py`). Nothing here is imported by the shared driver.

Correspondence of the parameters: request context `Ctx` = `Pipeline.Ctx`; a panic value = the sentinels visible in it
(`List Kind`); subject = its id; `exec a` = `authExec a` (visit, then the outcome as the Go pair `(sub, err)`);
`fallback a` = `a.fallback`; `isArgument e` = `e.is .argument`; `canExecute` = the `CondOut` of the `if` condition as
the Go pair `(bool, err)` (`fails` = `(false, foreign error)`); the wrapped handler = `stepExec` / `kindExec`
(`EHKind.run`); `continueOnError h` = `h.continueOnError`; errors of the error pipeline = `EErr` (the package-private
sentinel `errErrorHandlerNotApplicable`, or an error of the model).
-/
namespace Heimdall.Pipeline.SrcTie
open Heimdall Heimdall.Pipeline Heimdall.Rules

abbrev GoRes (α : Type) := Go.Res Ctx (List Kind) α
abbrev GoM (α : Type) := Go.M Ctx (List Kind) α

/-- the model's `Run` as outcome of a Go call -/
def ofRun {α : Type} : Run α → GoRes α
  | .done a c => .done a c
  | .panic v c => .panic v c

/-- `(sub, nil)` / `(nil, err)` -/
def pairOf : Except Err String → Option String × Option Err
  | .ok s => (some s, none)
  | .error e => (none, some e)

/-- `Execute` of an authenticator of the model -/
def authExec (a : Authenticator) : GoM (Option String × Option Err) := fun c =>
  match a.out with
  | .ok s => .done (some s, none) (c.visit a.id)
  | .err ks => .done (none, some (.ofKinds ks)) (c.visit a.id)
  | .panic v => .panic v (c.visit a.id)

/-- `(true, nil)`, `(false, nil)`, `(false, err)` -/
def condPair : CondOut → Bool × Option Err
  | .yes => (true, none)
  | .no => (false, none)
  | .fails => (false, some .foreign)

/-- `h.c.CanExecuteOnSubject(ctx, sub)` -/
def condOnSubject (h : Handler) : Option String → GoM (Bool × Option Err) := fun sub c =>
  .done (condPair (match sub with | some s => h.cond.onSubject s | none => .fails)) c

/-- `h.h.Execute(ctx, sub)` of an authorizer / contextualizer / finalizer of the model -/
def stepExec (h : Handler) : Option String → GoM (Option Err) := fun _ c =>
  match h.out with
  | .ok => .done none (c.visit h.id)
  | .err ks => .done (some (.ofKinds ks)) (c.visit h.id)
  | .panic v => .panic v (c.visit h.id)

/-- `Execute` of an element of `compositeSubjectHandler`: the translated conditional handler around the model's
mechanism -/
def handlerExec {Dump : Type} (trace : Bool) (marshal : Option String → Option Dump × Option Err) (nilV : List Kind)
    (h : Handler) : Option String → GoM (Option Err) :=
  Src.ConditionalSubjectHandler.Execute (condOnSubject h) (stepExec h) trace marshal nilV

/-- Go error values as the error pipeline sees them: the sentinel `errErrorHandlerNotApplicable` of package `rules`, or
an error of the model (`Pipeline.Err`: what `errors.Is` can see of a heimdall / foreign error; none of them `Is` the
sentinel, which never leaves the package) -/
inductive EErr where
  | notApplicable
  | real (e : Err)
deriving DecidableEq, Repr

def EErr.isNotApplicable : EErr → Bool
  | .notApplicable => true
  | .real _ => false

/-- an error of the model is never the sentinel -/
theorem EErr.real_not_sentinel (x : Option Err) : Option.any EErr.isNotApplicable (x.map .real) = false := by
  cases x <;> rfl

/-- `h.c.CanExecuteOnError(ctx, causeErr)` -/
def condOnError (h : ErrorHandler) : Option EErr → GoM (Bool × Option EErr) := fun cause c =>
  match condPair (match cause with | some (.real e) => h.cond.onError e | _ => .fails) with
  | (b, e) => .done (b, e.map .real) c

/-- `Execute` of the three real error handlers (`EHKind.run`) -/
def kindExec (h : ErrorHandler) : Option EErr → GoM (Option EErr) := fun cause c =>
  match cause with
  | some (.real e) => .done ((h.kind.run e c).1.map .real) (h.kind.run e c).2
  | _ => .done none c

/-- `Execute` of an element of `compositeErrorHandler`: the translated conditional error handler around the model's
error handler -/
def errorHandlerExec (nilV : List Kind) (h : ErrorHandler) : Option EErr → GoM (Option EErr) :=
  Src.ConditionalErrorHandler.Execute (condOnError h) (kindExec h) .notApplicable nilV

/-- what leaves the error pipeline, as an error of the model (the sentinel does not leave it; if it did it would be a
foreign error to everybody else) -/
def EErr.toErr : EErr → Err
  | .real e => e
  | .notApplicable => .foreign

/-! ## a rule run through the translated functions -/

def nilPanic : List Kind := []

def noDump : Option String → Option Unit × Option Err := fun _ => (none, none)

/-- `r.sc.Execute(ctx)`: the translated `compositeSubjectCreator.Execute` over the authenticators of the rule -/
def creatorSrc (r : Rule) : GoM (Option String × Option EErr) :=
  Go.map (fun x => (x.1, x.2.map EErr.real))
    (Src.SubjectCreator.Execute authExec (·.fallback) (·.is .argument) nilPanic r.authenticators)

/-- `r.sh.Execute(ctx, sub)` / `r.fi.Execute(ctx, sub)`: the translated `compositeSubjectHandler.Execute` over translated
conditional handlers -/
def handlersSrc (trace : Bool) (hs : List Handler) (sub : Option String) : GoM (Option EErr) :=
  Go.map (Option.map EErr.real)
    (Src.SubjectHandler.Execute (handlerExec trace noDump nilPanic) (·.continueOnError) nilPanic hs sub)

/-- `r.eh.Execute(ctx, err)`: the translated `compositeErrorHandler.Execute` over translated conditional error
handlers -/
def errorPipelineSrc (r : Rule) (cause : Option EErr) : GoM (Option EErr) :=
  Src.ErrorHandler.Execute (errorHandlerExec nilPanic) EErr.isNotApplicable nilPanic r.errorHandlers cause

/-- what `ruleImpl.Execute` returns, as the model's `ExecOut` -/
def execOut (x : Option Unit × Option EErr) : ExecOut := ⟨x.1.isSome, x.2.map EErr.toErr⟩

/-- an error of the model comes back from the error pipeline as it went in -/
theorem execOut_real (b : Option Unit) (o : Option Err) : execOut (b, o.map .real) = ⟨b.isSome, o⟩ := by
  cases o <;> rfl

/-- **`ruleImpl.Execute` as translated from the source, over the translated composites.** `trace`: the log level of the
request is `trace`; `slashesOn` / `slashesOff`: `allow_encoded_slashes` of the rule is `on` / `off`; `encodedSlash`: the
raw path of the request contains `%2F`; the error returned for it is an argument error. -/
def executeSrc (trace slashesOn slashesOff encodedSlash : Bool) (r : Rule) (c : Ctx) : GoRes ExecOut :=
  (Src.Rule.Execute (creatorSrc r) (handlersSrc trace r.handlers) (handlersSrc trace r.finalizers) (errorPipelineSrc r)
    false slashesOn slashesOff encodedSlash (.real (.ofKind .argument)) r.hasBackend () nilPanic c).map execOut

end Heimdall.Pipeline.SrcTie
