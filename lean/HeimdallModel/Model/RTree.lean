import HeimdallModel.Model.Trie
/-!
# The routing tree (`internal/x/radixtree`) at byte level

`RTree V` mirrors the Go struct `radixtree.Tree[V]` field by field (the two position flags `isWildcard` /
`isCatchAll` are not stored: a node's kind is the link it hangs on; the structural correspondence run compares the
Go flags with the position).  Strings are byte strings; node paths are kept as `List Char`, wildcard names and
captured values as `String`.

* `findNode` / `find`   — `Tree.findNode` / `Tree.Find`
* `addNode` / `add`     — `Tree.addNode` (prefix splitting, `inStaticToken`, escapes, wildcard-key checks, priorities
                          and the re-ordering of static children) followed by the tail of `Tree.Add`
                          (values constraint, `WithBacktracking`, append)
* `delNode` / `delete`  — `Tree.delNode` with `deleteChild` (merging with a single grandchild, pruning)
* `clone`               — `Tree.Clone` (a deep copy; values are immutable here, so the identity)

The Go code updates the tree in place and leaves a partially updated tree behind when `Add` / `Delete` fail; callers
(the rule repository, the harness) only ever apply them to a clone that is thrown away on failure, so the model
returns no tree in that case.
-/
namespace Heimdall

structure RTree (V : Type) where
  path     : List Char
  priority : Nat
  statics  : List (Char × RTree V)
  wild     : Option (RTree V)
  catchAll : Option (RTree V)
  values   : List V
  keys     : List String
  bt       : Bool

namespace RTree

variable {V : Type}

/-- `radixtree.New` -/
def empty : RTree V := ⟨[], 0, [], none, none, [], [], false⟩

def notSlash (c : Char) : Bool := c != '/'

/-- `path[:nextSeparator(path)]` -/
def segOf (cs : List Char) : List Char := cs.takeWhile notSlash
/-- `path[nextSeparator(path):]` -/
def afterSeg (cs : List Char) : List Char := cs.dropWhile notSlash

theorem afterSeg_length_le (cs : List Char) : (afterSeg cs).length ≤ cs.length :=
  (List.dropWhile_sublist notSlash).length_le

/-- the loop over `n.values` in `findNode` -/
def tryValues (m : V → List String → List String → Bool) (values : List V) (keys caps : List String)
    (bt : Bool) : Res V :=
  match values.find? (fun v => m v keys caps) with
  | some v => (some ⟨v, keys, caps⟩, false)
  | none => (none, bt)

/-! ## lookup -/

/-- `found != nil → return …; !backtrack → return nil,false`: a decided result is final, otherwise go on -/
def thenTry (r : Res V) (k : Unit → Res V) : Res V := if done r then r else k ()

mutual
/-- `Tree.findNode`; the pair (node, index) of the Go result is replaced by the value and the node's keys
    (all `Tree.Find` reads through them) -/
def findNode (m : V → List String → List String → Bool) : RTree V → List Char → List String → Res V
  | ⟨_, _, _, _, _, values, keys, bt⟩, [], caps =>
    if values.isEmpty then (none, true) else tryValues m values keys caps bt
  | ⟨_, _, statics, wild, catchAll, _, _, _⟩, c :: cs, caps =>
    thenTry (findStatic m statics c (c :: cs) caps) fun _ =>
    thenTry (findWild m wild (c :: cs) caps) fun _ =>
    match catchAll with
    | none => (none, true)
    | some ca => tryValues m ca.values ca.keys (caps ++ [String.ofList (c :: cs)]) ca.bt
/-- the loop over `n.staticIndices`: the first child whose index is the first byte decides;
    `(none, true)` = go on with the wildcard child -/
def findStatic (m : V → List String → List String → Bool) :
    List (Char × RTree V) → Char → List Char → List String → Res V
  | [], _, _, _ => (none, true)
  | (i, ch) :: rest, c, cs, caps =>
    if i = c then
      if ch.path.isPrefixOf cs then findNode m ch (cs.drop ch.path.length) caps else (none, true)
    else findStatic m rest c cs caps
/-- `if n.wildcardChild != nil { … }`: the bytes up to the next `/` are captured, unless there are none -/
def findWild (m : V → List String → List String → Bool) :
    Option (RTree V) → List Char → List String → Res V
  | none, _, _ => (none, true)
  | some w, cs, caps =>
    if (segOf cs).isEmpty then (none, true)
    else findNode m w (afterSeg cs) (caps ++ [String.ofList (segOf cs)])
end

/-- `Tree.Find` -/
def find (m : V → List String → List String → Bool) (t : RTree V) (path : String) :
    Option (V × List (String × String)) :=
  match (findNode m t path.toList []).1 with
  | some f => some (f.value, paramsOf f.keys f.caps)
  | none => none

/-! ## Add -/

def commonPrefixLen : List Char → List Char → Nat
  | a :: as, b :: bs => if a = b then commonPrefixLen as bs + 1 else 0
  | _, _ => 0

/-- `splitCommonPrefix` applied to the child itself: the node that takes the child's place and the number of
    consumed bytes -/
def splitCommonPrefix (child : RTree V) (tok : List Char) : RTree V × Nat :=
  if child.path.isPrefixOf tok then (child, child.path.length)
  else
    let i := commonPrefixLen child.path tok
    match child.path.drop i with
    | [] => (child, child.path.length) -- unreachable: then the path would be a prefix
    | c :: r =>
      (⟨tok.take i, child.priority, [(c, { child with path := c :: r })], none, none, [], [], false⟩, i)

/-- first static edge with the given index: the edges before it, its child, the edges after it -/
def splitAtIdx : List (Char × RTree V) → Char → Option (List (Char × RTree V) × RTree V × List (Char × RTree V))
  | [], _ => none
  | (i, ch) :: rest, c =>
    if i = c then some ([], ch, rest)
    else match splitAtIdx rest c with
      | none => none
      | some (pre, x, post) => some ((i, ch) :: pre, x, post)

/-- `sortStaticChildren(i)`: `x` sits behind the (reversed) edges `revPre`; it moves in front of every directly
    preceding edge of strictly smaller priority -/
def bubble (x : Char × RTree V) : List (Char × RTree V) → List (Char × RTree V) → List (Char × RTree V)
  | [], post => x :: post
  | y :: revPre, post =>
    if x.2.priority > y.2.priority then bubble x revPre (y :: post)
    else (y :: revPre).reverse ++ x :: post

def isEscape (tok : List Char) : Bool :=
  match tok with
  | '\\' :: c :: _ => c = '*' || c = ':' || c = '\\'
  | _ => false

/-- `if len(n.values) == 0 { n.backtrackingEnabled = true }` -/
def touchBt (n : RTree V) : RTree V := if n.values.isEmpty then { n with bt := true } else n

/-- the end of `addNode` (`len(path) == 0`) followed by the tail of `Tree.Add` -/
def addLeaf (canAdd : List V → V → Bool) (v : V) (bt : Bool) (n : RTree V) (keys : List String) :
    Except AddErr (RTree V) :=
  if ¬ keys.isEmpty ∧ ¬ n.keys.isEmpty ∧ n.keys ≠ keys then .error .ambiguousKeys
  else if ¬ canAdd n.values v then .error .constraint
  else .ok { n with keys := if keys.isEmpty then n.keys else keys, bt := bt, values := n.values ++ [v] }

/-- the catch-all child `addNode` works on (created on demand with the given name) -/
def catchOf (n : RTree V) (name : List Char) : RTree V :=
  match n.catchAll with
  | some ca => ca
  | none => ⟨name, 0, [], none, none, [], [], false⟩

/-- `n` with its catch-all child replaced (`backtrackingEnabled` is touched when the child was created) -/
def setCatch (n ca' : RTree V) : RTree V :=
  match n.catchAll with
  | some _ => { n with catchAll := some ca' }
  | none => { touchBt n with catchAll := some ca' }

/-- `case '*'` of `addNode` (`path = '*' :: ptail`, reached with `!inStaticToken`) followed by the tail of
    `Tree.Add` on the catch-all child it returns -/
def addCatchAll (canAdd : List V → V → Bool) (v : V) (bt : Bool) (n : RTree V) (ptail : List Char)
    (keys : List String) : Except AddErr (RTree V) :=
  let ca := catchOf n (segOf ptail)
  let keys' := keys ++ [String.ofList (segOf ptail)]
  if ¬ (afterSeg ptail).isEmpty then .error .invalidPath
  else if ptail ≠ ca.path then .error .ambiguousKeys
  else if ¬ ca.keys.isEmpty ∧ ca.keys ≠ keys' then .error .ambiguousKeys
  else if ¬ canAdd ca.values v then .error .constraint
  else .ok (setCatch n { ca with keys := keys', bt := bt, values := ca.values ++ [v] })

/-- the wildcard child `addNode` descends into (created on demand) -/
def wildOf (n : RTree V) : RTree V :=
  match n.wild with
  | some w => w
  | none => ⟨"wildcard".toList, 0, [], none, none, [], [], false⟩

/-- `n` with its wildcard child replaced (`backtrackingEnabled` is touched when the child was created) -/
def setWild (n w' : RTree V) : RTree V :=
  match n.wild with
  | some _ => { n with wild := some w' }
  | none => { touchBt n with wild := some w' }

/-- the static token at the head of `token :: ptail`: its index byte, its text and the number of dropped bytes
    (1 for the backslash of an escaped `*`, `:` or `\` at the start of a token, else 0) -/
def staticTok (inStatic : Bool) (token : Char) (ptail : List Char) : Char × List Char × Nat :=
  let thisToken : List Char := if token = '/' then ['/'] else token :: segOf ptail
  if !inStatic && isEscape thisToken then ((thisToken.drop 1).headD token, thisToken.drop 1, 1)
  else (token, thisToken, 0)

/-- `remainingPath` -/
def remOf (token : Char) (ptail : List Char) : List Char := if token = '/' then ptail else afterSeg ptail

/-- `Tree.addNode` + the tail of `Tree.Add` applied to the node `addNode` returns.
    The recursion follows the Go code: into the wildcard child with the rest after the token, into the (possibly
    split) static child with the rest after the common prefix, into a fresh static child with the rest after the
    token.  Every step consumes at least one byte (for a static child because its index is the first byte of its
    path; a tree violating that makes the Go code loop, the model answers `invalidPath`). -/
def addNode (canAdd : List V → V → Bool) (v : V) (bt : Bool) (n : RTree V) (path : List Char)
    (keys : List String) (inStatic : Bool) : Except AddErr (RTree V) :=
  match path with
  | [] => addLeaf canAdd v bt n keys
  | token :: ptail =>
    if !inStatic && token = '*' then addCatchAll canAdd v bt n ptail keys
    else if !inStatic && token = ':' then
      match addNode canAdd v bt (wildOf n) (afterSeg ptail) (keys ++ [String.ofList (segOf ptail)]) false with
      | .error e => .error e
      | .ok w' => .ok (setWild n w')
    else
      let st := staticTok inStatic token ptail
      match splitAtIdx n.statics st.1 with
      | some (pre, child, post) =>
        let sp := splitCommonPrefix child st.2.1
        let child2 := { sp.1 with priority := sp.1.priority + 1 }
        let rest := (token :: ptail).drop (sp.2 + st.2.2)
        if _hs : ¬ rest.length < (token :: ptail).length then .error .invalidPath else
        match addNode canAdd v bt child2 rest keys (st.1 != '/') with
        | .error e => .error e
        | .ok child' => .ok { n with statics := bubble (st.1, child') pre.reverse post }
      | none =>
        match addNode canAdd v bt ⟨st.2.1, 0, [], none, none, [], [], false⟩ (remOf token ptail) keys
            (st.1 != '/') with
        | .error e => .error e
        | .ok child' => .ok { touchBt n with statics := n.statics ++ [(st.1, child')] }
termination_by path.length
decreasing_by
  · have := afterSeg_length_le ptail
    simp only [List.length_cons]; omega
  · exact Decidable.not_not.mp _hs
  · have := afterSeg_length_le ptail
    unfold remOf
    simp only [List.length_cons]; split <;> omega

/-- `Tree.Add(path, value, WithBacktracking(bt))` with the values constraint `canAdd` -/
def add (canAdd : List V → V → Bool) (t : RTree V) (expr : String) (v : V) (bt : Bool) :
    Except AddErr (RTree V) :=
  addNode canAdd v bt t expr.toList [] false

/-! ## Delete -/

/-- `delEdge` -/
def delEdge : List (Char × RTree V) → Char → List (Char × RTree V)
  | [], _ => []
  | (i, ch) :: rest, c => if i = c then rest else (i, ch) :: delEdge rest c

/-- in-place update of the child behind the first edge with index `c` -/
def setEdge : List (Char × RTree V) → Char → RTree V → List (Char × RTree V)
  | [], _, _ => []
  | (i, ch) :: rest, c, x => if i = c then (i, x) :: rest else (i, ch) :: setEdge rest c x

def hasNoChildren (t : RTree V) : Bool := t.statics.isEmpty && t.wild.isNone && t.catchAll.isNone

/-- the link of a node to one of its children -/
inductive Link where
  | static
  | wild
  | catchAll
deriving DecidableEq, Repr

/-- first half of `deleteChild`: a child with exactly one static edge, not a `/` edge, and a path other than `/`
    is replaced by that grandchild with the concatenated path -/
def mergeChild (child : RTree V) : RTree V × Bool :=
  match child.statics with
  | [(i, gc)] =>
    if i ≠ '/' ∧ child.path ≠ ['/'] then ({ gc with path := child.path ++ gc.path }, true) else (child, false)
  | _ => (child, false)

/-- `n.deleteChild(child, token)`, `child` (already updated by `delNode`) hanging on `link` -/
def deleteChild (n : RTree V) (link : Link) (child : RTree V) (token : Char) : RTree V :=
  let (c1, merged) := mergeChild child
  let n1 : RTree V := match link with
    | .static => { n with statics := setEdge n.statics token c1 }
    | .wild => { n with wild := some c1 }
    | .catchAll => { n with catchAll := some c1 }
  if merged && !c1.values.isEmpty then n1
  else if hasNoChildren c1 then
    match link, merged with
    | .wild, false => { n1 with wild := none }
    | .catchAll, false => { n1 with catchAll := none }
    | _, _ => { n1 with statics := delEdge n1.statics token }
  else n1

/-- `delNode` at the end of the path: drop the matching values; an emptied node forgets its wildcard names and
    allows backtracking; `none` when nothing was dropped -/
def delLeaf (p : V → Bool) (n : RTree V) : Option (RTree V) :=
  if n.values.isEmpty then none else
  let vs := n.values.filter (fun v => !p v)
  if vs.length = n.values.length then none
  else if vs.isEmpty then some { n with values := [], keys := [], bt := true }
  else some { n with values := vs }

/-- what `delNode` does with the updated child: `deleteChild` if it has no values left, else it stays -/
def finishChild (n : RTree V) (link : Link) (ch' : RTree V) (token : Char) : RTree V :=
  if ch'.values.isEmpty then deleteChild n link ch' token
  else match link with
    | .static => { n with statics := setEdge n.statics token ch' }
    | .wild => { n with wild := some ch' }
    | .catchAll => { n with catchAll := some ch' }

/-- the static token at the head of `token :: ptail` as `delNode` sees it: index byte and the path the child's
    path is compared with (without the backslash of an escaped `*`, `:` or `\\` at the start of a token) -/
def delTok (inStatic : Bool) (token : Char) (ptail : List Char) : Char × List Char :=
  if !inStatic && isEscape (token :: ptail) then (ptail.headD token, ptail) else (token, token :: ptail)

mutual
/-- `Tree.delNode`; `none` = `false` -/
def delNode (p : V → Bool) : RTree V → List Char → Bool → Option (RTree V)
  | n, [], _ => delLeaf p n
  | ⟨path, prio, statics, wild, catchAll, values, keys, bt⟩, token :: ptail, inStatic =>
    let n : RTree V := ⟨path, prio, statics, wild, catchAll, values, keys, bt⟩
    if !inStatic && token = ':' then
      (delWild p wild (afterSeg ptail)).map fun w' => finishChild n .wild w' token
    else if !inStatic && token = '*' then
      match catchAll with
      | none => none
      | some ca => (delLeaf p ca).map fun ca' => finishChild n .catchAll ca' token
    else
      (delStatic p statics (delTok inStatic token ptail).1 (delTok inStatic token ptail).2).map fun ch' =>
        finishChild n .static ch' (delTok inStatic token ptail).1
/-- the loop over `n.staticIndices` in `delNode`: the updated child behind the first edge with index `c` -/
def delStatic (p : V → Bool) : List (Char × RTree V) → Char → List Char → Option (RTree V)
  | [], _, _ => none
  | (i, ch) :: rest, c, cs =>
    if i = c then
      if ch.path.isPrefixOf cs then delNode p ch (cs.drop ch.path.length) (c != '/') else none
    else delStatic p rest c cs
/-- `case ':'` of `delNode`: into the wildcard child with whatever follows the token -/
def delWild (p : V → Bool) : Option (RTree V) → List Char → Option (RTree V)
  | none, _ => none
  | some w, cs => delNode p w cs false
end

/-- `Tree.Delete(path, matcher)`; `none` = `ErrFailedToDelete` -/
def delete (t : RTree V) (expr : String) (p : V → Bool) : Option (RTree V) := delNode p t expr.toList false

/-- `Tree.Clone`: a deep copy of a value that is never mutated -/
def clone (t : RTree V) : RTree V := t

/-- `Tree.Empty` -/
def isEmpty (t : RTree V) : Bool := t.values.isEmpty && hasNoChildren t

end RTree
end Heimdall
