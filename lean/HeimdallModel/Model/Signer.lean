/-!
# The JWT signer of the `jwt` finalizer (C16)

What `internal/keystore` (`createKeyStore` / `verifyAndBuildKeyStore` / `Entry.JWK`), `jwtSigner.load`,
`jwtSigner.Sign`, `jwtSigner.Keys`, `keyholder.registry.Keys` and the management JWKS handler do, with
cryptography kept opaque: a private key is a pair of a *public half* (`PubKey`: family, size and an identifier
standing for the modulus / curve point) and a *secret* (standing for `d`, `p`, `q`, ...).  A signature made with a
private key verifies exactly under that key's public half; this is the only fact about signatures that is used and it
is validated against go-jose by the correspondence check, not proved.

X.509 is opaque too: a PEM key block arrives with the certificate chain `FindChain` found for it and the verdicts of
`ValidateChain` and of the digital-signature usage check of `load` as booleans.
-/
namespace Heimdall.Signer

inductive Family where
  | rsa | ecdsa
deriving DecidableEq, Repr

/-- what `PrivateKey.Public()` returns -/
structure PubKey where
  family : Family
  bits   : Nat
  pid    : Nat
deriving DecidableEq, Repr

structure PrivKey where
  pub    : PubKey
  secret : Nat
deriving DecidableEq, Repr

/-- a certificate: an identity (stands for its DER bytes) and its subject key identifier in hex ("" = absent) -/
structure Cert where
  cid : Nat
  ski : String
deriving DecidableEq, Repr

/-- a private-key block of the PEM file together with what x509 says about the certificates of the same file -/
structure RawEntry where
  xkid       : String       -- the `X-Key-ID` PEM header, "" if absent
  key        : PrivKey
  chain      : List Cert    -- `FindChain`
  chainValid : Bool         -- `ValidateChain`
  signUsable : Bool         -- `pkix.ValidateCertificate(chain[0], KeyUsageDigitalSignature, now)`
deriving DecidableEq, Repr

/-- `keystore.Entry` -/
structure Entry where
  kid        : String
  key        : PrivKey
  chain      : List Cert
  signUsable : Bool
deriving DecidableEq, Repr

/-- the published description of a key: `jose.JSONWebKey` as `Entry.JWK` fills it -/
structure Jwk where
  kid   : String
  alg   : String
  use   : String
  pub   : PubKey
  certs : List Cert
deriving DecidableEq, Repr

/-! ## key size -> JOSE algorithm (`entry.go`) -/

def rsaTable : List (Nat × String) := [(2048, "PS256"), (3072, "PS384"), (4096, "PS512")]

def ecdsaTable : List (Nat × String) := [(256, "ES256"), (384, "ES384"), (521, "ES512")]

def tableLookup (t : List (Nat × String)) (bits : Nat) : Option String := (t.find? (fun e => e.1 = bits)).map (·.2)

/-- `getRSAAlgorithm` -/
def rsaAlg (bits : Nat) : Option String := tableLookup rsaTable bits

/-- `getECDSAAlgorithm` -/
def ecdsaAlg (bits : Nat) : Option String := tableLookup ecdsaTable bits

/-- `Entry.JOSEAlgorithm`; `none` is the panic for unsupported sizes, which `load` excludes with `CheckJOSESupport`
before it calls `JWK()` -/
def joseAlg (k : PubKey) : Option String :=
  match k.family with
  | .rsa => rsaAlg k.bits
  | .ecdsa => ecdsaAlg k.bits

/-! ## building the key store (`key_store.go`) -/

/-- stands for `hex(pkix.SubjectKeyID(pub))`, a function of the public half only -/
def autoKid (p : PubKey) : String := "auto:" ++ toString p.pid

/-- `generateKeyID`: the subject key identifier of the end-entity certificate, else the computed one -/
def genKid (e : RawEntry) : String :=
  match e.chain with
  | c :: _ => if c.ski = "" then autoKid e.key.pub else c.ski
  | [] => autoKid e.key.pub

def kidOf (e : RawEntry) : String := if e.xkid = "" then genKid e else e.xkid

/-- `verifyAndBuildKeyStore`: chains are validated, key ids generated, duplicate key ids rejected; `known` are the key
ids seen so far -/
def buildStore : List RawEntry → List String → Option (List Entry)
  | [], _ => some []
  | e :: rest, known =>
    if e.chain ≠ [] ∧ e.chainValid = false then none
    else if kidOf e ∈ known then none
    else (buildStore rest (kidOf e :: known)).map (fun es => ⟨kidOf e, e.key, e.chain, e.signUsable⟩ :: es)

/-- `Entry.JWK`: built from the public half; `none` is the panic of `JOSEAlgorithm` (never reached from `load`) -/
def Entry.jwk (e : Entry) : Option Jwk :=
  (joseAlg e.key.pub).map (fun a => ⟨e.kid, a, "sig", e.key.pub, e.chain⟩)

/-! ## `jwtSigner` -/

/-- the three fields guarded by `jwtSigner.mut` -/
structure State where
  jwk     : Jwk
  key     : PrivKey
  pubKeys : List Jwk
deriving DecidableEq, Repr

/-- `keystore.SelectKey`: `GetKey` with a configured key id, else the first entry; `none` is the error for an unknown
id (`ErrNoSuchKey`) resp. a store without entries (`ErrNoKeys`) -/
def selectEntry (keyID : String) (es : List Entry) : Option Entry :=
  if keyID = "" then es.head? else es.find? (fun e => e.kid = keyID)

/-- `Entry.CheckJOSESupport`: the key size has a JOSE algorithm -/
def Entry.supported (e : Entry) : Bool := (joseAlg e.key.pub).isSome

def allJwks : List Entry → Option (List Jwk)
  | [] => some []
  | e :: rest => match e.jwk, allJwks rest with
    | some j, some js => some (j :: js)
    | _, _ => none

/-- `jwtSigner.load` on a parsed PEM file; `none` = one of its errors, in every case nothing is written: the store
cannot be built (invalid chain, duplicate key id), no key can be selected (unknown key id, no entries), some entry has
an unsupported key size, the selected entry's certificate may not sign.  (After these checks `Entry.JWK` cannot fail;
the last `none` is unreachable: `Lemmas/SignerStore.lean: load_iff` lists everything a successful `load` needs.) -/
def load (keyID : String) (raw : List RawEntry) : Option State :=
  match buildStore raw [] with
  | none => none
  | some es =>
    match selectEntry keyID es with
    | none => none
    | some kse =>
      if es.all Entry.supported = false then none
      else if kse.chain ≠ [] ∧ kse.signUsable = false then none
      else match allJwks es, kse.jwk with
        | some keys, some jwk => some ⟨jwk, kse.key, keys⟩
        | _, _ => none

/-- a key store file: `none` when it cannot be read / parsed at all -/
abbrev File := Option (List RawEntry)

def loadFile (keyID : String) (f : File) : Option State := f.bind (load keyID)

/-- `OnChanged`: a failed reload is logged and leaves the previous generation in place -/
def reload (keyID : String) (st : State) (f : File) : State := (loadFile keyID f).getD st

/-! ## one key under several ids

A key store file may list the very same private key more than once under different `X-Key-ID`s (the name a key had
before a renaming and the new one; bundles concatenated from several sources).  `buildStore` makes an entry of every
listing: each can be selected through its id (`GetKey`), and each is published under its id (`Entries()`, over which
`load` collects the JWKs).  The variant below is NOT what the code does. -/

/-- each key material once: a JWK whose public half was listed before (`seen`) is left out -/
def distinctKeysFrom : List PubKey → List Jwk → List Jwk
  | _, [] => []
  | seen, j :: rest =>
    if j.pub ∈ seen then distinctKeysFrom seen rest else j :: distinctKeysFrom (j.pub :: seen) rest

def distinctKeys (js : List Jwk) : List Jwk := distinctKeysFrom [] js

/-- variant of `load` for a key store whose `Entries()` lists every key material once — under the first of its ids —
while `GetKey` still finds an entry under each id (seed s5/C16-a): selection, checks and active pair as in `load`, the
published list thinned out -/
def loadDistinct (keyID : String) (raw : List RawEntry) : Option State :=
  (load keyID raw).map (fun st => { st with pubKeys := distinctKeys st.pubKeys })

/-! ## claims (`Sign`) -/

/-- claim values: strings and integers written by `Sign`, a freshly drawn identifier (`uuid.New()`), or whatever the
claims template produced (`α`) -/
inductive CVal (α : Type) where
  | str (s : String)
  | num (i : Int)
  | fresh
  | other (a : α)
deriving DecidableEq, Repr

/-- a Go `map[string]any` given by its members in the order they were written: a later member replaces an earlier
one of the same name (this is also how a JSON object with a repeated name decodes into a Go map) -/
abbrev Claims (α : Type) := List (String × CVal α)

variable {α : Type}

/-- `m[k]`: the last member written under that name -/
def lookup (k : String) : Claims α → Option (CVal α)
  | [] => none
  | kv :: rest => (lookup k rest).or (if kv.1 = k then some kv.2 else none)

/-- `m[k] = v` -/
def put (k : String) (v : CVal α) (c : Claims α) : Claims α := c.filter (fun kv => kv.1 ≠ k) ++ [(k, v)]

/-- `maps.Merge(custom, dst)`: every top-level name of `custom` is written into `dst` (the destination never holds
maps when `Sign` merges, so the recursive case of `maps.Merge` does not arise) -/
def mergeInto (custom dst : Claims α) : Claims α := custom.foldl (fun acc kv => put kv.1 kv.2 acc) dst

inductive SysSrc where
  | exp | iat | nbf | iss | sub | jti
deriving DecidableEq, Repr

/-- the statements of `Sign` that touch the claims, in source order -/
inductive ClaimOp where
  | merge
  | set (name : String) (src : SysSrc)
deriving DecidableEq, Repr

/-- per call: subject id, configured issuer, the clock reading and the TTL in nanoseconds -/
structure SignIn where
  sub   : String
  iss   : String
  nowNs : Int
  ttlNs : Int
deriving DecidableEq, Repr

/-- `time.Time.Unix()` of an instant given in nanoseconds since the epoch -/
def unixSec (ns : Int) : Int := ns / 1000000000

def sysVal (i : SignIn) : SysSrc → CVal α
  | .exp => .num (unixSec (i.nowNs + i.ttlNs))
  | .iat => .num (unixSec i.nowNs)
  | .nbf => .num (unixSec i.nowNs)
  | .iss => .str i.iss
  | .sub => .str i.sub
  | .jti => .fresh

def runOp (custom : Claims α) (i : SignIn) (c : Claims α) : ClaimOp → Claims α
  | .merge => mergeInto custom c
  | .set k s => put k (sysVal i s) c

def runProgram (p : List ClaimOp) (custom : Claims α) (i : SignIn) : Claims α := p.foldl (runOp custom i) []

/-- `Sign`: merge the custom claims into the empty map, then write the system claims -/
def signProgram : List ClaimOp :=
  [.merge, .set "exp" .exp, .set "jti" .jti, .set "iat" .iat, .set "iss" .iss, .set "nbf" .nbf, .set "sub" .sub]

/-- a compact JWS as far as C16 looks at it: the protected header, who signed, the claims -/
structure Token (α : Type) where
  typ      : String
  kid      : String
  alg      : String
  signedBy : PrivKey
  claims   : Claims α

/-- the part of `Sign` after the read lock is released: header from the copied JWK, signature with the copied key -/
def signWith (jwk : Jwk) (key : PrivKey) (i : SignIn) (custom : Claims α) : Token α :=
  ⟨"JWT", jwk.kid, jwk.alg, key, runProgram signProgram custom i⟩

/-- `Sign`: JWK and key are those of the one generation read under the read lock -/
def sign (st : State) (i : SignIn) (custom : Claims α) : Token α := signWith st.jwk st.key i custom

/-! ## the finalizer around the signer (`newJWTFinalizer`, `WithConfig`, `Execute`) -/

/-- what a `jwtFinalizer` keeps besides its signer; `claims` identifies the claims template, if any -/
structure Finalizer where
  ttlNs      : Int
  claims     : Option Nat
  headerName : String
  scheme     : String
deriving DecidableEq, Repr

def defaultTtlNs : Int := 300000000000

/-- `validate:"omitempty,gt=1s"` -/
def ttlAccepted (ttl : Option Int) : Bool :=
  match ttl with
  | none => true
  | some t => decide (t > 1000000000)

/-- `newJWTFinalizer` as far as the configuration goes: default TTL 5 minutes, default header `Authorization: Bearer` -/
def Finalizer.create (ttl : Option Int) (claims : Option Nat) (header : Option (String × String)) : Option Finalizer :=
  if ttlAccepted ttl then
    some ⟨ttl.getD defaultTtlNs, claims, (header.map (·.1)).getD "Authorization", (header.map (·.2)).getD "Bearer"⟩
  else none

/-- `WithConfig`: a rule may replace TTL and claims template, nothing else; the signer is shared -/
def Finalizer.withConfig (f : Finalizer) (ttl : Option Int) (claims : Option Nat) : Option Finalizer :=
  if ttlAccepted ttl then some { f with ttlNs := ttl.getD f.ttlNs, claims := (claims.map some).getD f.claims }
  else none

/-- `newJWTSigner`: the issuer is the configured signer name, `heimdall` if none is configured -/
def issuerName (name : String) : String := if name = "" then "heimdall" else name

/-- the upstream header `Execute` sets -/
def Finalizer.headerValue (f : Finalizer) (token : String) : String × String := (f.headerName, f.scheme ++ " " ++ token)

/-! ## publication (`Keys`, `registry.Keys`, the JWKS handler) -/

/-- `registry.Keys`: the key holders' lists one after the other, in registration order -/
def published (holders : List State) : List Jwk := holders.flatMap (·.pubKeys)

/-- the member names go-jose writes for a JWK whose `Key` is a public key (empty members are omitted) -/
def jwkMembers (j : Jwk) : List String :=
  (match j.pub.family with
   | .rsa => ["kty", "n", "e"]
   | .ecdsa => ["kty", "crv", "x", "y"])
  ++ (if j.kid = "" then [] else ["kid"]) ++ (if j.alg = "" then [] else ["alg"])
  ++ (if j.use = "" then [] else ["use"]) ++ (if j.certs = [] then [] else ["x5c"])

end Heimdall.Signer
