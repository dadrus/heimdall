-- generated by tools/gen_root.py
import HeimdallModel.Base.GoRun
import HeimdallModel.Base.Path
import HeimdallModel.Base.UrlEscape
import HeimdallModel.Gen.AuthnSites
import HeimdallModel.Gen.CacheConsts
import HeimdallModel.Gen.CacheKeys
import HeimdallModel.Gen.CacheTTLSrc
import HeimdallModel.Gen.ClaimsSrc
import HeimdallModel.Gen.CompositeSrc
import HeimdallModel.Gen.ConfigSchema
import HeimdallModel.Gen.EntrySrc
import HeimdallModel.Gen.ErrMapGen
import HeimdallModel.Gen.ErrSwitchSrc
import HeimdallModel.Gen.Footprints
import HeimdallModel.Gen.JwtAlgs
import HeimdallModel.Gen.LoaderGuards
import HeimdallModel.Gen.MatcherSrc
import HeimdallModel.Gen.PathNormSrc
import HeimdallModel.Gen.ProvidersSrc
import HeimdallModel.Gen.RepoProtocol
import HeimdallModel.Gen.ReqView
import HeimdallModel.Gen.Signer
import HeimdallModel.Gen.TrustedSrc
import HeimdallModel.Lemmas.AsciiChars
import HeimdallModel.Lemmas.Authn
import HeimdallModel.Lemmas.Basic
import HeimdallModel.Lemmas.CacheExec
import HeimdallModel.Lemmas.CacheKey
import HeimdallModel.Lemmas.CacheReload
import HeimdallModel.Lemmas.CacheValidity
import HeimdallModel.Lemmas.Conc
import HeimdallModel.Lemmas.ConcLeak
import HeimdallModel.Lemmas.ConcLive
import HeimdallModel.Lemmas.ConcOwn
import HeimdallModel.Lemmas.Config
import HeimdallModel.Lemmas.ConfigLeaf
import HeimdallModel.Lemmas.ConfigName
import HeimdallModel.Lemmas.ConfigYaml
import HeimdallModel.Lemmas.EntryView
import HeimdallModel.Lemmas.ErrMap
import HeimdallModel.Lemmas.Factory
import HeimdallModel.Lemmas.FactoryCel
import HeimdallModel.Lemmas.FactoryOverride
import HeimdallModel.Lemmas.FactoryProbe
import HeimdallModel.Lemmas.HttpChain
import HeimdallModel.Lemmas.Inheritance
import HeimdallModel.Lemmas.Jwt
import HeimdallModel.Lemmas.JwtProcess
import HeimdallModel.Lemmas.JwtRegistered
import HeimdallModel.Lemmas.Loaders
import HeimdallModel.Lemmas.Matcher
import HeimdallModel.Lemmas.Mech
import HeimdallModel.Lemmas.MechClient
import HeimdallModel.Lemmas.MechHistory
import HeimdallModel.Lemmas.MechTemplate
import HeimdallModel.Lemmas.MechTypes
import HeimdallModel.Lemmas.Path
import HeimdallModel.Lemmas.Pipeline
import HeimdallModel.Lemmas.Providers
import HeimdallModel.Lemmas.ProvidersBlob
import HeimdallModel.Lemmas.ProvidersHist
import HeimdallModel.Lemmas.ProvidersK8s
import HeimdallModel.Lemmas.ProxyFwdHdr
import HeimdallModel.Lemmas.ProxyFwdList
import HeimdallModel.Lemmas.ProxyFwdMain
import HeimdallModel.Lemmas.ProxyFwdUrl
import HeimdallModel.Lemmas.RTreeAdd
import HeimdallModel.Lemmas.RTreeDel
import HeimdallModel.Lemmas.RTreeRefine
import HeimdallModel.Lemmas.RTreeSim
import HeimdallModel.Lemmas.RepoAdd
import HeimdallModel.Lemmas.RepoDel
import HeimdallModel.Lemmas.RepoInv
import HeimdallModel.Lemmas.RepoOps
import HeimdallModel.Lemmas.ReqView
import HeimdallModel.Lemmas.ReqViewAlike
import HeimdallModel.Lemmas.SignerCache
import HeimdallModel.Lemmas.SignerClaims
import HeimdallModel.Lemmas.SignerConc
import HeimdallModel.Lemmas.SignerStore
import HeimdallModel.Lemmas.SlashSetting
import HeimdallModel.Lemmas.Table
import HeimdallModel.Lemmas.Trie
import HeimdallModel.Lemmas.UpstreamUrl
import HeimdallModel.Lemmas.UrlEscape
import HeimdallModel.Model.Authn
import HeimdallModel.Model.AuthnSrc
import HeimdallModel.Model.AuthnWire
import HeimdallModel.Model.CacheExec
import HeimdallModel.Model.CacheFlow
import HeimdallModel.Model.CacheKey
import HeimdallModel.Model.CacheReload
import HeimdallModel.Model.CacheTTL
import HeimdallModel.Model.Conc
import HeimdallModel.Model.Config
import HeimdallModel.Model.ConfigLeaf
import HeimdallModel.Model.ConfigYaml
import HeimdallModel.Model.EntryPoints
import HeimdallModel.Model.EntryView
import HeimdallModel.Model.ErrMap
import HeimdallModel.Model.ErrMapSrc
import HeimdallModel.Model.Factory
import HeimdallModel.Model.FactoryCel
import HeimdallModel.Model.FactoryOverride
import HeimdallModel.Model.FactoryProbe
import HeimdallModel.Model.Footprint
import HeimdallModel.Model.HttpChain
import HeimdallModel.Model.HttpFreshness
import HeimdallModel.Model.Jwt
import HeimdallModel.Model.JwtProcess
import HeimdallModel.Model.JwtSrc
import HeimdallModel.Model.Loaders
import HeimdallModel.Model.Matcher
import HeimdallModel.Model.MatcherSrc
import HeimdallModel.Model.Mech
import HeimdallModel.Model.MechClient
import HeimdallModel.Model.MechTemplate
import HeimdallModel.Model.MechTypes
import HeimdallModel.Model.NetAddr
import HeimdallModel.Model.Pipeline
import HeimdallModel.Model.PipelineSrc
import HeimdallModel.Model.Providers
import HeimdallModel.Model.ProvidersSrc
import HeimdallModel.Model.ProxyFwd
import HeimdallModel.Model.RTree
import HeimdallModel.Model.Repo
import HeimdallModel.Model.RepoProtocol
import HeimdallModel.Model.ReqView
import HeimdallModel.Model.Sha256
import HeimdallModel.Model.Signer
import HeimdallModel.Model.SignerCache
import HeimdallModel.Model.SignerConc
import HeimdallModel.Model.SignerProtocol
import HeimdallModel.Model.SignerTime
import HeimdallModel.Model.Trie
import HeimdallModel.Model.TtlStore
import HeimdallModel.Model.UpstreamUrl
import HeimdallModel.Props.C01
import HeimdallModel.Props.C01Entry
import HeimdallModel.Props.C01Src
import HeimdallModel.Props.C02
import HeimdallModel.Props.C02Byte
import HeimdallModel.Props.C03
import HeimdallModel.Props.C03Src
import HeimdallModel.Props.C04
import HeimdallModel.Props.C04Src
import HeimdallModel.Props.C05
import HeimdallModel.Props.C05Src
import HeimdallModel.Props.C06
import HeimdallModel.Props.C07
import HeimdallModel.Props.C08
import HeimdallModel.Props.C08Src
import HeimdallModel.Props.C09
import HeimdallModel.Props.C09Src
import HeimdallModel.Props.C10
import HeimdallModel.Props.C10Src
import HeimdallModel.Props.C11
import HeimdallModel.Props.C12
import HeimdallModel.Props.C12Src
import HeimdallModel.Props.C13
import HeimdallModel.Props.C14
import HeimdallModel.Props.C15
import HeimdallModel.Props.C16
import HeimdallModel.Props.C17
import HeimdallModel.Props.C18
import HeimdallModel.Props.C18Src
import HeimdallModel.Props.C19
import HeimdallModel.Props.C20
import HeimdallModel.Spec.Authn
import HeimdallModel.Spec.CacheDeps
import HeimdallModel.Spec.CacheReuse
import HeimdallModel.Spec.CacheTTLBound
import HeimdallModel.Spec.CacheValidity
import HeimdallModel.Spec.CacheWitness
import HeimdallModel.Spec.Config
import HeimdallModel.Spec.ConfigLeaf
import HeimdallModel.Spec.ConfigSchema
import HeimdallModel.Spec.ConfigYaml
import HeimdallModel.Spec.Crash
import HeimdallModel.Spec.EntryView
import HeimdallModel.Spec.ErrMap
import HeimdallModel.Spec.ForwardedTrust
import HeimdallModel.Spec.Inheritance
import HeimdallModel.Spec.Jwt
import HeimdallModel.Spec.Lookup
import HeimdallModel.Spec.Overlay
import HeimdallModel.Spec.Pipeline
import HeimdallModel.Spec.Providers
import HeimdallModel.Spec.ProxyFwd
import HeimdallModel.Spec.Signer
import HeimdallModel.Spec.SignerCache
import HeimdallModel.Spec.SignerTime
import HeimdallModel.Spec.SlashSetting
